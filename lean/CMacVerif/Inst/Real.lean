import CMacVerif.Arith
import CMacVerif.Lemmas.RealArith
import Mathlib.Analysis.SpecialFunctions.Pow.Real
import Mathlib.Analysis.SpecialFunctions.Log.Basic
import Mathlib.Analysis.SpecialFunctions.Sqrt
/-! `ℝ` instance used by the theorems.  `x / 0 = 0`, `√x = 0` for `x < 0`, `log x = log |x|`:
theorems must carry the domain hypotheses under which these agree with IEEE (DESIGN §2.1). -/
namespace CMacVerif
noncomputable instance : ArithFns ℝ :=
  ⟨Real.sqrt, Real.rpow, Real.exp, Real.log, fun x => Real.log x / Real.log 10, fun x => |x|⟩

theorem amax_real (a b : ℝ) : amax a b = max a b := amax_eq a b

theorem amin_real (a b : ℝ) : amin a b = min a b := amin_eq a b
end CMacVerif
