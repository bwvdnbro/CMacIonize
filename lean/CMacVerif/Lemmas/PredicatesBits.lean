import CMacVerif.Util.Bits
import Mathlib.Algebra.Order.Field.Rat
import Mathlib.Tactic.Linarith
import Mathlib.Tactic.NormNum
import Mathlib.Tactic.Positivity

/-! What `Util.ratOfBits` returns for a finite pattern `n` (sign bit `n / 2^63`, biased exponent
`n / 2^52 % 2048`, mantissa field `n % 2^52`); the patterns with a value in [1,2) are those with
sign bit 0 and biased exponent 1023. -/
namespace CMacVerif.Predicates
open CMacVerif.Util

theorem ratOfBits_mag (mant : ℕ) (ex : ℤ) :
    (if ex ≥ 0 then ((mant * 2 ^ ex.toNat : ℕ) : ℚ) else mkRat mant (2 ^ (-ex).toNat)) =
      (mant : ℚ) * 2 ^ ex := by
  split_ifs with h
  · rw [Nat.cast_mul, Nat.cast_pow, Nat.cast_ofNat, ← zpow_natCast, Int.toNat_of_nonneg h]
  · rw [Rat.mkRat_eq_div, Nat.cast_pow, Nat.cast_ofNat, Int.cast_natCast, div_eq_mul_inv,
      ← zpow_natCast, ← zpow_neg, Int.toNat_of_nonneg (by omega), neg_neg]

/-- decoding of a finite pattern; `(M, k)` is the pair (mantissa with or without the hidden bit,
exponent) that `ratOfBits` selects -/
theorem ratOfBits_finite (n : ℕ) (he : n / 2 ^ 52 % 2048 ≠ 2047) (M : ℕ) (k : ℤ)
    (hMk : (if n / 2 ^ 52 % 2048 = 0 then (n % 2 ^ 52, (-1074 : ℤ))
      else (n % 2 ^ 52 + 2 ^ 52, ((n / 2 ^ 52 % 2048 : ℕ) : ℤ) - 1075)) = (M, k)) :
    ratOfBits n = some (if n / 2 ^ 63 = 1 then -((M : ℚ) * 2 ^ k) else M * 2 ^ k) := by
  unfold ratOfBits
  simp only [if_neg he, hMk, ratOfBits_mag]

theorem value_of_fields (n : ℕ) (hs : n / 2 ^ 63 ≠ 1) (he : n / 2 ^ 52 % 2048 = 1023) :
    ratOfBits n = some (1 + ((n % 2 ^ 52 : ℕ) : ℚ) / 2 ^ 52) := by
  rw [ratOfBits_finite n (by omega) (n % 2 ^ 52 + 2 ^ 52) (-52) (by rw [he]; rfl), if_neg hs]
  congr 1
  rw [zpow_neg, ← div_eq_mul_inv]
  push_cast
  rw [add_div, div_self (by positivity), add_comm]
  rfl

theorem exponent_of_range {s : Prop} [Decidable s] {M q : ℚ} {k : ℤ}
    (hq : (if s then -(M * 2 ^ k) else M * 2 ^ k) = q) (hM0 : 0 ≤ M) (hM : M < 2 ^ 53)
    (h1 : 1 ≤ q) : ¬ s ∧ -53 < k := by
  have hpos : 0 ≤ M * 2 ^ k := mul_nonneg hM0 (zpow_nonneg zero_le_two k)
  split_ifs at hq with hs
  · linarith
  · refine ⟨hs, ?_⟩
    by_contra hk
    have : M * 2 ^ k < 1 :=
      calc M * 2 ^ k ≤ M * 2 ^ (-53 : ℤ) :=
            mul_le_mul_of_nonneg_left (zpow_le_zpow_right₀ one_le_two (by omega)) hM0
        _ < 2 ^ 53 * 2 ^ (-53 : ℤ) := mul_lt_mul_of_pos_right hM (by positivity)
        _ = 1 := by norm_num
    linarith

theorem exponent_lt_of_lt_two {M : ℚ} {k : ℤ} (hM : 2 ^ 52 ≤ M) (h2 : M * 2 ^ k < 2) : k < -51 := by
  by_contra hk
  have : (2 : ℚ) ≤ M * 2 ^ k :=
    calc (2 : ℚ) = 2 ^ 52 * 2 ^ (-51 : ℤ) := by norm_num
      _ ≤ M * 2 ^ k := mul_le_mul hM (zpow_le_zpow_right₀ one_le_two (by omega)) (by positivity)
          ((by positivity : (0 : ℚ) ≤ 2 ^ 52).trans hM)
  linarith

theorem fields_of_range (n : ℕ) (q : ℚ) (h : ratOfBits n = some q) (h1 : 1 ≤ q) (h2 : q < 2) :
    n / 2 ^ 63 ≠ 1 ∧ n / 2 ^ 52 % 2048 = 1023 := by
  have hm : n % 2 ^ 52 < 2 ^ 52 := Nat.mod_lt _ (by norm_num)
  have he : n / 2 ^ 52 % 2048 ≠ 2047 := by
    intro he
    unfold ratOfBits at h
    simp only [he, if_true, reduceCtorEq] at h
  by_cases he0 : n / 2 ^ 52 % 2048 = 0
  · rw [ratOfBits_finite n he _ _ (if_pos he0)] at h
    have := (exponent_of_range (Option.some.inj h) (Nat.cast_nonneg _)
      (by exact_mod_cast hm.trans (by norm_num)) h1).2
    omega
  · rw [ratOfBits_finite n he _ _ (if_neg he0)] at h
    have hq := Option.some.inj h
    have hM : ((n % 2 ^ 52 + 2 ^ 52 : ℕ) : ℚ) < 2 ^ 53 := by
      exact_mod_cast (by omega : n % 2 ^ 52 + 2 ^ 52 < 2 ^ 53)
    have hM' : (2 : ℚ) ^ 52 ≤ ((n % 2 ^ 52 + 2 ^ 52 : ℕ) : ℚ) := by
      exact_mod_cast Nat.le_add_left _ _
    obtain ⟨hs, hk⟩ := exponent_of_range hq (Nat.cast_nonneg _) hM h1
    rw [if_neg hs] at hq
    have := exponent_lt_of_lt_two hM' (hq ▸ h2)
    exact ⟨hs, by omega⟩

theorem value_of_range (n : ℕ) (q : ℚ) (h : ratOfBits n = some q) (h1 : 1 ≤ q) (h2 : q < 2) :
    q = 1 + ((n % 2 ^ 52 : ℕ) : ℚ) / 2 ^ 52 := by
  obtain ⟨hs, he⟩ := fields_of_range n q h h1 h2
  rw [value_of_fields n hs he] at h
  exact (Option.some.inj h).symm

end CMacVerif.Predicates
