import CMacVerif.Model.Planck
import CMacVerif.Lemmas.Samplers
import Mathlib.Analysis.SpecialFunctions.Log.Base
/-!
# C18 — the tables built by the constructor of `PlanckPhotonSourceSpectrum` over ℝ

For every black-body temperature `T > 0` (and positive `h`, `k`): frequencies increase from 1 to 4,
every trapezoid increment is positive, so the cumulative table increases strictly from 0 to 1;
no increment exceeds 32 × the first one, so `cdf 1 ≥ 1/(32 (N-1))`, far above the `1e-10` floor
of the logarithmic table.  These are exactly the hypotheses of `C18.sample_in_range_planck`.
-/
-- the first section repeats the instance list of `Model/Planck.lean`; `pCumArr_size` needs neither order nor negation
set_option linter.unusedSectionVars false
namespace CMacVerif.Planck
open CMacVerif CMacVerif.Locate

/-! ### the driver's linear-time tabulation equals the model's tables (any arithmetic) -/
section
variable {α : Type} [Add α] [Sub α] [Mul α] [Div α] [Neg α] [LT α] [LE α]
  [DecidableLT α] [DecidableLE α] [OfScientific α] [ArithFns α]

theorem pCumArr_size (ofNat : Nat → α) (hP kB T : α) (N i : Nat) : (pCumArr ofNat hP kB T N i).size = i + 1 := by
  induction i with
  | zero => rfl
  | succ i ih => simp [pCumArr, ih]

theorem pCumArr_getD (ofNat : Nat → α) (hP kB T : α) (N i j : Nat) (h : j ≤ i) :
    (pCumArr ofNat hP kB T N i).getD j 0.0 = pCum ofNat hP kB T N j := by
  induction i generalizing j with
  | zero =>
    obtain rfl : j = 0 := by omega
    rfl
  | succ i ih =>
    rw [pCumArr, Array.getD_eq_getD_getElem?, Array.getElem?_push, pCumArr_size]
    split_ifs with hj
    · rw [hj, Option.getD_some, ih i le_rfl, pCum]
    · rw [← Array.getD_eq_getD_getElem?, ih j (by omega)]

theorem pCdfFast_eq (ofNat : Nat → α) (hP kB T : α) (N i : Nat) (hi : i ≤ N - 1) :
    pCdfFast (pCumArr ofNat hP kB T N (N - 1)) N i = pCdf ofNat hP kB T N i := by
  unfold pCdfFast pCdf
  rw [pCumArr_getD ofNat hP kB T N (N - 1) i hi, pCumArr_getD ofNat hP kB T N (N - 1) (N - 1) (Nat.le_refl _)]

theorem pLogCdfFast_eq (ofNat : Nat → α) (hP kB T : α) (N i : Nat) (hi : i ≤ N - 1) :
    pLogCdfFast (pCumArr ofNat hP kB T N (N - 1)) N i = pLogCdf ofNat hP kB T N i := by
  unfold pLogCdfFast pLogCdf
  rw [pCdfFast_eq ofNat hP kB T N i hi]
end


/-- the loop counter as a real number -/
abbrev rc : ℕ → ℝ := fun n => (n : ℝ)

section
variable {hP kB T : ℝ} {N : ℕ}

theorem pFreq_eq (i : ℕ) : pFreq rc N i = 1 + (i : ℝ) * (3 / ((N : ℝ) - 1)) := by
  unfold pFreq rc; rw [mul_div_assoc]; norm_num

theorem pFreq_zero : pFreq rc N 0 = 1 := by rw [pFreq_eq]; simp

theorem pFreq_step {i : ℕ} (hi : 1 ≤ i) : pFreq rc N i - pFreq rc N (i - 1) = 3 / ((N : ℝ) - 1) := by
  rw [pFreq_eq, pFreq_eq, Nat.cast_pred hi]; ring

/-- `exp(h f ν_min / (k T)) - 1` -/
noncomputable def bose (hP kB T f : ℝ) : ℝ := Real.exp (hP * f * 3.289e15 / (kB * T)) - 1

/-- photon-number density `L(f)/f` as the code computes it -/
theorem lum_div_eq {f : ℝ} (hf : 0 < f) : pLum hP kB T f / f = f * f / bose hP kB T f := by
  unfold pLum bose
  simp only [exp_real]
  rw [lit1]
  field_simp

theorem pInc_eq (i : ℕ) : pInc rc hP kB T N i =
    0.5 * (pLum hP kB T (pFreq rc N i) / pFreq rc N i + pLum hP kB T (pFreq rc N (i - 1)) / pFreq rc N (i - 1)) *
      (pFreq rc N i - pFreq rc N (i - 1)) := rfl

theorem pCum_zero : pCum rc hP kB T N 0 = 0 := by
  unfold pCum; norm_num

theorem pCum_succ (i : ℕ) : pCum rc hP kB T N (i + 1) = pCum rc hP kB T N i + pInc rc hP kB T N (i + 1) := rfl

/-- the guard of entry 0 is immaterial over ℝ: `pCum 0 = 0` -/
theorem pCdf_eq (i : ℕ) : pCdf rc hP kB T N i = pCum rc hP kB T N i / pCum rc hP kB T N (N - 1) := by
  unfold pCdf
  split_ifs with h
  · rw [h, pCum_zero, zero_div]; norm_num
  · rfl

theorem pCdf_zero : pCdf rc hP kB T N 0 = 0 := by rw [pCdf_eq, pCum_zero, zero_div]

/-- likewise: `log₁₀ (pFreq 0) = 0` -/
theorem pLogFreq_eq (i : ℕ) : pLogFreq rc N i = Real.log (pFreq rc N i) / Real.log 10 := by
  unfold pLogFreq
  split_ifs with h
  · rw [h, pFreq_zero, Real.log_one, zero_div]; norm_num
  · rfl

theorem pLogFreq_zero : pLogFreq rc N 0 = 0 := by rw [pLogFreq_eq, pFreq_zero, Real.log_one, zero_div]

theorem pLogCdf_zero : pLogCdf rc hP kB T N 0 = -10 := by
  unfold pLogCdf; simp; norm_num

theorem pLogCdf_of_pos {i : ℕ} (hi : 1 ≤ i) :
    pLogCdf rc hP kB T N i = Real.log (pCdf rc hP kB T N i) / Real.log 10 := by
  unfold pLogCdf; rw [if_neg (by omega)]; rfl

theorem log10_floor : Real.log (1e-10 : ℝ) / Real.log 10 = -10 := by
  rw [show (1e-10 : ℝ) = ((10 : ℝ) ^ 10)⁻¹ by norm_num, Real.log_inv, Real.log_pow]
  have := (Real.log_pos (by norm_num : (1 : ℝ) < 10)).ne'
  field_simp
  norm_num

section
variable (hN : 2 ≤ N)
include hN

theorem natCast_sub_one_pos : (0 : ℝ) < (N : ℝ) - 1 :=
  sub_pos.2 (Nat.one_lt_cast.2 hN)

theorem pFreq_step_pos : (0 : ℝ) < 3 / ((N : ℝ) - 1) :=
  div_pos (by norm_num) (natCast_sub_one_pos hN)

theorem pFreq_le {i j : ℕ} (h : i ≤ j) : pFreq rc N i ≤ pFreq rc N j := by
  rw [pFreq_eq, pFreq_eq]
  exact add_le_add_right (mul_le_mul_of_nonneg_right (Nat.cast_le.2 h) (pFreq_step_pos hN).le) 1

theorem pFreq_ge_one (i : ℕ) : 1 ≤ pFreq rc N i := by
  rw [← pFreq_zero (N := N)]; exact pFreq_le hN (Nat.zero_le _)

theorem pFreq_last : pFreq rc N (N - 1) = 4 := by
  rw [pFreq_eq, Nat.cast_pred (by omega), mul_div_cancel₀ _ (natCast_sub_one_pos hN).ne']
  norm_num

theorem pFreq_le_four {i : ℕ} (h : i ≤ N - 1) : pFreq rc N i ≤ 4 := by
  rw [← pFreq_last hN]; exact pFreq_le hN h

theorem pLogFreq_mono {i j : ℕ} (h : i ≤ j) : pLogFreq rc N i ≤ pLogFreq rc N j := by
  rw [pLogFreq_eq, pLogFreq_eq]
  exact log10_le (lt_of_lt_of_le one_pos (pFreq_ge_one hN i)) (pFreq_le hN h)

theorem pLogFreq_last : (10 : ℝ) ^ pLogFreq rc N (N - 1) = 4 := by
  rw [pLogFreq_eq, pFreq_last hN]
  have : Real.log 4 / Real.log 10 = Real.logb 10 4 := rfl
  rw [this, Real.rpow_logb (by norm_num) (by norm_num) (by norm_num)]

end

variable (hh : 0 < hP) (hk : 0 < kB) (hT : 0 < T)
include hh hk hT

theorem bose_pos {f : ℝ} (hf : 0 < f) : 0 < bose hP kB T f :=
  sub_pos.2 (Real.one_lt_exp_iff.2 (by positivity))

theorem bose_mono {f g : ℝ} (hfg : f ≤ g) : bose hP kB T f ≤ bose hP kB T g := by
  unfold bose
  have : hP * f * 3.289e15 / (kB * T) ≤ hP * g * 3.289e15 / (kB * T) :=
    div_le_div_of_nonneg_right
      (mul_le_mul_of_nonneg_right (mul_le_mul_of_nonneg_left hfg hh.le) (by norm_num)) (by positivity)
  exact sub_le_sub_right (Real.exp_le_exp.mpr this) 1

theorem lum_div_pos {f : ℝ} (hf : 0 < f) : 0 < pLum hP kB T f / f := by
  rw [lum_div_eq hf]; exact div_pos (mul_pos hf hf) (bose_pos hh hk hT hf)

/-- `f² ≤ 16` on `[1, 4]` and the denominator increases -/
theorem lum_div_le {f : ℝ} (h1 : 1 ≤ f) (h4 : f ≤ 4) : pLum hP kB T f / f ≤ 16 * (pLum hP kB T 1 / 1) := by
  rw [lum_div_eq (one_pos.trans_le h1), lum_div_eq one_pos, mul_one, mul_one_div]
  exact div_le_div₀ (by norm_num) ((mul_le_mul h4 h4 (zero_le_one.trans h1) (by norm_num)).trans (by norm_num))
    (bose_pos hh hk hT one_pos) (bose_mono hh hk hT h1)

variable (hN : 2 ≤ N)
include hN

theorem pInc_pos {i : ℕ} (hi : 1 ≤ i) : 0 < pInc rc hP kB T N i := by
  rw [pInc_eq, pFreq_step hi]
  have a := lum_div_pos hh hk hT (lt_of_lt_of_le one_pos (pFreq_ge_one hN i))
  have b := lum_div_pos hh hk hT (lt_of_lt_of_le one_pos (pFreq_ge_one hN (i - 1)))
  exact mul_pos (mul_pos (by norm_num) (add_pos a b)) (pFreq_step_pos hN)

theorem pInc_le_first {i : ℕ} (hi : 1 ≤ i) (hiN : i ≤ N - 1) :
    pInc rc hP kB T N i ≤ 32 * pInc rc hP kB T N 1 := by
  rw [pInc_eq, pInc_eq, pFreq_step hi, pFreq_step le_rfl, show pFreq rc N (1 - 1) = 1 from pFreq_zero]
  have a := lum_div_le hh hk hT (pFreq_ge_one hN i) (pFreq_le_four hN hiN)
  have b := lum_div_le hh hk hT (pFreq_ge_one hN (i - 1)) (pFreq_le_four hN (by omega : i - 1 ≤ N - 1))
  have c := lum_div_pos hh hk hT (lt_of_lt_of_le one_pos (pFreq_ge_one hN 1))
  rw [← mul_assoc, ← mul_assoc, mul_comm 32 (0.5 : ℝ), mul_assoc (0.5 : ℝ) 32]
  refine mul_le_mul_of_nonneg_right (mul_le_mul_of_nonneg_left ?_ (by norm_num)) (pFreq_step_pos hN).le
  calc _ ≤ 16 * (pLum hP kB T 1 / 1) + 16 * (pLum hP kB T 1 / 1) := add_le_add a b
    _ = 32 * (pLum hP kB T 1 / 1) := by rw [← add_mul]; norm_num
    _ ≤ _ := mul_le_mul_of_nonneg_left (le_add_of_nonneg_left c.le) (by norm_num)

theorem pCum_strictMono : StrictMono (pCum rc hP kB T N) :=
  strictMono_nat_of_lt_succ fun i => by
    rw [pCum_succ]; exact lt_add_of_pos_right _ (pInc_pos hh hk hT hN (Nat.le_add_left 1 i))

theorem pCum_pos {i : ℕ} (hi : 1 ≤ i) : 0 < pCum rc hP kB T N i :=
  pCum_zero.symm.trans_lt (pCum_strictMono hh hk hT hN hi)

theorem pCum_le {i : ℕ} (hiN : i ≤ N - 1) : pCum rc hP kB T N i ≤ 32 * (i : ℝ) * pInc rc hP kB T N 1 := by
  induction i with
  | zero => rw [pCum_zero]; simp
  | succ i ih =>
    rw [pCum_succ]
    refine (add_le_add (ih (by omega)) (pInc_le_first hh hk hT hN (Nat.le_add_left 1 i) hiN)).trans_eq ?_
    push_cast
    ring

theorem pCdf_last : pCdf rc hP kB T N (N - 1) = 1 := by
  rw [pCdf_eq]
  exact div_self (pCum_pos hh hk hT hN (by omega)).ne'

theorem pCdf_strictMono : StrictMono (pCdf rc hP kB T N) := fun i j h => by
  rw [pCdf_eq, pCdf_eq]
  exact div_lt_div_of_pos_right (pCum_strictMono hh hk hT hN h) (pCum_pos hh hk hT hN (by omega))

theorem pCdf_pos {i : ℕ} (hi : 1 ≤ i) : 0 < pCdf rc hP kB T N i :=
  pCdf_zero.symm.trans_lt (pCdf_strictMono hh hk hT hN hi)

theorem pCdf_one_ge : 1 / (32 * ((N : ℝ) - 1)) ≤ pCdf rc hP kB T N 1 := by
  have p1 := pInc_pos hh hk hT hN (le_refl 1)
  have tot := pCum_le hh hk hT hN (le_refl (N - 1))
  rw [Nat.cast_pred (by omega)] at tot
  rw [pCdf_eq, pCum_succ, pCum_zero, zero_add]
  calc 1 / (32 * ((N : ℝ) - 1)) = pInc rc hP kB T N 1 / (32 * ((N : ℝ) - 1) * pInc rc hP kB T N 1) := by
        have := natCast_sub_one_pos hN
        field_simp
    _ ≤ _ := div_le_div_of_nonneg_left p1.le (pCum_pos hh hk hT hN (by omega)) tot

/-- the floor of the logarithmic table lies below its second entry (`32 (N-1) < 10¹⁰`: the bound on `N`) -/
theorem pLogCdf_first (hNb : N ≤ 100000000) : pLogCdf rc hP kB T N 0 < pLogCdf rc hP kB T N 1 := by
  rw [pLogCdf_zero, pLogCdf_of_pos le_rfl, ← log10_floor]
  refine log10_lt (by norm_num) (lt_of_lt_of_le ?_ (pCdf_one_ge hh hk hT hN))
  have hb : (N : ℝ) - 1 < 100000000 := (sub_one_lt _).trans_le (by exact_mod_cast hNb)
  rw [lt_div_iff₀ (mul_pos (by norm_num) (natCast_sub_one_pos hN))]
  exact (mul_lt_mul_of_pos_left (mul_lt_mul_of_pos_left hb (by norm_num)) (by norm_num)).trans_le (by norm_num)

end
end CMacVerif.Planck
