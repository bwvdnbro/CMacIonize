import CMacVerif.Lemmas.PhotonTrav
/-! C01: the cached "largest active buffer" of a subgrid (`_largest_buffer_index/_size`) always
describes a real, largest active buffer: the invariant `Cache` and its preservation by every label
(the consequences for the premature launch are `premature_safe` and `no_stuck_of`). -/
namespace CMacVerif.Photon

theorem bufLen_congr {p q : Nat → Option Buf} {a : Nat} (h : p a = q a) : bufLen p a = bufLen q a := by
  rw [bufLen, h]; rfl

/-- `l` = (index, size) is a largest among the active buffers of the directions below n -/
structure LargestBelow (s : State) (g : Nat) (l : Nat × Nat) (n : Nat) : Prop where
  bound : ∀ d a, d < n → s.active g d = some a → bufLen s.pool a ≤ l.2
  empty : l.1 = NDIR → l.2 = 0
  attained : l.1 ≠ NDIR → l.1 < n ∧ ∃ a, s.active g l.1 = some a ∧ bufLen s.pool a = l.2

theorem LargestBelow.zero (s : State) (g : Nat) : LargestBelow s g (NDIR, 0) 0 :=
  ⟨fun _ _ hd => (nomatch hd), fun _ => rfl, fun h => absurd rfl h⟩

theorem LargestBelow.keep {s : State} {g n : Nat} {l : Nat × Nat} (h : LargestBelow s g l n)
    (hn : ∀ a, s.active g n = some a → bufLen s.pool a ≤ l.2) : LargestBelow s g l (n + 1) := by
  refine ⟨fun d a hd hda => ?_, h.empty, fun hne => (h.attained hne).imp_left Nat.lt_succ_of_lt⟩
  rcases Nat.lt_succ_iff_lt_or_eq.mp hd with hd | rfl
  · exact h.bound d a hd hda
  · exact hn a hda

theorem LargestBelow.succ {s : State} {g n b : Nat} {l : Nat × Nat} (h : LargestBelow s g l n) (hn : n ≠ NDIR)
    (hb : s.active g n = some b) :
    LargestBelow s g (if l.2 < bufLen s.pool b then (n, bufLen s.pool b) else l) (n + 1) := by
  split
  · next hlt =>
    refine ⟨fun d a hd hda => ?_, fun e => absurd e hn, fun _ => ⟨Nat.lt_succ_self n, b, hb, rfl⟩⟩
    rcases Nat.lt_succ_iff_lt_or_eq.mp hd with hd | rfl
    · exact Nat.le_trans (h.bound d a hd hda) (Nat.le_of_lt hlt)
    · rw [hb] at hda; cases hda; exact Nat.le_refl _
  · next hlt => exact h.keep fun a ha => by rw [hb] at ha; cases ha; exact Nat.le_of_not_lt hlt

theorem LargestBelow.frame {s s' : State} {g n : Nat} {l : Nat × Nat} (h : LargestBelow s g l n)
    (ha : ∀ d, d < n → s'.active g d = s.active g d)
    (hp : ∀ d a, d < n → s.active g d = some a → s'.pool a = s.pool a) : LargestBelow s' g l n := by
  refine ⟨fun d a hd hda => ?_, h.empty, fun hne => ?_⟩
  · rw [ha d hd] at hda; rw [bufLen_congr (hp d a hd hda)]; exact h.bound d a hd hda
  · obtain ⟨hl, a, h1, h2⟩ := h.attained hne
    exact ⟨hl, a, (ha _ hl).trans h1, (bufLen_congr (hp _ a hl h1)).trans h2⟩

/-- the cache of subgrid g is consistent with its active buffers -/
def CacheOK (s : State) (g : Nat) : Prop := LargestBelow s g (s.largest g) NDIR

structure Cache (s : State) : Prop where
  ok : ∀ g, CacheOK s g
  range : ∀ g d a, s.active g d = some a → d < NDIR

theorem cacheOK_of_part {s : State} {g : Nat} {l : Nat × Nat} (hl : s.largest g = l) (h : LargestBelow s g l NDIR) :
    CacheOK s g := by
  rw [CacheOK, hl]; exact h

theorem cache_frame {s s' : State} {g : Nat} (h : CacheOK s g) (hl : s'.largest g = s.largest g)
    (ha : ∀ d, s'.active g d = s.active g d)
    (hp : ∀ d a, s.active g d = some a → s'.pool a = s.pool a) : CacheOK s' g :=
  cacheOK_of_part hl (LargestBelow.frame h (fun d _ => ha d) fun d a _ => hp d a)

theorem cache_keep {s s' : State} (hc : Cache s) (hl : s'.largest = s.largest) (ha : s'.active = s.active)
    (hp : ∀ {g d a}, s.active g d = some a → s'.pool a = s.pool a) : Cache s' :=
  ⟨fun g => cache_frame (hc.ok g) (congrFun hl g) (fun d => by rw [ha]) fun _ _ => hp,
    fun g d a h => hc.range g d a (ha ▸ h)⟩

theorem recompute_spec (s : State) (g : Nat) : LargestBelow s g (recomputeLargest s g) NDIR := by
  suffices ∀ n, n ≤ NDIR → LargestBelow s g ((List.range n).foldl _ (NDIR, 0)) n from this NDIR (Nat.le_refl _)
  intro n hn
  induction n with
  | zero => exact LargestBelow.zero s g
  | succ n ih =>
    have h := ih (Nat.le_of_succ_le hn)
    rw [List.range_succ, List.foldl_append, List.foldl_cons, List.foldl_nil]
    split
    · next b hb => exact h.succ (Nat.ne_of_lt hn) hb
    · next hb => exact h.keep fun a ha => by rw [hb] at ha; cases ha

theorem cache_premature {cfg : Cfg} {s s' : State} {g t' : Nat} (hc : Cache s)
    (h : step cfg s (.premature g t') = some s') : Cache s' := by
  obtain ⟨_, rfl, -⟩ := step_premature h
  have hr : ∀ g' d a, upd2 s.active g (s.largest g).1 none g' d = some a → d < NDIR := by
    intro g' d a hda
    by_cases e : g' = g ∧ d = (s.largest g).1
    · rw [e.1, e.2, upd2_same] at hda; cases hda
    · rw [upd2_other _ _ _ _ e] at hda; exact hc.range g' d a hda
  refine ⟨fun g' => ?_, hr⟩
  by_cases e : g' = g
  · subst e
    exact cacheOK_of_part (upd_same _ _ _) (recompute_spec _ g')
  · exact cache_frame (hc.ok g') (upd_other _ _ _ e) (fun d => upd2_other _ _ _ _ fun h => e h.1) fun _ _ _ => rfl

theorem DirFrame.pool_other {cfg : Cfg} {s s1 : State} {g i : Nat} (hF : DirFrame s s1 g i) (hi : Inv cfg s)
    {g' j a : Nat} (hne : ¬(g' = g ∧ j = i)) (h : s.active g' j = some a) : s1.pool a = s.pool a := by
  obtain ⟨buf, hp, _⟩ := hi.own.live (.act g' j) a h
  exact hF.poolKeep a (by simp [hp]) fun e => hne (Ref.act.inj (hi.own.uniq (.act g' j) (.act g i) a h e))

/-- invariant of the loop over the output directions of subgrid g, before direction n -/
structure TravCache (cfg : Cfg) (g n : Nat) (acc : State × Nat × Nat) : Prop where
  inv : Inv cfg acc.1
  others : ∀ g', g' ≠ g → CacheOK acc.1 g'
  range : ∀ g' d a, acc.1.active g' d = some a → d < NDIR
  part : LargestBelow acc.1 g acc.2 n

theorem TravCache.step {cfg : Cfg} {g n : Nat} {L : List Nat} {r : DirRes} {acc : State × Nat × Nat} {s1 : State}
    (hc : TravCache cfg g n acc) (hL : L.length ≤ BUFSZ) (hn : n < NDIR)
    (hs1 : travDirState cfg g L r n acc.1 = some s1) :
    TravCache cfg g (n + 1) (s1, travLargest cfg g n s1 acc.2.1 acc.2.2) := by
  have hF := travDirState_frame hs1
  have hi1 := (travDirState_inv hc.inv hL hs1).1
  have hp : LargestBelow s1 g acc.2 n := hc.part.frame (fun d hd => hF.actKeep g d fun e => Nat.ne_of_lt hd e.2)
    fun d a hd hda => hF.pool_other hc.inv (fun e => Nat.ne_of_lt hd e.2) hda
  refine ⟨hi1, fun g' hg' => ?_, fun g' d a hda => ?_, ?_⟩
  · exact cache_frame (hc.others g' hg') (congrFun hF.rest.largest g') (fun d => hF.actKeep g' d fun e => hg' e.1)
      fun d a hda => hF.pool_other hc.inv (fun e => hg' e.1) hda
  · by_cases e : g' = g ∧ d = n
    · rw [e.2]; exact hn
    · rw [hF.actKeep g' d e] at hda; exact hc.range g' d a hda
  · unfold travLargest
    split
    · next ng b hng hb => exact hp.succ (Nat.ne_of_lt hn) hb
    · next hno =>
      -- an active buffer of direction n has a neighbour to go to
      refine hp.keep fun a ha => ?_
      obtain ⟨_, _, hok⟩ := hi1.own.live (.act g n) a ha
      obtain ⟨ng, hng⟩ := Option.isSome_iff_exists.mp hok.2.2
      exact (hno ng a hng ha).elim

theorem TravCache.fold {cfg : Cfg} {g : Nat} {outs : Nat → List Nat} {res : Nat → DirRes}
    (houts : ∀ i, (outs i).length ≤ BUFSZ) :
    ∀ (m n : Nat) {acc acc' : State × Nat × Nat}, n + m ≤ NDIR →
      foldOpt (travDir cfg g outs res) acc (List.range' n m) = some acc' → TravCache cfg g n acc →
      TravCache cfg g (n + m) acc'
  | 0, _, _, _, _, h, hc => by cases h; exact hc
  | m + 1, n, _, _, hn, h, hc => by
    obtain ⟨s1, hs1, h'⟩ := travFold_cons h
    have := TravCache.fold houts m (n + 1) (by omega) h' (hc.step (houts n) (by omega) hs1)
    rwa [Nat.add_right_comm] at this

theorem cache_execTraverse {cfg : Cfg} {s s' : State} {t : Nat} {fates : List Nat} {res : List DirRes} (hi : Inv cfg s)
    (hc : Cache s) (h : step cfg s (.execTraverse t fates res) = some s') : Cache s' := by
  have hi' := (inv_execTraverse hi h).1
  obtain ⟨b0, buf, s1, li, ls, hk, hb, _, _, hfold, rfl⟩ := step_execTraverse h
  have hok0 := hi.taskBuf hk rfl hb
  rw [List.range_eq_range'] at hfold
  obtain ⟨_, hc1, hr1, hp1⟩ := TravCache.fold (outsOf_le cfg buf.sub fates hok0.2) NDIR 0 (Nat.le_refl _) hfold
    ⟨hi, fun g' _ => hc.ok g', hc.range, LargestBelow.zero s buf.sub⟩
  have hpool : ∀ g' d a, s1.active g' d = some a → upd s1.pool b0 none a = s1.pool a :=
    fun g' d a hda => upd_other _ _ _ (active_ne_free hi' hda (upd_same _ _ _))
  refine ⟨fun g' => ?_, hr1⟩
  by_cases e : g' = buf.sub
  · subst e
    exact cacheOK_of_part (upd_same _ _ _) (hp1.frame (fun _ _ => rfl) fun d a _ => hpool _ d a)
  · exact cache_frame (hc1 g' e) (upd_other _ _ _ e) (fun _ => rfl) (hpool g')

theorem cache_step {cfg : Cfg} {s s' : State} (l : Label) (hi : Inv cfg s) (hc : Cache s)
    (h : step cfg s l = some s') : Cache s' := by
  cases l with
  | launchBatch => obtain ⟨rfl, -⟩ := step_launchBatch h; exact cache_keep hc rfl rfl fun _ => rfl
  | launchCont => obtain ⟨rfl, -⟩ := step_launchCont h; exact cache_keep hc rfl rfl fun _ => rfl
  | acquire => obtain ⟨_, _, _, rfl⟩ := step_acquire h; exact cache_keep hc rfl rfl fun _ => rfl
  | enqueue => obtain ⟨_, _, rfl⟩ := step_enqueue h; exact cache_keep hc rfl rfl fun _ => rfl
  | execSource =>
    obtain ⟨_, _, rfl, _, _, hpb, -⟩ := step_execSource h
    exact cache_keep hc rfl rfl fun ha => upd_other _ _ _ (active_ne_free hi ha hpb)
  | contGen =>
    obtain ⟨_, _, _, rfl, -⟩ := step_contGen h; exact cache_keep hc rfl rfl fun _ => rfl
  | contOverflow t g b t' | flushOne t g b t' =>
    obtain ⟨_, _, rfl, _, _, _, _, hpb, -⟩ := step_sendOff t g b t' (by simp) h
    exact cache_keep hc rfl rfl fun ha => upd_other _ _ _ (active_ne_free hi ha hpb)
  | contFinish =>
    obtain ⟨_, _, s2, _, _, _, rfl, hfr, _⟩ := step_contFinish h
    exact cache_keep hc hfr.rest.largest hfr.active fun _ => by rw [hfr.pool]
  | flushFinish => obtain ⟨_, _, _, rfl⟩ := step_flushFinish h; exact cache_keep hc rfl rfl fun _ => rfl
  | execTraverse => exact cache_execTraverse hi hc h
  | execReemit =>
    obtain ⟨_, _, hk, _, _, hcase⟩ := step_execReemit h
    rcases hcase with ⟨_, rfl⟩ | ⟨_, _, _, rfl⟩ <;>
      exact cache_keep hc rfl rfl fun ha => upd_other _ _ _ (active_ne_task hi ha (refBuf_task_some hk))
  | premature => exact cache_premature hc h
  | checkTermination => obtain ⟨_, _, rfl⟩ := step_checkTermination h; exact cache_keep hc rfl rfl fun _ => rfl

theorem cache_init (srcIds : Nat → List Nat) (contIds : List Nat) : Cache (init srcIds contIds) :=
  ⟨fun _ => ⟨fun _ _ _ h => (nomatch h), fun _ => rfl, fun h => absurd rfl h⟩, fun _ _ _ h => nomatch h⟩

end CMacVerif.Photon
