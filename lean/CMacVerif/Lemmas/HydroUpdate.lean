import CMacVerif.Model.HydroUpdate
import CMacVerif.Inst.Real
import CMacVerif.Lemmas.RealArith
import Mathlib.Tactic.Ring
import Mathlib.Tactic.Linarith
import Mathlib.Tactic.FieldSimp
import Mathlib.Tactic.NormNum
import Mathlib.Tactic.Positivity
/-! The cell-level hydro update at `ℝ` (C04): gradient updates commute; the clamps give non-negative values;
the flux limiter is one factor in `[0, 1]`; `Hydro::limit` is an odd function that clips to an interval round
the own cell value; `apply_slope_limiter` bounds every extrapolation to a face. -/
namespace CMacVerif.HydroUpdate
open CMacVerif CMacVerif.RiemannVacuum
open CMacVerif.HydroGraph (Axis)

theorem Q.sub_sub_comm (a k k' : Q ℝ) : (a.sub k').sub k = (a.sub k).sub k' := by
  ext <;> simp only [Q.sub, V3.sub] <;> ring

theorem Q.sub_add_comm (a k k' : Q ℝ) : (a.add k').sub k = (a.sub k).add k' := by
  ext <;> simp only [Q.sub, Q.add, V3.sub, V3.add] <;> ring

theorem Q.add_add_comm (a k k' : Q ℝ) : (a.add k').add k = (a.add k).add k' := by
  ext <;> simp only [Q.add, V3.add] <;> ring

theorem Q.min_min_comm (a W W' : Q ℝ) : (a.min W').min W = (a.min W).min W' := by
  ext <;> simp only [Q.min, amin_real] <;> exact min_right_comm _ _ _

theorem Q.max_max_comm (a W W' : Q ℝ) : (a.max W').max W = (a.max W).max W' := by
  ext <;> simp only [Q.max, amax_real] <;> exact max_right_comm _ _ _

theorem V3'.get_set_self {α : Type} (v : V3 α) (i : Axis) (a : α) :
    V3'.get (V3'.set v i a) i = a := by
  cases i <;> rfl

theorem V3'.get_set_of_ne {α : Type} (v : V3 α) {i j : Axis} (h : j ≠ i) (a : α) :
    V3'.get (V3'.set v i a) j = V3'.get v j := by
  cases i <;> cases j <;> first | rfl | exact absurd rfl h

theorem Grad.zero_along (i : Axis) : (Grad.zero : Grad ℝ).along i = ⟨0, ⟨0, 0, 0⟩, 0⟩ := by
  cases i <;> simp only [Grad.along, Grad.zero, V3'.get, V3.zero, lit0]

theorem Grad.along_setAlong_self {α : Type} (G : Grad α) (i : Axis) (q : Q α) : (G.setAlong i q).along i = q := by
  cases i <;> rfl

theorem Grad.along_setAlong_of_ne {α : Type} (G : Grad α) {i j : Axis} (h : i ≠ j) (q : Q α) :
    (G.setAlong j q).along i = G.along i := by
  cases i <;> cases j <;> first | rfl | exact absurd rfl h

theorem Grad.setAlong_setAlong_self {α : Type} (G : Grad α) (i : Axis) (q q' : Q α) :
    (G.setAlong i q).setAlong i q' = G.setAlong i q' := by
  cases i <;> rfl

theorem Grad.setAlong_comm {α : Type} (G : Grad α) {i j : Axis} (h : i ≠ j) (q q' : Q α) :
    (G.setAlong j q).setAlong i q' = (G.setAlong i q').setAlong j q := by
  cases i <;> cases j <;> first | rfl | exact absurd rfl h

/-- the common shape of `gradAddLeft i h k W` (`= gradUpd i (·.add k) W h`) and `gradSubRight i h k W`
(`= gradUpd i (·.sub k) W h`), both by `rfl`: `f` acts on the gradient components along `i`, the
primitives `W` of the other cell are folded into the limiters -/
noncomputable def gradUpd (i : Axis) (f : Q ℝ → Q ℝ) (W : Q ℝ) (h : HV ℝ) : HV ℝ :=
  { h with grad := h.grad.setAlong i (f (h.grad.along i)), lo := h.lo.min W, hi := h.hi.max W }

theorem gradUpd_comm {f g : Q ℝ → Q ℝ} (hfg : ∀ q, f (g q) = g (f q)) (i j : Axis) (W W' : Q ℝ)
    (h : HV ℝ) : gradUpd i f W (gradUpd j g W' h) = gradUpd j g W' (gradUpd i f W h) := by
  simp only [gradUpd, Q.min_min_comm h.lo W W', Q.max_max_comm h.hi W W']
  congr 1
  by_cases hij : i = j
  · subst hij
    simp only [Grad.along_setAlong_self, Grad.setAlong_setAlong_self, hfg]
  · simp only [Grad.along_setAlong_of_ne _ hij, Grad.along_setAlong_of_ne _ (Ne.symm hij),
      Grad.setAlong_comm _ hij]

/-- **masses and energies are not negative after `update_conserved_variables`** (any input) -/
theorem updateConserved_nonneg {dmax : ℝ} {h : HV ℝ} {dt : ℝ} :
    0 ≤ (updateConserved dmax h dt).cons.d ∧ 0 ≤ (updateConserved dmax h dt).cons.e := by
  simp only [updateConserved, updateConservedTag]
  exact ⟨amax_lit0_right_nonneg _, amax_lit0_right_nonneg _⟩

/-- **densities and pressures are not negative after `set_primitive_variables`** (any input) -/
theorem setPrimitive_nonneg {g vmax ovf invVol : ℝ} {U : Q ℝ} :
    0 ≤ (setPrimitive g vmax ovf invVol U).d ∧ 0 ≤ (setPrimitive g vmax ovf invVol U).e := by
  have h0 : (0 : ℝ) ≤ 0.0 := lit0.ge
  unfold setPrimitive setPrimitiveTag
  split
  · split
    · exact ⟨h0, h0⟩
    · exact ⟨amax_lit0_right_nonneg _, amax_lit0_right_nonneg _⟩
  · exact ⟨h0, h0⟩

theorem updateConserved_resets (dmax : ℝ) (h : HV ℝ) (dt : ℝ) :
    (updateConserved dmax h dt).dcons = ⟨0, ⟨0, 0, 0⟩, 0⟩ ∧ (updateConserved dmax h dt).eterm = 0 ∧
      (updateConserved dmax h dt).acc = h.acc := by
  simp only [updateConserved, updateConservedTag, V3.zero, lit0, and_self]

/-- without gravity, energy source and clamp the update is `U + dt · ΔU` -/
theorem updateConserved_cons {dmax : ℝ} {h : HV ℝ} {dt : ℝ} (ha : h.acc = ⟨0, 0, 0⟩)
    (he : h.eterm = 0) (hc : (updateConservedTag dmax h dt).2 = 0) :
    (updateConserved dmax h dt).cons
      = ⟨h.cons.d + h.dcons.d * dt,
         ⟨h.cons.v.x + h.dcons.v.x * dt, h.cons.v.y + h.dcons.v.y * dt,
           h.cons.v.z + h.dcons.v.z * dt⟩,
         h.cons.e + h.dcons.e * dt⟩ := by
  simp only [updateConserved, updateConservedTag, ha, he, V3.dot, lit0] at hc ⊢
  have hm : ¬ (h.cons.d + h.dcons.d * dt < 0) := by
    intro hlt; rw [if_pos hlt] at hc; split_ifs at hc; omega
  have hE : ¬ (h.cons.e + dt * (h.cons.v.x * 0 + h.cons.v.y * 0 + h.cons.v.z * 0) + 0
      + h.dcons.e * dt < 0) := by
    intro hlt; rw [if_pos hlt] at hc; split_ifs at hc
  ext
  · simp only [amax, if_neg hm]
  · simp only; ring
  · simp only; ring
  · simp only; ring
  · simp only [amax, if_neg hE]; ring

theorem limiterStage_mem_Icc {f q : ℝ} {c : Bool} (hf : 0 ≤ f ∧ f ≤ 1) (hq : c = true → 0 ≤ q) :
    0 ≤ (if c = true then amin f q else f) ∧ (if c = true then amin f q else f) ≤ 1 := by
  cases c
  · simpa using hf
  · rw [if_pos rfl, amin_real]; exact ⟨le_min hf.1 (hq rfl), (min_le_left _ _).trans hf.2⟩

theorem ratio_nonneg {a b : ℝ} (ha : 0 ≤ a) (hb : 0 ≤ b) : 0 ≤ a / b := div_nonneg ha hb

theorem fluxLimiter_eq_two : (fluxLimiter : ℝ) = 2 := by unfold fluxLimiter; norm_num

/-- **one common factor in [0, 1]** for all five flux components, whenever the masses and energies
of the two cells are not negative -/
theorem fluxFac_range (g mflux : ℝ) (pflux : V3 ℝ) (Eflux dt : ℝ) (L R : HV ℝ)
    (hmL : 0 ≤ L.cons.d) (hmR : 0 ≤ R.cons.d) (heL : 0 ≤ L.cons.e) (heR : 0 ≤ R.cons.e) :
    0 ≤ (fluxFac g fluxLimiter mflux pflux Eflux dt L R).1 ∧
      (fluxFac g fluxLimiter mflux pflux Eflux dt L R).1 ≤ 1 := by
  have hL : 0 ≤ 2 * L.cons.d := mul_nonneg zero_le_two hmL
  have hR : -2 * R.cons.d ≤ 0 := by linarith
  have hLe : 0 ≤ 2 * L.cons.e := mul_nonneg zero_le_two heL
  have hRe : -2 * R.cons.e ≤ 0 := by linarith
  simp only [fluxFac, fluxLimiter_eq_two]
  refine limiterStage_mem_Icc (limiterStage_mem_Icc (limiterStage_mem_Icc (limiterStage_mem_Icc (limiterStage_mem_Icc ?_ ?_) ?_) ?_) ?_) ?_
  · split_ifs with h
    · have h' := of_decide_eq_true h
      exact ⟨div_nonneg hL (hL.trans h'.le), (div_le_one (hL.trans_lt h')).mpr h'.le⟩
    · rw [lit1]; exact ⟨zero_le_one, le_refl 1⟩
  · intro h
    exact div_nonneg_of_nonpos hR (by linarith [of_decide_eq_true h])
  · intro h
    simp only [Bool.and_eq_true, decide_eq_true_eq] at h
    exact div_nonneg hLe (hLe.trans h.2.le)
  · intro h
    simp only [Bool.and_eq_true, decide_eq_true_eq] at h
    exact div_nonneg_of_nonpos hRe (by linarith [h.2])
  · intro _; exact Real.sqrt_nonneg _
  · intro _; exact Real.sqrt_nonneg _

/-- when only limiter conditions 1 (mass of the left cell) and 3 (its energy) fire (mask `1 + 4`), the factor is
the smaller of their two quotients -/
theorem fluxFac_left_mass_energy {g lim mflux Eflux dt : ℝ} (pflux : V3 ℝ) {L R : HV ℝ}
    (hg : 1 < g) (c1 : lim * L.cons.d < mflux * dt) (c2 : ¬ lim * R.cons.d < -(mflux * dt))
    (c3 : lim * L.cons.e < Eflux * dt) (c4 : ¬ lim * R.cons.e < -(Eflux * dt))
    (c5 : ¬ g * (L.cons.d * L.cons.d) * L.prim.e < L.cons.v.norm2 * L.prim.d)
    (c6 : ¬ g * (R.cons.d * R.cons.d) * R.prim.e < L.cons.v.norm2 * R.prim.d) :
    (fluxFac g lim mflux pflux Eflux dt L R).1
      = min (lim * L.cons.d / (mflux * dt)) (lim * L.cons.e / (Eflux * dt)) := by
  simp only [fluxFac, c1, c2, c3, c4, c5, c6, lit1, hg, decide_true, decide_false, Bool.and_true,
    Bool.false_and, Bool.true_and, if_true, if_false, Bool.false_eq_true, amin_real]

/-- the upper / lower envelope of `limit` (`tiny = 0`) -/
noncomputable def phiplusR (phimax δ : ℝ) : ℝ :=
  if 0 < (phimax + δ) * phimax then phimax + δ else phimax * |phimax| / (|phimax| + δ + 0)
noncomputable def phiminusR (phimin δ : ℝ) : ℝ :=
  if 0 < (phimin - δ) * phimin then phimin - δ else phimin * |phimin| / (|phimin| + δ + 0)

theorem phiplusR_neg (x δ : ℝ) : phiplusR (-x) δ = -phiminusR x δ := by
  unfold phiplusR phiminusR
  have e : (-x + δ) * -x = (x - δ) * x := by ring
  rw [e, abs_neg]
  split_ifs <;> ring

theorem phiminusR_neg (x δ : ℝ) : phiminusR (-x) δ = -phiplusR x δ := by
  rw [← neg_neg (phiminusR (-x) δ), ← phiplusR_neg, neg_neg]

/-- `m` the reconstructed value, `a` the value of the own cell, `b` of the other cell, `d` the fraction (½ in the
code) of the way to `b` that the face lies at -/
theorem limit_unfold (m a b d : ℝ) :
    limit 0 m a b d =
      if a = b then a
      else if a < b then
        max (phiminusR (min a b) (1 / 2 * |a - b|)) (min (a + d * (b - a) + 1 / 4 * |a - b|) m)
      else min (phiplusR (max a b) (1 / 2 * |a - b|)) (max (a + d * (b - a) - 1 / 4 * |a - b|) m) := by
  have habs : ∀ x : ℝ, ArithFns.abs x = |x| := fun _ => rfl
  simp only [limit, feq, amin_real, amax_real, habs, lit0, lit05, lit025, phiplusR, phiminusR,
    Bool.and_eq_true, decide_eq_true_eq]
  by_cases hab : a = b
  · subst hab; simp
  · have : ¬ (a ≤ b ∧ b ≤ a) := fun h => hab (le_antisymm h.1 h.2)
    rw [if_neg this, if_neg hab]

theorem limit_self (m a d : ℝ) : limit 0 m a a d = a := by
  rw [limit_unfold, if_pos rfl]

theorem limit_neg (m a b d : ℝ) : limit 0 (-m) (-a) (-b) d = -limit 0 m a b d := by
  -- for `a < b`; the case `b < a` is this one for the negated values
  have key : ∀ m a b : ℝ, a < b → limit 0 (-m) (-a) (-b) d = -limit 0 m a b d := by
    intro m a b h
    rw [limit_unfold, limit_unfold, if_neg (neg_injective.ne h.ne),
      if_neg (not_lt.mpr (neg_le_neg h.le)), if_neg h.ne, if_pos h, neg_sub_neg, neg_sub_neg,
      abs_sub_comm b a, max_neg_neg, phiplusR_neg, ← min_neg_neg, ← max_neg_neg]
    congr 2; ring
  rcases lt_trichotomy a b with h | rfl | h
  · exact key m a b h
  · rw [limit_self, limit_self]
  · have := key (-m) (-a) (-b) (neg_lt_neg h)
    rw [neg_neg, neg_neg, neg_neg] at this
    rw [this, neg_neg]

/-- the ghost side of a reflective face: `limit_neg` with `b = -a` -/
theorem limit_mirror (a hq d : ℝ) : limit 0 (-a - hq) (-a) a d = -limit 0 (a + hq) a (-a) d := by
  have h := limit_neg (a + hq) a (-a) d
  rw [neg_neg] at h
  rw [← h]
  congr 1
  ring

/-! ### a reflective wall: the two reconstructed states are mirror images -/

/-- flip the component along `i` -/
noncomputable def flip (i : Axis) (v : V3 ℝ) : V3 ℝ := V3'.set v i (-(V3'.get v i))

/-- for the ghost cell of a reflective boundary the reconstruction gives the cell-centred density
and pressure on both sides and velocities that differ only by the sign of the normal component -/
theorem reconstruct_reflective (i : Axis) (W g : Q ℝ) (dx : ℝ) (hd : 0 ≤ W.d) (hp : 0 ≤ W.e) :
    let r := reflectiveRight i W g
    let rc := reconstruct 0 W g r.1 r.2 dx
    rc.rhoL = W.d ∧ rc.rhoR = W.d ∧ rc.PL = W.e ∧ rc.PR = W.e ∧ rc.vR = flip i rc.vL := by
  cases i <;>
    simp only [reflectiveRight, reconstruct, flip, V3'.set, V3'.get, limit_self, neg_neg,
      amax_lit0_right_of_nonneg hd, amax_lit0_right_of_nonneg hp, true_and, V3.mk.injEq, and_true]
  all_goals exact limit_mirror _ _ _

theorem unitNormal_norm2 (i : Axis) (s : ℝ) : (unitNormal i s).norm2 = s * s := by
  cases i <;> simp only [unitNormal, V3'.set, V3.zero, V3.norm2, lit0] <;> ring

theorem sub_zero_dot_unitNormal (v : V3 ℝ) (i : Axis) (s : ℝ) :
    (v.sub V3.zero).dot (unitNormal i s) = s * V3'.get v i := by
  cases i <;> simp only [unitNormal, V3'.set, V3'.get, V3.zero, V3.sub, V3.dot, lit0] <;> ring

theorem orientation_mul_self (dx : ℝ) : orientation dx * orientation dx = 1 := by
  unfold orientation; split_ifs <;> norm_num

theorem ghostFaceFlux_eq (flux : FluxFn ℝ) (tiny g : ℝ) (i : Axis) (L : HV ℝ) (dx A dt : ℝ) :
    let F := rawFlux flux (reconstruct tiny L.prim (L.grad.along i)
      (reflectiveRight i L.prim (L.grad.along i)).1 (reflectiveRight i L.prim (L.grad.along i)).2 dx)
      (unitNormal i (orientation dx)) A
    ghostFaceFlux flux tiny g i L dx A dt
      = scaleFlux F (ghostFluxFac g fluxLimiter F.d F.v F.e dt L).1 := rfl

theorem phiminusR_le (a δ : ℝ) (hδ : 0 ≤ δ) : phiminusR a δ ≤ a := by
  unfold phiminusR
  split_ifs with h
  · linarith
  · have ha : 0 ≤ a := by
      by_contra hn
      push Not at hn
      exact h (mul_pos_of_neg_of_neg (by linarith) hn)
    rcases eq_or_lt_of_le ha with h0 | hpos
    · rw [← h0]; simp
    · rw [abs_of_pos hpos, add_zero, div_le_iff₀ (by linarith)]
      exact mul_le_mul_of_nonneg_left (le_add_of_nonneg_right hδ) ha

theorem phiminusR_nonneg (a δ : ℝ) (ha : 0 ≤ a) (hδ : 0 ≤ δ) : 0 ≤ phiminusR a δ := by
  unfold phiminusR
  split_ifs with h
  · by_contra hn
    push Not at hn
    have : (a - δ) * a ≤ 0 := mul_nonpos_of_nonpos_of_nonneg hn.le ha
    linarith
  · exact div_nonneg (mul_nonneg ha (abs_nonneg a)) (by positivity)

theorem le_phiplusR (a δ : ℝ) (hδ : 0 ≤ δ) : a ≤ phiplusR a δ := by
  have h := phiminusR_le (-a) δ hδ
  rw [phiminusR_neg] at h
  linarith

/-- first conjunct: the C++ nests `min` and `max` the other way round for `b < a` -/
theorem clip {lo hi : ℝ} (h : lo ≤ hi) (m : ℝ) :
    min hi (max lo m) = max lo (min hi m) ∧ lo ≤ max lo (min hi m) ∧ max lo (min hi m) ≤ hi ∧
      (lo ≤ m → m ≤ hi → max lo (min hi m) = m) :=
  ⟨by rw [min_max_distrib_left, min_eq_right h], le_max_left _ _, max_le h (min_le_left _ _),
    fun h1 h2 => by rw [min_eq_right h2, max_eq_right h1]⟩

/-- `Hydro::limit` for `a < b`: the reconstructed value `m` clipped to `[phiminus, a + ¾ (b − a)]`, an
interval round the own value `a` -/
theorem limit_lt (m : ℝ) {a b : ℝ} (h : a < b) :
    limit 0 m a b 0.5 = max (phiminusR a (1 / 2 * (b - a))) (min (a + 3 / 4 * (b - a)) m) ∧
      phiminusR a (1 / 2 * (b - a)) ≤ a ∧ a ≤ a + 3 / 4 * (b - a) := by
  have hd : 0 ≤ b - a := (sub_pos.mpr h).le
  have e : a + 1 / 2 * (b - a) + 1 / 4 * (b - a) = a + 3 / 4 * (b - a) := by ring
  refine ⟨?_, phiminusR_le a _ (mul_nonneg (by norm_num) hd),
    le_add_of_nonneg_right (mul_nonneg (by norm_num) hd)⟩
  rw [limit_unfold, if_neg h.ne, if_pos h, min_eq_left h.le, abs_sub_comm, abs_of_nonneg hd, lit05, e]

/-- … and for `b < a` to `[a − ¾ (a − b), phiplus]` -/
theorem limit_gt (m : ℝ) {a b : ℝ} (h : b < a) :
    limit 0 m a b 0.5 = max (a - 3 / 4 * (a - b)) (min (phiplusR a (1 / 2 * (a - b))) m) ∧
      a - 3 / 4 * (a - b) ≤ a ∧ a ≤ phiplusR a (1 / 2 * (a - b)) := by
  have hd : 0 ≤ a - b := (sub_pos.mpr h).le
  have e : a + 1 / 2 * (b - a) - 1 / 4 * (a - b) = a - 3 / 4 * (a - b) := by ring
  have hlo : a - 3 / 4 * (a - b) ≤ a := sub_le_self a (mul_nonneg (by norm_num) hd)
  have hhi := le_phiplusR a _ (mul_nonneg (by norm_num : (0 : ℝ) ≤ 1 / 2) hd)
  refine ⟨?_, hlo, hhi⟩
  rw [limit_unfold, if_neg h.ne', if_neg (not_lt.mpr h.le), max_eq_left h.le, abs_of_nonneg hd,
    lit05, e, (clip (hlo.trans hhi) m).1]

/-- **non-negative cell values give a non-negative face value**, whatever the reconstructed value
(so the clamps `std::max(rho, 0.)`, `std::max(P, 0.)` after `limit` never act in exact arithmetic) -/
theorem limit_nonneg (m a b : ℝ) (ha : 0 ≤ a) (hb : 0 ≤ b) : 0 ≤ limit 0 m a b 0.5 := by
  rcases lt_trichotomy a b with h | h | h
  · rw [(limit_lt m h).1]
    exact le_max_of_le_left
      (phiminusR_nonneg a _ ha (mul_nonneg (by norm_num) (sub_pos.mpr h).le))
  · rw [h, limit_self]; exact hb
  · rw [(limit_gt m h).1]
    exact le_max_of_le_left (by linarith)

theorem limit_own_value (a b : ℝ) : limit 0 a a b 0.5 = a := by
  rcases lt_trichotomy a b with h | h | h
  · obtain ⟨e, h1, h2⟩ := limit_lt a h
    rw [e, min_eq_right h2, max_eq_right h1]
  · rw [h, limit_self]
  · obtain ⟨e, h1, h2⟩ := limit_gt a h
    rw [e, min_eq_right h2, max_eq_right h1]

theorem face_clamp_inactive (WL gL WR gR : Q ℝ) (dx : ℝ) (h1 : 0 ≤ WL.d) (h2 : 0 ≤ WL.e)
    (h3 : 0 ≤ WR.d) (h4 : 0 ≤ WR.e) :
    (reconstruct 0 WL gL WR gR dx).rhoL = limit 0 (WL.d + 0.5 * dx * gL.d) WL.d WR.d 0.5 ∧
      (reconstruct 0 WL gL WR gR dx).PL = limit 0 (WL.e + 0.5 * dx * gL.e) WL.e WR.e 0.5 ∧
      (reconstruct 0 WL gL WR gR dx).rhoR = limit 0 (WR.d - 0.5 * dx * gR.d) WR.d WL.d 0.5 ∧
      (reconstruct 0 WL gL WR gR dx).PR = limit 0 (WR.e - 0.5 * dx * gR.e) WR.e WL.e 0.5 := by
  simp only [reconstruct]
  exact ⟨amax_lit0_right_of_nonneg (limit_nonneg _ _ _ h1 h3),
    amax_lit0_right_of_nonneg (limit_nonneg _ _ _ h2 h4),
    amax_lit0_right_of_nonneg (limit_nonneg _ _ _ h3 h1),
    amax_lit0_right_of_nonneg (limit_nonneg _ _ _ h4 h2)⟩

theorem ghostFaceFluxB_reflective (flux : FluxFn ℝ) (tiny g : ℝ) (i : Axis) (L : HV ℝ)
    (dx A dt : ℝ) :
    ghostFaceFluxB .reflective flux tiny g i L dx A dt = ghostFaceFlux flux tiny g i L dx A dt := rfl

theorem doGhostGradientCalculationB_reflective (i : Axis) (L : HV ℝ) (dxinv : ℝ) :
    doGhostGradientCalculationB .reflective i L dxinv = doGhostGradientCalculation i L dxinv := rfl

theorem get_reconstruct_vL (t : ℝ) (WL gL WR gR : Q ℝ) (dx : ℝ) (j : Axis) :
    V3'.get (reconstruct t WL gL WR gR dx).vL j
      = limit t (V3'.get WL.v j + 0.5 * dx * V3'.get gL.v j) (V3'.get WL.v j) (V3'.get WR.v j) 0.5 := by
  cases j <;> rfl

theorem get_reconstruct_vR (t : ℝ) (WL gL WR gR : Q ℝ) (dx : ℝ) (j : Axis) :
    V3'.get (reconstruct t WL gL WR gR dx).vR j
      = limit t (V3'.get WR.v j - 0.5 * dx * V3'.get gR.v j) (V3'.get WR.v j) (V3'.get WL.v j) 0.5 := by
  cases j <;> rfl

theorem reconstruct_vL_of_zero_grad (WL WR gR : Q ℝ) (dx : ℝ) :
    (reconstruct 0 WL ⟨0, ⟨0, 0, 0⟩, 0⟩ WR gR dx).vL = WL.v := by
  simp only [reconstruct, mul_zero, add_zero, limit_own_value]

/-- a ghost cell that is a copy of the cell (inflow boundary; outflow boundary with outgoing gas):
both reconstructed states are the cell-centred state, whatever the gradients -/
theorem reconstruct_copy (W g g' : Q ℝ) (dx : ℝ) (hd : 0 ≤ W.d) (hp : 0 ≤ W.e) :
    reconstruct 0 W g W g' dx = ⟨W.d, W.v, W.e, W.d, W.v, W.e⟩ := by
  simp only [reconstruct, limit_self, amax_lit0_right_of_nonneg hd, amax_lit0_right_of_nonneg hp]

/-- the largest extrapolation `|grad_k · dx_k / 2|` of a variable to the six faces -/
noncomputable def maxExt (g dx : V3 ℝ) : ℝ :=
  max (max |g.x * 0.5 * dx.x| |g.y * 0.5 * dx.y|) |g.z * 0.5 * dx.z|

theorem max_pm (W e : ℝ) : max (W + e) (W - e) = W + |e| := by
  rw [sub_eq_add_neg, max_add_add_left, ← abs_eq_max_neg]

theorem min_pm (W e : ℝ) : min (W + e) (W - e) = W - |e| := by
  rw [sub_eq_add_neg, min_add_add_left, abs_eq_max_neg, sub_eq_add_neg, ← min_neg_neg, neg_neg,
    min_comm]

theorem max_chain (W A e : ℝ) : max (max (W + A) (W + e)) (W - e) = W + max A |e| := by
  rw [max_assoc, max_pm, max_add_add_left]

theorem min_chain (W A e : ℝ) : min (min (W - A) (W + e)) (W - e) = W - max A |e| := by
  rw [min_assoc, min_pm, sub_eq_add_neg, sub_eq_add_neg, min_add_add_left, min_neg_neg,
    ← sub_eq_add_neg]

/-- `alpha` in closed form: with `E` the largest extrapolation,
`alpha = min(1, ½ min((hi − W)/E, (W − lo)/E))` (`DBL_MAX` instead of a quotient when `E = 0`) -/
theorem slopeAlpha_eq (dmax W : ℝ) (g : V3 ℝ) (lo hi : ℝ) (dx : V3 ℝ) :
    slopeAlpha dmax W g lo hi dx =
      min 1 (1 / 2 * min (if maxExt g dx = 0 then dmax else (hi - W) / maxExt g dx)
        (if maxExt g dx = 0 then dmax else (lo - W) / (-maxExt g dx))) := by
  have hfeq : ∀ x : ℝ, (feq x 0.0 = true) ↔ x = 0 := fun x => by
    rw [lit0]; exact decide_le_and_ge x 0
  simp only [slopeAlpha, slopeAlphaTag, amax_real, amin_real, max_pm, min_pm, max_chain, min_chain,
    hfeq, lit1, lit05]
  have e1 : W + max (max |g.x * (1 / 2) * dx.x| |g.y * (1 / 2) * dx.y|) |g.z * (1 / 2) * dx.z| - W
      = maxExt g dx := by unfold maxExt; rw [lit05]; ring
  have e2 : W - max (max |g.x * (1 / 2) * dx.x| |g.y * (1 / 2) * dx.y|) |g.z * (1 / 2) * dx.z| - W
      = -maxExt g dx := by unfold maxExt; rw [lit05]; ring
  rw [e1, e2]
  simp only [neg_eq_zero]

theorem maxExt_nonneg (g dx : V3 ℝ) : 0 ≤ maxExt g dx :=
  le_trans (abs_nonneg _) (le_max_right _ _)

theorem abs_min_one_le (t : ℝ) : |min 1 t| ≤ |t| := by
  rcases le_total t 1 with h | h
  · rw [min_eq_right h]
  · rw [min_eq_left h, abs_one]; exact h.trans (le_abs_self t)

theorem abs_min_le_min_abs {a b : ℝ} (h : 0 ≤ a + b) : |min a b| ≤ min |a| |b| := by
  rcases le_total a b with hab | hab
  · rw [min_eq_left hab]
    exact le_min le_rfl (abs_le.mpr ⟨by linarith [le_abs_self b], hab.trans (le_abs_self b)⟩)
  · rw [min_eq_right hab]
    exact le_min (abs_le.mpr ⟨by linarith [le_abs_self a], hab.trans (le_abs_self a)⟩) le_rfl

/-- the heart of the slope limiter: `|alpha| · E ≤ ½ min(|hi − W|, |W − lo|)` when the neighbour
minimum is not above the neighbour maximum -/
theorem slopeAlpha_mul_maxExt (dmax W : ℝ) (g : V3 ℝ) (lo hi : ℝ) (dx : V3 ℝ) (hlh : lo ≤ hi) :
    |slopeAlpha dmax W g lo hi dx| * maxExt g dx ≤ 1 / 2 * min |hi - W| |W - lo| := by
  rcases eq_or_lt_of_le (maxExt_nonneg g dx) with h0 | hpos
  · rw [← h0, mul_zero]; positivity
  · -- `alpha = min 1 (½ m / E)` with `m = min (hi − W) (W − lo)`, and `|m| ≤ min |hi − W| |W − lo|`
    -- because the two differences add up to `hi − lo ≥ 0`
    rw [slopeAlpha_eq, if_neg hpos.ne', if_neg hpos.ne', div_neg, ← neg_div, neg_sub,
      min_div_div_right hpos.le]
    calc |min 1 (1 / 2 * (min (hi - W) (W - lo) / maxExt g dx))| * maxExt g dx
        ≤ |1 / 2 * (min (hi - W) (W - lo) / maxExt g dx)| * maxExt g dx :=
          mul_le_mul_of_nonneg_right (abs_min_one_le _) hpos.le
      _ = 1 / 2 * |min (hi - W) (W - lo)| := by
          rw [abs_mul, abs_of_pos (by norm_num : (0 : ℝ) < 1 / 2), abs_div, abs_of_pos hpos, mul_assoc,
            div_mul_cancel₀ _ hpos.ne']
      _ ≤ 1 / 2 * min |hi - W| |W - lo| :=
          mul_le_mul_of_nonneg_left (abs_min_le_min_abs (by linarith)) (by norm_num)

theorem limited_ext_le (dmax W : ℝ) (g : V3 ℝ) (lo hi : ℝ) (dx : V3 ℝ) (hlh : lo ≤ hi)
    (gk dxk : ℝ) (hk : |gk * 0.5 * dxk| ≤ maxExt g dx) :
    |gk * slopeAlpha dmax W g lo hi dx * 0.5 * dxk| ≤ 1 / 2 * min |hi - W| |W - lo| := by
  have e : gk * slopeAlpha dmax W g lo hi dx * 0.5 * dxk
      = slopeAlpha dmax W g lo hi dx * (gk * 0.5 * dxk) := by ring
  rw [e, abs_mul]
  exact le_trans (mul_le_mul_of_nonneg_left hk (abs_nonneg _))
    (slopeAlpha_mul_maxExt dmax W g lo hi dx hlh)

theorem limited_var_bound (dmax : ℝ) {W : ℝ} {g : V3 ℝ} {lo hi : ℝ} (dx : V3 ℝ) (hlh : lo ≤ hi) :
    let g' := g.smul (slopeAlpha dmax W g lo hi dx)
    |g'.x * 0.5 * dx.x| ≤ 1 / 2 * min |hi - W| |W - lo| ∧
      |g'.y * 0.5 * dx.y| ≤ 1 / 2 * min |hi - W| |W - lo| ∧
      |g'.z * 0.5 * dx.z| ≤ 1 / 2 * min |hi - W| |W - lo| := by
  simp only [V3.smul]
  exact ⟨limited_ext_le dmax W g lo hi dx hlh g.x dx.x (le_trans (le_max_left _ _) (le_max_left _ _)),
    limited_ext_le dmax W g lo hi dx hlh g.y dx.y (le_trans (le_max_right _ _) (le_max_left _ _)),
    limited_ext_le dmax W g lo hi dx hlh g.z dx.z (le_max_right _ _)⟩

end CMacVerif.HydroUpdate
