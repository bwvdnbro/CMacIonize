import CMacVerif.Model.RanluxSplit
import CMacVerif.Lemmas.PhotonSplit
/-!
The photon packet split of `DistributedPhotonSource` as C13 models it (`Model/RanluxSplit.lean`: the
leftover indices are a function `idx` of the draw number) is the split of C01
(`Model/PhotonProtocol.lean`: the leftover indices are a list of picks) with the picks read off the
stream; `sourceEntries` and `bump` are `Photon.perCopy` and `Photon.bump` by definition.
-/
namespace CMacVerif.Ranlux

theorem splitBase_eq (src : List (Nat × Nat)) (tot ov : List Nat) :
    splitBase src tot ov = Photon.splitLoop src (tot, ov) := by
  induction src generalizing tot ov with
  | nil => rfl
  | cons p rest ih => obtain ⟨q, c⟩ := p; exact ih _ _

theorem leftovers_eq (ov : List Nat) (idx : Nat → Nat) (n i : Nat) (tot : List Nat) :
    leftovers ov idx n i tot = Photon.applyPicks tot ov ((List.range' i n).map idx) := by
  induction n generalizing i tot with
  | zero => rfl
  | succ n ih => exact ih _ _

theorem split_eq (N : Nat) (src : List (Nat × Nat)) (idx : Nat → Nat) :
    split N src idx
      = Photon.splitTotals src ((List.range' 0 (N - (src.map Prod.fst).sum)).map idx) := by
  unfold split Photon.splitTotals
  rw [splitBase_eq]
  exact leftovers_eq ..

end CMacVerif.Ranlux
