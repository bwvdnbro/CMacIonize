import CMacVerif.Lemmas.CartesianSeg
/-! The deposits of the Cartesian `interact` loop are the chords of the straight line in the cells
(C16): every deposit interval of the line parameter lies in the closed chord of the cell it is
credited to, and wherever the line is in the open box of a cell the deposit is credited to that
cell.  Periodic grids: the line is taken modulo whole box lengths on periodic axes. -/
namespace CMacVerif.Cartesian
open CMacVerif.GridNum

def OpenIn (b : Box3 ℝ) (p : V3 ℝ) : Prop :=
  b.ax < p.x ∧ p.x < b.ax + b.sx ∧ b.ay < p.y ∧ p.y < b.ay + b.sy ∧ b.az < p.z ∧ p.z < b.az + b.sz

/-- closed / open chord of the (shifted) line in a box: the parameters at which the line is inside -/
def ClosedChord (b : Box3 ℝ) (p d σ : V3 ℝ) (t : ℝ) : Prop := ClosedIn b (lineAt p t d σ)
def OpenChord (b : Box3 ℝ) (p d σ : V3 ℝ) (t : ℝ) : Prop := OpenIn b (lineAt p t d σ)

/-- the deposits (newest first): every deposit `(c, ds)` made after the deposits `rest` covers the
parameters `[T rest, T rest + ds]`, and both ends of that interval lie in the closed box of cell `c`
(for one image of the line) -/
def Chords (g : Grid ℝ) (d p0 : V3 ℝ) : List (Int × ℝ) → Prop
  | [] => True
  | e :: rest => 0 ≤ e.2 ∧
      (∃ (i : I3) (σ : V3 ℝ), InRange' g.n i ∧ longIndex g.n i = e.1 ∧ Lattice g σ ∧
        ClosedIn (cellBox g i) (lineAt p0 (pathSum rest) d σ) ∧
        ClosedIn (cellBox g i) (lineAt p0 (pathSum rest + e.2) d σ)) ∧
      Chords g d p0 rest

/-- the invariant of the loop: the segment invariant, the chord property of all deposits so far,
and the position is the point of (an image of) the line at the parameter reached -/
structure ChordInv (g : Grid ℝ) (d p0 : V3 ℝ) (st : St ℝ) : Prop where
  seg : SegInv g st
  chords : Chords g d p0 st.path
  onLine : ∃ σ, Lattice g σ ∧ st.pos = lineAt p0 (pathSum st.path) d σ

theorem start_chord (box : Box3 ℝ) (n : I3) (px py pz : Bool) (p d : V3 ℝ) (tau : ℝ)
    (hnx : 0 < n.x) (hny : 0 < n.y) (hnz : 0 < n.z) (hb : PosBox box) (hp : InBox box p) :
    ChordInv (mkGrid box n px py pz) d p ⟨p, cellIndices (mkGrid box n px py pz) p, tau, [], none, 0.0⟩ := by
  obtain ⟨⟨r1, r2, r3, r4, r5, r6⟩, a1, a2, a3, a4, a5, a6⟩ := cellIndices_spec box n px py pz p hnx hny hnz hb hp
  exact ⟨⟨⟨a1, a2.le, a3, a4.le, a5, a6.le⟩,
      show Near n (cellIndices (mkGrid box n px py pz) p) from ⟨by omega, r2.le, by omega, r4.le, by omega, r6.le⟩, by simp⟩,
    trivial, ⟨0, 0, 0⟩, lattice_zero _, by simp [lineAt, pathSum]⟩

theorem body_chordInv (big : ℝ) (g : Grid ℝ) (hg : GridOK g) (m : Medium ℝ) (d inv p0 : V3 ℝ) (hr : RayOK big g d inv)
    (st : St ℝ) (h : ChordInv g d p0 st) (hf : gridFlag g st.idx = true) (hod : 0 < st.od) :
    ChordInv g d p0 (body big g m d inv (wrapSt g st)) := by
  obtain ⟨hs, hin⟩ := wrap_seg g hg st h.seg hf
  obtain ⟨σ, hσ, hpos⟩ := wrap_onLine g d p0 st h.onLine
  obtain ⟨ds, hpath, hbline, hbon⟩ := body_line big g m p0 d inv σ (wrapSt g st) hod hpos
  obtain ⟨hbseg, hstay⟩ := body_seg big g m d inv hr (wrapSt g st) hs hin hod
  refine ⟨hbseg, ?_, σ, hσ, hbon⟩
  rw [hpath]
  exact ⟨(hbseg.pathNonneg _ (by rw [hpath]; exact List.mem_cons_self)).1,
    ⟨_, σ, hin, rfl, hσ, hpos ▸ hs.inCell, hbline ▸ hstay⟩, h.chords⟩

theorem loop_chord (big : ℝ) (g : Grid ℝ) (hg : GridOK g) (m : Medium ℝ) (d inv p0 : V3 ℝ)
    (hr : RayOK big g d inv) (fuel : Nat) (st : St ℝ) (h : ChordInv g d p0 st) :
    Chords g d p0 (loop big g m d inv fuel st).1.path ∧
    (∀ e ∈ (loop big g m d inv fuel st).1.path, 0 ≤ e.2 ∧ 0 ≤ e.1 ∧ e.1 < g.n.x * g.n.y * g.n.z) ∧
    ((loop big g m d inv fuel st).2 = true → gridFlag g (loop big g m d inv fuel st).1.idx = true →
      SegInv g (loop big g m d inv fuel st).1 ∧ InRange' g.n (loop big g m d inv fuel st).1.idx) := by
  obtain ⟨st', h', e | ⟨-, e⟩⟩ := loop_inv big g m d inv (ChordInv g d p0)
    (body_chordInv big g hg m d inv p0 hr) fuel st h <;> rw [e]
  · exact ⟨h'.chords, h'.seg.pathNonneg, fun hf => absurd hf Bool.false_ne_true⟩
  · exact ⟨h'.chords, h'.seg.pathNonneg, fun _ hf =>
      wrap_seg g hg st' h'.seg ((wrap_flag g st').symm.trans hf)⟩

/-- a deposit anywhere in the list has the head property -/
theorem chords_split (g : Grid ℝ) (d p0 : V3 ℝ) (newer : List (Int × ℝ)) (e : Int × ℝ) (older : List (Int × ℝ))
    (h : Chords g d p0 (newer ++ e :: older)) : Chords g d p0 (e :: older) := by
  induction newer with
  | nil => exact h
  | cons x xs ih => exact ih h.2.2

theorem closed_convex (b : Box3 ℝ) (p d σ : V3 ℝ) (t0 t1 t : ℝ) (h0 : ClosedIn b (lineAt p t0 d σ))
    (h1 : ClosedIn b (lineAt p t1 d σ)) (ht0 : t0 ≤ t) (ht1 : t ≤ t1) : ClosedIn b (lineAt p t d σ) := by
  obtain ⟨a1, a2, a3, a4, a5, a6⟩ := h0
  obtain ⟨b1, b2, b3, b4, b5, b6⟩ := h1
  simp only [ClosedIn, lineAt, add_right_comm _ (_ * _)] at a1 a2 a3 a4 a5 a6 b1 b2 b3 b4 b5 b6 ⊢
  obtain ⟨x1, x2⟩ := Axis.between ht0 ht1 ⟨a1, a2⟩ ⟨b1, b2⟩
  obtain ⟨y1, y2⟩ := Axis.between ht0 ht1 ⟨a3, a4⟩ ⟨b3, b4⟩
  obtain ⟨z1, z2⟩ := Axis.between ht0 ht1 ⟨a5, a6⟩ ⟨b5, b6⟩
  exact ⟨x1, x2, y1, y2, z1, z2⟩

/-- one axis: an image (by `l` box lengths) of `x` in the open interval of cell `j` and an image (by
`k` box lengths) in the closed interval of cell `i`, both cells in range: same image, same cell -/
theorem axis_open_closed {a S : ℝ} {n i j k l : Int} (hS : 0 < S) (hn : 0 < n) (hi : 0 ≤ i ∧ i < n) (hj : 0 ≤ j ∧ j < n)
    {x : ℝ} (h1 : a + S / (n : ℝ) * (j : ℝ) < x + (l : ℝ) * S) (h2 : x + (l : ℝ) * S < a + S / (n : ℝ) * (j : ℝ) + S / (n : ℝ))
    (h3 : a + S / (n : ℝ) * (i : ℝ) ≤ x + (k : ℝ) * S) (h4 : x + (k : ℝ) * S ≤ a + S / (n : ℝ) * (i : ℝ) + S / (n : ℝ)) :
    l = k ∧ j = i := by
  have hnR : (0 : ℝ) < (n : ℝ) := by exact_mod_cast hn
  have hcs : 0 < S / (n : ℝ) := div_pos hS hnR
  -- in units of the cell width the two images are `(k - l) n` cells apart: `i = j + (k - l) n`
  have e : ((k : ℝ) - (l : ℝ)) * (n : ℝ) * (S / (n : ℝ)) = (k : ℝ) * S - (l : ℝ) * S := by field_simp
  generalize S / (n : ℝ) = c at *
  have a1 : j + (k - l) * n ≤ i :=
    Axis.idx_le_of_wall_lt hcs (by push_cast; rw [add_mul, e, add_mul, one_mul]; linarith)
  have a2 : i ≤ j + (k - l) * n :=
    Axis.idx_le_of_wall_lt hcs (by push_cast; rw [add_mul, add_mul, e, one_mul]; linarith)
  have hk : k - l = 0 := by
    rcases lt_trichotomy (k - l) 0 with h | h | h
    · have := Int.mul_le_mul_of_nonneg_right (show k - l ≤ -1 by omega) hn.le; omega
    · exact h
    · have := Int.mul_le_mul_of_nonneg_right (show 1 ≤ k - l by omega) hn.le; omega
  rw [hk] at a1 a2
  exact ⟨by omega, by omega⟩

theorem cells_unique (g : Grid ℝ) (hg : GridOK g) (p d σ σ' : V3 ℝ) (t : ℝ) (i j : I3)
    (hi : InRange' g.n i) (hj : InRange' g.n j) (hσ : Lattice g σ) (hσ' : Lattice g σ')
    (hc : ClosedIn (cellBox g i) (lineAt p t d σ)) (ho : OpenIn (cellBox g j) (lineAt p t d σ')) :
    j = i ∧ σ' = σ := by
  obtain ⟨⟨k1, e1, _⟩, ⟨k2, e2, _⟩, ⟨k3, e3, _⟩⟩ := hσ
  obtain ⟨⟨l1, f1, _⟩, ⟨l2, f2, _⟩, ⟨l3, f3, _⟩⟩ := hσ'
  obtain ⟨c1, c2, c3, c4, c5, c6⟩ := hc
  obtain ⟨o1, o2, o3, o4, o5, o6⟩ := ho
  obtain ⟨i1, i2, i3, i4, i5, i6⟩ := hi
  obtain ⟨j1, j2, j3, j4, j5, j6⟩ := hj
  cases σ; cases σ'; cases i; cases j
  simp only at e1 e2 e3 f1 f2 f3
  subst e1 e2 e3 f1 f2 f3
  simp only [cellBox, ofInt_real, hg.csx, hg.csy, hg.csz, lineAt] at c1 c2 c3 c4 c5 c6 o1 o2 o3 o4 o5 o6
  obtain ⟨rfl, rfl⟩ := axis_open_closed hg.sx hg.nx ⟨i1, i2⟩ ⟨j1, j2⟩ o1 o2 c1 c2
  obtain ⟨rfl, rfl⟩ := axis_open_closed hg.sy hg.ny ⟨i3, i4⟩ ⟨j3, j4⟩ o3 o4 c3 c4
  obtain ⟨rfl, rfl⟩ := axis_open_closed hg.sz hg.nz ⟨i5, i6⟩ ⟨j5, j6⟩ o5 o6 c5 c6
  exact ⟨rfl, rfl⟩

end CMacVerif.Cartesian
