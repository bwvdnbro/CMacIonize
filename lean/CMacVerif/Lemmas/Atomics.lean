import CMacVerif.Model.Atomics
import CMacVerif.Lemmas.ListSum
/-!
Helper lemmas for C08 (interleaving model `Model/Atomics.lean`): the function update, sums of a weight over the
thread list and what one transition does to them, one-step invariants lifted to schedules, and solo runs of one
thread on the pair (memory, thread).

Proof pattern (DESIGN Appendix A): an invariant is a sum over threads of a per-thread weight
that equals a function of the shared memory; `sumT_set` (frame) + one *local* lemma about `exec`
(by cases on the transition rules of the container the invariant is about, `Lemmas/AtomicsStep.lean`;
`exec_frame` of `Lemmas/AtomicsFrame.lean` for the other containers) + `omega`; `run_inv` lifts to
every schedule.
-/
namespace CMacVerif.Atomics

@[simp] theorem upd_same {α β : Type} [DecidableEq α] (f : α → β) (a : α) (b : β) :
    upd f a b a = b := by simp [upd]

theorem upd_other {α β : Type} [DecidableEq α] (f : α → β) (a x : α) (b : β) (h : x ≠ a) :
    upd f a b x = f x := by simp [upd, h]

theorem upd_apply {α β : Type} [DecidableEq α] (f : α → β) (a x : α) (b : β) :
    upd f a b x = if x = a then b else f x := rfl

theorem upd_comp {α β γ : Type} [DecidableEq α] (g : β → γ) (f : α → β) (a : α) (b : β) :
    (fun x => g (upd f a b x)) = upd (fun x => g (f x)) a (g b) := by
  funext x; simp only [upd_apply]; split <;> rfl

theorem upd_upd_self {α β : Type} [DecidableEq α] (f : α → β) (a : α) (v : β) :
    upd (upd f a v) a (f a) = f := by
  funext x; simp only [upd_apply]; split
  · rename_i h; rw [h]
  · rfl

def sumT (f : Thread → Nat) (l : List Thread) : Nat := (l.map f).sum

@[simp] theorem sumT_nil (f : Thread → Nat) : sumT f [] = 0 := rfl
@[simp] theorem sumT_cons (f : Thread → Nat) (a : Thread) (l : List Thread) :
    sumT f (a :: l) = f a + sumT f l := by simp [sumT]

theorem sumT_set (f : Thread → Nat) (l : List Thread) (tid : Nat) (th th' : Thread)
    (h : l[tid]? = some th) : sumT f (l.set tid th') + f th = sumT f l + f th' :=
  ListSum.sum_map_set f h th'

theorem le_sumT (f : Thread → Nat) (l : List Thread) (tid : Nat) (th : Thread)
    (h : l[tid]? = some th) : f th ≤ sumT f l := ListSum.le_sum_map (List.mem_of_getElem? h) f

theorem le_sumT_mem (f : Thread → Nat) {l : List Thread} {th : Thread} (h : th ∈ l) : f th ≤ sumT f l :=
  ListSum.le_sum_map h f

theorem add_le_sumT (f : Thread → Nat) (l : List Thread) (i j : Nat) (a b : Thread)
    (hi : l[i]? = some a) (hj : l[j]? = some b) (hne : i ≠ j) : f a + f b ≤ sumT f l := by
  -- the sum without the weight of `a` still covers that of `b`
  have h1 := ListSum.sum_map_set id (l := l.map f) (i := i) (a := f a) (by simp [hi]) 0
  have h2 := ListSum.le_sum_map (l := (l.map f).set i 0) (a := f b)
    (List.mem_of_getElem? (i := j) (by simp [List.getElem?_set_ne hne, hj])) id
  simp only [List.map_id, id] at h1 h2
  unfold sumT; omega

theorem sumT_toNat_excl (f : Thread → Nat) (l : List Thread) (x : Bool) (h : sumT f l = x.toNat)
    (i j : Nat) (a b : Thread) (hi : l[i]? = some a) (hj : l[j]? = some b) (hne : i ≠ j)
    (ha : 1 ≤ f a) : f b = 0 := by
  have := add_le_sumT f l i j a b hi hj hne
  have := Bool.toNat_le x
  omega

theorem sumT_toNat_pos (f : Thread → Nat) {l : List Thread} {x : Bool} (h : sumT f l = x.toNat) {i : Nat} {a : Thread}
    (hi : l[i]? = some a) (ha : 1 ≤ f a) : x = true := by
  have := le_sumT f l i a hi
  cases x
  · rw [Bool.toNat_false] at h; omega
  · rfl

theorem sumT_eq_zero (f : Thread → Nat) (l : List Thread) (h : ∀ th ∈ l, f th = 0) :
    sumT f l = 0 := ListSum.sum_map_eq_zero.mpr h

theorem eq_zero_of_sumT (f : Thread → Nat) {l : List Thread} (h : sumT f l = 0) : ∀ th ∈ l, f th = 0 :=
  ListSum.sum_map_eq_zero.mp h

theorem sumT_init (f : Thread → Nat) (progs : List (List Cmd)) (h : ∀ p, f { prog := p } = 0) :
    sumT f (init progs).threads = 0 :=
  sumT_eq_zero f _ fun th hth => by
    obtain ⟨p, _, rfl⟩ := List.mem_map.mp hth
    exact h p

theorem sumT_congr (f g : Thread → Nat) (l : List Thread) (h : ∀ th ∈ l, f th = g th) : sumT f l = sumT g l :=
  congrArg List.sum (List.map_congr_left h)

theorem sumT_pos (f : Thread → Nat) (l : List Thread) (h : 1 ≤ sumT f l) :
    ∃ (k : Nat) (th : Thread), l[k]? = some th ∧ 1 ≤ f th := by
  obtain ⟨th, hth, hf⟩ := ListSum.sum_map_pos.mp h
  obtain ⟨k, hk⟩ := List.getElem?_of_mem hth
  exact ⟨k, th, hk, hf⟩

theorem sumT_map (f : Thread → Nat) (g : Thread → Thread) (l : List Thread) :
    sumT f (l.map g) = sumT (fun th => f (g th)) l := congrArg List.sum List.map_map

theorem sumT_add (f g : Thread → Nat) (l : List Thread) :
    sumT (fun th => f th + g th) l = sumT f l + sumT g l := ListSum.sum_map_add f g l

theorem sumT_le (f g : Thread → Nat) (l : List Thread) (h : ∀ th ∈ l, f th ≤ g th) : sumT f l ≤ sumT g l :=
  ListSum.sum_map_mono h

def sumTI (f : Thread → Int) (l : List Thread) : Int := (l.map f).sum

@[simp] theorem sumTI_nil (f : Thread → Int) : sumTI f [] = 0 := rfl
@[simp] theorem sumTI_cons (f : Thread → Int) (a : Thread) (l : List Thread) :
    sumTI f (a :: l) = f a + sumTI f l := by simp [sumTI]

theorem sumTI_set (f : Thread → Int) (l : List Thread) (tid : Nat) (th th' : Thread)
    (h : l[tid]? = some th) : sumTI f (l.set tid th') + f th = sumTI f l + f th' := by
  induction l generalizing tid with
  | nil => simp at h
  | cons a l ih =>
    cases tid with
    | zero => simp at h; subst h; simp; omega
    | succ n =>
      simp at h
      have := ih n h
      simp only [List.set_cons_succ, sumTI_cons]; omega

theorem sumTI_eq_zero (f : Thread → Int) (l : List Thread) (h : ∀ th ∈ l, f th = 0) :
    sumTI f l = 0 := by
  induction l with
  | nil => rfl
  | cons a l ih =>
    simp only [sumTI_cons]
    rw [h a (by simp), ih (fun th hth => h th (by simp [hth]))]; rfl

theorem step_none (cfg : Cfg) (s : State) (tid : Nat) (h : s.threads[tid]? = none) :
    step cfg s tid = s := by simp [step, h]

theorem step_some (cfg : Cfg) (s : State) (tid : Nat) (th : Thread) (h : s.threads[tid]? = some th) :
    step cfg s tid = { mem := (exec cfg s.mem th).1, threads := s.threads.set tid (exec cfg s.mem th).2 } := by
  simp [step, h]

theorem step_inv (cfg : Cfg) (P : State → Prop) (s : State) (tid : Nat) (h : P s)
    (hstep : ∀ th, s.threads[tid]? = some th →
      P { mem := (exec cfg s.mem th).1, threads := s.threads.set tid (exec cfg s.mem th).2 }) :
    P (step cfg s tid) := by
  cases hth : s.threads[tid]? with
  | none => rw [step_none cfg s tid hth]; exact h
  | some th => rw [step_some cfg s tid th hth]; exact hstep th hth

/-- the pattern for one weight: if a transition of one thread changes its weight `w` and the memory term `g` by the
same amount (`hloc`, which may assume that `g` covers the mover's weight), then `Σ w = g` survives the step -/
theorem sumT_balance_step (cfg : Cfg) (w : Thread → Nat) (g : Mem → Nat)
    (hloc : ∀ m th, w th ≤ g m → g m + w (exec cfg m th).2 = g (exec cfg m th).1 + w th)
    (s : State) (tid : Nat) (h : sumT w s.threads = g s.mem) :
    sumT w (step cfg s tid).threads = g (step cfg s tid).mem := by
  refine step_inv cfg (fun s' => sumT w s'.threads = g s'.mem) s tid h fun th hth => ?_
  have hfr := sumT_set w s.threads tid th (exec cfg s.mem th).2 hth
  have hle := le_sumT w s.threads tid th hth
  have := hloc s.mem th (by omega)
  simp only
  omega

theorem run_inv (cfg : Cfg) (P : State → Prop) (hstep : ∀ s tid, P s → P (step cfg s tid))
    (s : State) (sched : List Nat) (h : P s) : P (run cfg s sched) := by
  induction sched generalizing s with
  | nil => exact h
  | cons t l ih => exact ih (step cfg s t) (hstep s t h)

theorem run_append (cfg : Cfg) (s : State) (a b : List Nat) :
    run cfg s (a ++ b) = run cfg (run cfg s a) b := by simp [run, List.foldl_append]

/-- induction over the reachable states: the step may use whatever is already known of the state
reached by the prefix -/
theorem run_ind (cfg : Cfg) (progs : List (List Cmd)) (P : State → Prop) (h0 : P (init progs))
    (hstep : ∀ pre tid, P (run cfg (init progs) pre) → P (step cfg (run cfg (init progs) pre) tid))
    (sched : List Nat) : P (run cfg (init progs) sched) :=
  (run_inv cfg (fun s => ∃ pre, s = run cfg (init progs) pre ∧ P s)
    (fun _ tid ⟨pre, e, h⟩ => ⟨pre ++ [tid], by rw [run_append, ← e]; rfl, e ▸ hstep pre tid (e ▸ h)⟩)
    _ sched ⟨[], rfl, h0⟩).elim fun _ h => h.2

@[simp] theorem run_nil (cfg : Cfg) (s : State) : run cfg s [] = s := rfl
@[simp] theorem run_cons (cfg : Cfg) (s : State) (t : Nat) (l : List Nat) :
    run cfg s (t :: l) = run cfg (step cfg s t) l := rfl

def ind (p : Prop) [Decidable p] : Nat := if p then 1 else 0

theorem toNat_upd_true {α : Type} [DecidableEq α] (f : α → Bool) (a x : α) (h : f a = false) :
    (upd f a true x).toNat = (f x).toNat + ind (x = a) := by
  unfold upd ind
  split
  · rename_i e; rw [e, h]; rfl
  · rfl

/-- clearing a flag takes its one holder off (truncated subtraction: nothing happens to a clear flag) -/
theorem toNat_upd_false {α : Type} [DecidableEq α] (f : α → Bool) (a x : α) :
    (upd f a false x).toNat = (f x).toNat - ind (x = a) := by
  have := Bool.toNat_le (f x)
  unfold upd ind
  split
  · show 0 = _; omega
  · rfl

theorem count_cons_ind (l : List Nat) (a i : Nat) : (a :: l).count i = l.count i + ind (i = a) := by
  by_cases h : i = a
  · subst h; simp [ind]
  · have : ¬ a = i := fun h' => h h'.symm
    simp [ind, h, this]

theorem pick_mem (l : List Nat) (j x : Nat) (h : pick l j = some x) : x ∈ l := by
  unfold pick at h
  exact List.mem_of_getElem? h

theorem count_erase_add (l : List Nat) (x y : Nat) (h : x ∈ l) :
    (l.erase x).count y + ind (y = x) = l.count y := by
  have := (List.perm_cons_erase h).count_eq y
  rw [count_cons_ind] at this
  omega

theorem sum_map_erase (f : Nat → Nat) (l : List Nat) (x : Nat) (h : x ∈ l) :
    ((l.erase x).map f).sum + f x = (l.map f).sum := by
  have := ((List.perm_cons_erase h).map f).sum_nat
  simp only [List.map_cons, List.sum_cons] at this
  omega

theorem getElem?_lt {α : Type} (l : List α) (i : Nat) (a : α) (h : l[i]? = some a) : i < l.length :=
  (List.getElem?_eq_some_iff.mp h).1

theorem getElem?_set_cases {α : Type} (l : List α) (i k : Nat) (a b x : α) (h : l[i]? = some a)
    (hk : (l.set i b)[k]? = some x) : (i = k ∧ x = b) ∨ (i ≠ k ∧ l[k]? = some x) := by
  rw [List.getElem?_set] at hk
  by_cases e : i = k
  · subst e
    rw [if_pos rfl, if_pos (getElem?_lt _ _ _ h)] at hk
    exact Or.inl ⟨rfl, (Option.some.inj hk).symm⟩
  · rw [if_neg e] at hk; exact Or.inr ⟨e, hk⟩

theorem forall_mem_set {α : Type} {P : α → Prop} {l : List α} {i : Nat} {b : α} (h : ∀ x ∈ l, P x) (hb : P b) :
    ∀ x ∈ l.set i b, P x :=
  fun x hx => (List.mem_or_eq_of_mem_set hx).elim (h x) (· ▸ hb)

theorem run_replicate_succ (cfg : Cfg) (s : State) (tid n : Nat) :
    run cfg s (List.replicate (n + 1) tid) = run cfg (step cfg s tid) (List.replicate n tid) := rfl

/-- thread `tid`, running alone from `s`, reaches a state satisfying `P` -/
def Solo (cfg : Cfg) (tid : Nat) (s : State) (P : State → Prop) : Prop :=
  ∃ n, P (run cfg s (List.replicate n tid))

def iter (cfg : Cfg) : Nat → Mem × Thread → Mem × Thread
  | 0, x => x
  | n + 1, x => iter cfg n (exec cfg x.1 x.2)

theorem run_replicate (cfg : Cfg) (tid : Nat) (n : Nat) : ∀ (s : State) (th : Thread), s.threads[tid]? = some th →
    run cfg s (List.replicate n tid)
      = ⟨(iter cfg n (s.mem, th)).1, s.threads.set tid (iter cfg n (s.mem, th)).2⟩ := by
  induction n with
  | zero =>
    intro s th h
    obtain ⟨m, l⟩ := s
    simp only [List.replicate_zero, run_nil, iter]
    obtain ⟨hlt, rfl⟩ := List.getElem?_eq_some_iff.mp h
    simp only [List.set_getElem_self]
  | succ n ih =>
    intro s th h
    have hlt := getElem?_lt _ _ _ h
    rw [run_replicate_succ, step_some cfg s tid th h, ih _ (exec cfg s.mem th).2 (by simp [hlt])]
    simp [iter]

theorem iter_add (cfg : Cfg) (a b : Nat) (x : Mem × Thread) : iter cfg (a + b) x = iter cfg b (iter cfg a x) := by
  induction a generalizing x with
  | zero => simp [iter]
  | succ a ih => rw [Nat.add_right_comm]; exact ih _

def Reach (cfg : Cfg) (x y : Mem × Thread) : Prop := ∃ n, iter cfg n x = y

theorem Reach.of_eq {cfg : Cfg} {x y : Mem × Thread} (h : x = y) : Reach cfg x y := ⟨0, h⟩

theorem Reach.trans {cfg : Cfg} {x y z : Mem × Thread} (h1 : Reach cfg x y) (h2 : Reach cfg y z) : Reach cfg x z := by
  obtain ⟨a, rfl⟩ := h1; obtain ⟨b, rfl⟩ := h2; exact ⟨a + b, iter_add cfg a b x⟩

theorem run_of_iter {cfg : Cfg} {tid n : Nat} {s : State} {th th' : Thread} {m' : Mem}
    (hth : s.threads[tid]? = some th) (he : iter cfg n (s.mem, th) = (m', th')) :
    (run cfg s (List.replicate n tid)).threads[tid]? = some th' ∧ (run cfg s (List.replicate n tid)).mem = m' := by
  rw [run_replicate cfg tid n s th hth, he]
  simp [getElem?_lt _ _ _ hth]

theorem Reach.solo {cfg : Cfg} {s : State} {tid : Nat} {th : Thread} {y : Mem × Thread} {P : State → Prop}
    (hth : s.threads[tid]? = some th) (h : Reach cfg (s.mem, th) y)
    (hP : ∀ s' : State, s'.mem = y.1 → s'.threads[tid]? = some y.2 → P s') : Solo cfg tid s P := by
  obtain ⟨n, rfl⟩ := h
  have h := run_of_iter hth (rfl : iter cfg n (s.mem, th) = (_, _))
  exact ⟨n, hP _ h.2 h.1⟩

theorem step_of_exec {cfg : Cfg} {tid : Nat} {s : State} {th th' : Thread} {m' : Mem}
    (hth : s.threads[tid]? = some th) (he : exec cfg s.mem th = (m', th')) :
    (step cfg s tid).threads[tid]? = some th' ∧ (step cfg s tid).mem = m' := by
  rw [step_some cfg s tid th hth, he]
  simp [getElem?_lt _ _ _ hth]

end CMacVerif.Atomics
