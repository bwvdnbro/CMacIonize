import CMacVerif.Lemmas.AtomicsFrame
/-!
C08 lemmas: `AtomicValue::max` at the granularity of its individual atomic operations
(load; compare-exchange; on failure reload and recompute).  The cells `Mem.mx` are only written
by `max`; `Mem.maxTaken` (ThreadSafeVector's `_max_number_taken`) likewise.

* monotone: no transition of any thread decreases a cell;
* upper bound: the cell never exceeds a bound of the initial value and of all arguments;
* lower bound: every argument `v` is either still pending (its call has not completed) or `≤` cell.
-/
namespace CMacVerif.Atomics

def cmdMaxVal (c : Nat) : Cmd → List Int
  | .maxC c' v => if c' = c then [v] else []
  | _ => []

def pcMaxVal (c : Nat) : PC → List Int
  | .cMax c' v => if c' = c then [v] else []
  | .cMaxCas c' v _ => if c' = c then [v] else []
  | _ => []

/-- arguments of the `max` calls on cell `c` the thread has not completed yet -/
def pendVals (c : Nat) (th : Thread) : List Int := pcMaxVal c th.pc ++ th.prog.flatMap (cmdMaxVal c)

/-- all arguments of all `max` calls on cell `c` in the programs -/
def allVals (c : Nat) (progs : List (List Cmd)) : List Int := progs.flatMap (·.flatMap (cmdMaxVal c))

/-- maximum of 0 (the initial value) and a list -/
def lmax : List Int → Int
  | [] => 0
  | v :: l => if v < lmax l then lmax l else v

theorem le_lmax (l : List Int) (v : Int) (h : v ∈ l) : v ≤ lmax l := by
  induction l with
  | nil => cases h
  | cons a l ih =>
    simp only [lmax]
    rcases List.mem_cons.mp h with rfl | h
    · split <;> omega
    · have := ih h; split <;> omega

theorem lmax_nonneg (l : List Int) : 0 ≤ lmax l := by
  induction l with
  | nil => simp [lmax]
  | cons a l ih => simp only [lmax]; split <;> omega

theorem lmax_le (l : List Int) (x : Int) (h0 : 0 ≤ x) (h : ∀ v ∈ l, v ≤ x) : lmax l ≤ x := by
  induction l with
  | nil => simpa [lmax] using h0
  | cons a l ih =>
    have := ih (fun v hv => h v (by simp [hv]))
    have := h a (by simp)
    simp only [lmax]; split <;> omega

theorem le_max_write (cur old v : Int) (h : cur = old) : cur ≤ if v < old then old else v := by
  subst h; split <;> omega

theorem exec_maxTaken_le (cfg : Cfg) (m : Mem) (th : Thread) : m.maxTaken ≤ (exec cfg m th).1.maxTaken := by
  refine exec_pool_cases cfg m th (fun _ _ => Int.le_refl _) (fun _ _ _ _ => Int.le_refl _) ?own fun hs _ _ => ?other
  case own =>
    rintro th pc r rfl hs
    cases hs
    case storeMax i n old r h => exact le_max_write _ _ _ h
    all_goals exact Int.le_refl _
  case other => rw [hs.maxTaken]; exact Int.le_refl _

theorem pendVals_dispatch (cfg : Cfg) (c : Nat) (th : Thread) (c0 : Cmd) (hpc : th.pc = .idle) :
    pendVals c (dispatch cfg th c0) = cmdMaxVal c c0 ++ pendVals c th := by
  obtain ⟨pc⟩ := th
  cases hpc
  cases c0 <;> simp only [dispatch] <;> (repeat' split) <;> rfl

theorem pcMaxVal_of_part (c : Nat) (pc : PC) (h : pc.part ≠ some .max) : pcMaxVal c pc = [] := by
  cases pc <;> first | rfl | exact absurd rfl h

structure PendStep (c : Nat) (m : Mem) (th : Thread) (r : Mem × Thread) : Prop where
  mono : m.mx c ≤ r.1.mx c
  shrink : ∀ v ∈ pendVals c r.2, v ∈ pendVals c th
  done_le : ∀ v ∈ pendVals c th, v ∈ pendVals c r.2 ∨ v ≤ r.1.mx c
  bound : ∀ B, m.mx c ≤ B → (∀ v ∈ pendVals c th, v ≤ B) → r.1.mx c ≤ B

theorem exec_pend (cfg : Cfg) (m : Mem) (th : Thread) (c : Nat) : PendStep c m th (exec cfg m th) := by
  have same : ∀ r : Mem × Thread, pendVals c r.2 = pendVals c th → r.1.mx c = m.mx c → PendStep c m th r := by
    intro r hp hm
    exact ⟨Int.le_of_eq hm.symm, fun v h => hp ▸ h, fun v h => Or.inl (hp ▸ h), fun B h _ => hm ▸ h⟩
  refine exec_cases cfg m th .max (fun _ _ => same _ rfl rfl)
    (fun c0 rest hpc hprog => same _ (by
      rw [pendVals_dispatch cfg c { th with prog := rest } c0 hpc]
      simp only [pendVals, hpc, hprog, pcMaxVal, List.flatMap_cons, List.nil_append]) rfl)
    (fun hp => ?own) fun q hq hp hold hnew => ?other
  case own =>
    obtain ⟨pc⟩ := th
    cases pc <;> cases hp
    case cMaxCas c' v old =>
      simp only [exec]
      split
      · by_cases hc : c' = c
        · subst hc
          refine ⟨?_, fun w h => ?_, fun w h => ?_, fun B hB hp => ?_⟩ <;>
            simp only [pendVals, pcMaxVal, ret, upd_apply, if_true, List.nil_append, List.cons_append,
              List.mem_cons] at *
          · split <;> omega
          · exact Or.inr h
          · rcases h with rfl | h
            · right; split <;> omega
            · exact Or.inl h
          · have := hp v (Or.inl rfl)
            split <;> omega
        · have hc' : ¬ c = c' := fun h => hc h.symm
          exact same _ (by simp only [pendVals, pcMaxVal, ret, hc, if_false])
            (by simp only [upd_apply, hc', if_false])
      · exact same _ rfl rfl
    all_goals exact same _ rfl rfl
  case other =>
    refine same _ ?_ (congrFun (exec_mx_frame cfg m th q hp hq) c)
    unfold pendVals
    rw [exec_prog cfg m th q hp, pcMaxVal_of_part c _ hnew, pcMaxVal_of_part c th.pc hold]

/-- **monotone**: no cell updated through `max` ever decreases -/
theorem run_mx_mono (cfg : Cfg) (c : Nat) (sched : List Nat) (s : State) :
    s.mem.mx c ≤ (run cfg s sched).mem.mx c ∧ s.mem.maxTaken ≤ (run cfg s sched).mem.maxTaken :=
  let P (s' : State) : Prop := s.mem.mx c ≤ s'.mem.mx c ∧ s.mem.maxTaken ≤ s'.mem.maxTaken
  run_inv cfg P (fun s' tid h => step_inv cfg P s' tid h fun th _ =>
      ⟨Int.le_trans h.1 (exec_pend cfg s'.mem th c).mono, Int.le_trans h.2 (exec_maxTaken_le cfg s'.mem th)⟩)
    s sched ⟨Int.le_refl _, Int.le_refl _⟩

def MaxUB (c : Nat) (B : Int) (s : State) : Prop :=
  s.mem.mx c ≤ B ∧ ∀ th ∈ s.threads, ∀ v ∈ pendVals c th, v ≤ B

def MaxLB (c : Nat) (v : Int) (s : State) : Prop :=
  (∃ (k : Nat) (th : Thread), s.threads[k]? = some th ∧ v ∈ pendVals c th) ∨ v ≤ s.mem.mx c

theorem maxUB_step (cfg : Cfg) (c : Nat) (B : Int) (s : State) (tid : Nat) (h : MaxUB c B s) :
    MaxUB c B (step cfg s tid) := by
  refine step_inv cfg _ s tid h fun th hth => ?_
  have hloc := exec_pend cfg s.mem th c
  have hmem : th ∈ s.threads := List.mem_of_getElem? hth
  exact ⟨hloc.bound B h.1 (h.2 th hmem), forall_mem_set h.2 fun v hv => h.2 th hmem v (hloc.shrink v hv)⟩

theorem maxLB_step (cfg : Cfg) (c : Nat) (v : Int) (s : State) (tid : Nat) (h : MaxLB c v s) :
    MaxLB c v (step cfg s tid) := by
  refine step_inv cfg _ s tid h fun th hth => ?_
  rcases h with ⟨k, thk, hk, hv⟩ | h
  · by_cases hkt : tid = k
    · subst hkt
      rw [hth] at hk; cases hk
      rcases (exec_pend cfg s.mem th c).done_le v hv with h' | h'
      · exact Or.inl ⟨tid, _, by simp [getElem?_lt _ _ _ hth], h'⟩
      · exact Or.inr h'
    · exact Or.inl ⟨k, thk, by simp [hkt, hk], hv⟩
  · exact Or.inr (Int.le_trans h (exec_pend cfg s.mem th c).mono)

theorem mem_allVals (c : Nat) (progs : List (List Cmd)) (v : Int) (h : v ∈ allVals c progs) :
    ∃ (k : Nat) (th : Thread), (init progs).threads[k]? = some th ∧ v ∈ pendVals c th := by
  unfold allVals at h
  obtain ⟨p, hp, hv⟩ := List.mem_flatMap.mp h
  obtain ⟨k, hk, hke⟩ := List.mem_iff_getElem.mp hp
  refine ⟨k, { prog := p }, ?_, by simp [pendVals, pcMaxVal, hv]⟩
  simp [init, List.getElem?_map, List.getElem?_eq_getElem hk, hke]

theorem maxUB_init (c : Nat) (progs : List (List Cmd)) : MaxUB c (lmax (allVals c progs)) (init progs) := by
  refine ⟨by simpa [init] using lmax_nonneg _, ?_⟩
  intro th hth v hv
  simp only [init, List.mem_map] at hth
  obtain ⟨p, hp, rfl⟩ := hth
  apply le_lmax
  unfold allVals
  exact List.mem_flatMap.mpr ⟨p, hp, by simpa [pendVals, pcMaxVal] using hv⟩

end CMacVerif.Atomics
