import CMacVerif.Lemmas.BucketsGeom
import Mathlib.Tactic.FieldSimp
/-! The bucket grid built by the constructor of `PointLocations` satisfies the geometric
hypotheses of the nearest-neighbour theorem (C16): every position is stored in exactly the bucket
whose cell contains it, the query lies in its anchor cell. -/
namespace CMacVerif.Buckets
open CMacVerif.GridNum CMacVerif.Shells

theorem bucketIndex_cell (p a s : ℝ) (n : Int) (hs : 0 < s) (hn : 0 < n) (h1 : a ≤ p) (h2 : p < a + s) :
    (0 ≤ bucketIndex n p a s ∧ bucketIndex n p a s < n) ∧
    a + ((bucketIndex n p a s : Int) : ℝ) * (s / (n : ℝ)) ≤ p ∧
    p < a + ((bucketIndex n p a s + 1 : Int) : ℝ) * (s / (n : ℝ)) := by
  unfold bucketIndex
  exact toInt_cell p a s n hs hn h1 h2 _ (by rw [ofInt_real])

theorem anchorIndex_cell (p a s : ℝ) (n : Int) (hs : 0 < s) (hn : 0 < n) (h1 : a ≤ p) (h2 : p < a + s) :
    (0 ≤ anchorIndex p a (s / (n : ℝ)) ∧ anchorIndex p a (s / (n : ℝ)) < n) ∧
    a + ((anchorIndex p a (s / (n : ℝ)) : Int) : ℝ) * (s / (n : ℝ)) ≤ p ∧
    p < a + ((anchorIndex p a (s / (n : ℝ)) + 1 : Int) : ℝ) * (s / (n : ℝ)) := by
  unfold anchorIndex
  have hnR : (0 : ℝ) < (n : ℝ) := by exact_mod_cast hn
  exact toInt_cell p a s n hs hn h1 h2 _ (by field_simp)

theorem mem_bucketsFrom (ids : Nat → Int × Int × Int) (npts : Nat) (ix iy iz : Int) (q : Nat) :
    q ∈ bucketsFrom ids npts ix iy iz ↔ q < npts ∧ (ids q).1 = ix ∧ (ids q).2.1 = iy ∧ (ids q).2.2 = iz := by
  unfold bucketsFrom
  rw [List.mem_filter, List.mem_range, decide_eq_true_eq]

/-- the box of the constructor as a `Box3` -/
def boxOf (a s : V3 ℝ) : Box3 ℝ := ⟨a.x, a.y, a.z, s.x, s.y, s.z⟩

theorem build_geo (n : Int) (a s : V3 ℝ) (pos : Nat → V3 ℝ) (npts : Nat) (p : V3 ℝ) (hn : 0 < n)
    (hb : PosBox (boxOf a s)) (hpts : ∀ i < npts, InBox (boxOf a s) (pos i)) (hp : InBox (boxOf a s) p) :
    Geo (build n a s pos npts) p
      (anchorIndex p.x (build n a s pos npts).anchor.x (build n a s pos npts).cs.x)
      (anchorIndex p.y (build n a s pos npts).anchor.y (build n a s pos npts).cs.y)
      (anchorIndex p.z (build n a s pos npts).anchor.z (build n a s pos npts).cs.z) := by
  obtain ⟨sx, sy, sz⟩ := hb
  obtain ⟨px1, px2, py1, py2, pz1, pz2⟩ := hp
  simp only [boxOf] at sx sy sz px1 px2 py1 py2 pz1 pz2
  have hnR : (0 : ℝ) < (n : ℝ) := by exact_mod_cast hn
  simp only [build, cellSides, ofInt_real]
  have ax := anchorIndex_cell p.x a.x s.x n sx hn px1 px2
  have ay := anchorIndex_cell p.y a.y s.y n sy hn py1 py2
  have az := anchorIndex_cell p.z a.z s.z n sz hn pz1 pz2
  refine ⟨div_pos sx hnR, div_pos sy hnR, div_pos sz hnR, ax.1, ay.1, az.1, ax.2, ay.2, az.2, ?_⟩
  intro ix iy iz q hq
  rw [mem_bucketsFrom] at hq
  obtain ⟨hq, rfl, rfl, rfl⟩ := hq
  obtain ⟨qx1, qx2, qy1, qy2, qz1, qz2⟩ := hpts q hq
  simp only [boxOf] at qx1 qx2 qy1 qy2 qz1 qz2
  simp only [pointBucket]
  have bx := bucketIndex_cell (pos q).x a.x s.x n sx hn qx1 qx2
  have by' := bucketIndex_cell (pos q).y a.y s.y n sy hn qy1 qy2
  have bz := bucketIndex_cell (pos q).z a.z s.z n sz hn qz1 qz2
  exact ⟨bx.2, by'.2, bz.2⟩

theorem build_allPts (n : Int) (a s : V3 ℝ) (pos : Nat → V3 ℝ) (npts : Nat) (ax ay az : Int) (hn : 0 < n)
    (hb : PosBox (boxOf a s)) (hpts : ∀ i < npts, InBox (boxOf a s) (pos i)) (q : Nat) :
    AllPts (build n a s pos npts) ax ay az q ↔ q < npts := by
  constructor
  · rintro ⟨k, _, hq⟩
    simp only [bucketAt, build] at hq
    exact ((mem_bucketsFrom _ _ _ _ _ _).mp hq).1
  · intro hq
    obtain ⟨sx, sy, sz⟩ := hb
    obtain ⟨qx1, qx2, qy1, qy2, qz1, qz2⟩ := hpts q hq
    simp only [boxOf] at sx sy sz qx1 qx2 qy1 qy2 qz1 qz2
    have bx := bucketIndex_cell (pos q).x a.x s.x n sx hn qx1 qx2
    have by' := bucketIndex_cell (pos q).y a.y s.y n sy hn qy1 qy2
    have bz := bucketIndex_cell (pos q).z a.z s.z n sz hn qz1 qz2
    obtain ⟨k, hk⟩ := iter_surjective
      ⟨bucketIndex n (pos q).x a.x s.x - ax, bucketIndex n (pos q).y a.y s.y - ay,
       bucketIndex n (pos q).z a.z s.z - az,
       maxNorm (bucketIndex n (pos q).x a.x s.x - ax) (bucketIndex n (pos q).y a.y s.y - ay)
         (bucketIndex n (pos q).z a.z s.z - az)⟩ rfl
    refine ⟨k, ?_, ?_⟩
    · rw [hk]; unfold Inside; simp only [build]
      refine ⟨?_, ?_, ?_, ?_, ?_, ?_⟩ <;> omega
    · rw [hk]; simp only [bucketAt, build]
      rw [mem_bucketsFrom]
      simp only [pointBucket]
      refine ⟨hq, ?_, ?_, ?_⟩ <;> omega

end CMacVerif.Buckets
