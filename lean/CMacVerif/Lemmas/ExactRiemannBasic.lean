import CMacVerif.Model.ExactRiemann
import CMacVerif.Lemmas.RiemannVacuum
/-!
Facts about `Model/ExactRiemann.lean` at `ℝ` that need no analysis, shared by the symmetry lemmas of
C05 (`Lemmas/ExactFlux`) and by C11: identical states, `sampleStar` and the right fan in terms of the
left, a sampled state boosted or mirrored, the outcomes of the hand-over after the Newton phase.
-/
namespace CMacVerif.ExactRiemann
open CMacVerif CMacVerif.RiemannVacuum

/-- `std::isinf` never holds for a real number -/
theorem not_isInf (x : ℝ) : ¬ IsInf x := fun h => h.2 (le_refl _)

theorem sampleStar_eq (c : Consts ℝ) (s : Star ℝ) (ρL uL PL ρR uR PR ξ : ℝ) :
    sampleStar c s ρL uL PL ρR uR PR ξ =
      if s.ustar < ξ then (1, sampleRightState c ρR uR PR s.aR (1.0 / PR) s.ustar s.pstar ξ)
      else (-1, sampleLeftState c ρL uL PL s.aL (1.0 / PL) s.ustar s.pstar ξ) := by
  unfold sampleStar
  rw [if_neg (not_or.mpr ⟨not_isInf _, not_isInf _⟩)]

noncomputable def Sol.boost (w : ℝ) (s : Sol ℝ) : Sol ℝ :=
  ⟨s.rho, s.u + w, s.P, s.br⟩

def Sol.MirrorOf (s t : Sol ℝ) : Prop :=
  s.rho = t.rho ∧ s.u = -t.u ∧ s.P = t.P

theorem Sol.MirrorOf.symm {s t : Sol ℝ} (h : s.MirrorOf t) :
    t.MirrorOf s :=
  let ⟨hr, hu, hP⟩ := h
  ⟨hr.symm, by rw [hu, neg_neg], hP.symm⟩

variable {c : Consts ℝ}

theorem fanR_eq_fanL_neg {ρ P a : ℝ} (u ξ : ℝ) (br : ℕ) : fanR c ρ u P a ξ br =
    ⟨(fanL c ρ (-u) P a (-ξ) br).rho, -(fanL c ρ (-u) P a (-ξ) br).u,
      (fanL c ρ (-u) P a (-ξ) br).P, br⟩ := by
  have hb : c.tdgp1 - c.gm1dgp1 * (u - ξ) / a = c.tdgp1 + c.gm1dgp1 * (-u - -ξ) / a := by ring
  unfold fanR fanL
  simp only [hb]
  congr 1; ring

theorem fb_shock {P A B Pinv afac p : ℝ} (hp : P < p) :
    fb c P A B Pinv afac p = (p - P) * Real.sqrt (A / (p + B)) := by
  simp only [fb, if_pos hp, RiemannVacuum.sqrt_real]

theorem fb_raref {P A B Pinv afac p : ℝ} (hp : p ≤ P) :
    fb c P A B Pinv afac p = afac * ((p * Pinv) ^ c.gm1d2g - 1) := by
  simp only [fb, if_neg (not_lt.mpr hp), RiemannVacuum.pow_real, lit1]

/-- the rarefaction formula vanishes at `p = P` (and so does the shock formula, trivially): the
two branches of `fb` agree there -/
theorem raref_at_P {P Pinv : ℝ} (c : Consts ℝ) (afac : ℝ) (hP : P * Pinv = 1) :
    afac * ((P * Pinv) ^ c.gm1d2g - 1) = 0 := by
  rw [hP, Real.one_rpow, sub_self, mul_zero]

theorem fb_at_P {P A B Pinv afac : ℝ} (hP : P * Pinv = 1) : fb c P A B Pinv afac P = 0 := by
  rw [fb_raref (le_refl P)]; exact raref_at_P c afac hP

/-- path 1 with both fuels untouched: no Newton pass, no Brent -/
theorem findPstar_of_root (F F' : ℝ → ℝ) (nf bf : ℕ) {p : ℝ} (h : F p = 0) :
    findPstar F F' nf bf p = ⟨p, 1, nf, bf, false⟩ := by
  have hl : newtonPhase F F' nf p = (⟨0.0, F 0.0, p, F p⟩, nf) := by
    unfold newtonPhase
    simp only [h, mul_zero, lit0, le_refl, if_true]
    cases nf with
    | zero => rfl
    | succ n =>
      unfold newtonLoop
      simp only [lit0, lt_irrefl, and_false, if_false]
  unfold findPstar handOver
  simp only [hl, h, lit0, lt_irrefl, and_false, if_false]

section handOver
variable {F : ℝ → ℝ} {bf : ℕ} {r : NState ℝ × ℕ}

theorem handOver_of_not (h : ¬ (notConverged r.1 ∧ (0.0 : ℝ) < r.1.fPguess)) :
    handOver F bf r = ⟨r.1.Pguess, 1, r.2, bf, false⟩ := by
  unfold handOver; simp only [if_neg h]

theorem handOver_path_of_cond (h : notConverged r.1 ∧ (0.0 : ℝ) < r.1.fPguess) :
    (handOver F bf r).path = 2 := by
  unfold handOver; simp only [if_pos h]; split <;> rfl

/-- `hn`: a sign change, so `solve_brent` runs its loop and returns its `b` (path 2) -/
theorem handOver_of_brent (h : notConverged r.1 ∧ (0.0 : ℝ) < r.1.fPguess)
    (hn : ¬ (0.0 : ℝ) < r.1.fPstar * r.1.fPguess) :
    handOver F bf r =
      ⟨(brentLoop F bf (brentInit r.1.Pstar r.1.Pguess r.1.fPstar r.1.fPguess)).1.b, 2, r.2,
        (brentLoop F bf (brentInit r.1.Pstar r.1.Pguess r.1.fPstar r.1.fPguess)).2, false⟩ := by
  unfold handOver; simp only [if_pos h, solveBrent, if_neg hn]

variable (F bf r)

theorem handOver_newtonLeft : (handOver F bf r).newtonLeft = r.2 := by
  by_cases h : notConverged r.1 ∧ (0.0 : ℝ) < r.1.fPguess
  · unfold handOver; simp only [if_pos h]; split <;> rfl
  · rw [handOver_of_not h]

theorem handOver_path : (handOver F bf r).path = 1 ∨ (handOver F bf r).path = 2 := by
  by_cases h : notConverged r.1 ∧ (0.0 : ℝ) < r.1.fPguess
  · exact Or.inr (handOver_path_of_cond h)
  · exact Or.inl (by rw [handOver_of_not h])

end handOver

theorem guessPT_identical (c : Consts ℝ) {P : ℝ} (hP : 0 < P) (a A B : ℝ) :
    (guessPT c P a A B P a A B 0).1 = P := by
  have hs : smallP P P ≤ P := by
    unfold smallP; rw [lit5em9]; linarith
  have hppv : ppv P a P a 0 = P := by
    unfold ppv
    simp only [amax_real]
    rw [lit05, lit0125]
    have : 1 / 2 * (P + P) - 1 / 8 * 0 * (P + P) * (a + a) = P := by ring
    rw [this]; exact max_eq_right hs
  unfold guessPT
  simp only [hppv, amax_real, amin_real, min_self, max_self, div_self hP.ne', le_refl, and_true]
  rw [if_pos (by rw [lit2]; norm_num)]
  exact max_eq_right hs

/-- two identical states: the initial guess `P` is a root, so `P* = P`, `u* = u`, for every fuel -/
theorem star_identical (c : Consts ℝ) (nf bf : ℕ) {rho P : ℝ} (u : ℝ) (hP : 0 < P) :
    let s := star c nf bf rho u P rho u P
    s.res = ⟨P, 1, nf, bf, false⟩ ∧ s.pstar = P ∧ s.ustar = u := by
  intro s
  have hr : s.res = ⟨P, 1, nf, bf, false⟩ := by
    simp only [s, star, sub_self, guessPT_identical c hP]
    exact findPstar_of_root _ _ nf bf
      (by unfold f; rw [fb_at_P (mul_one_div_lit hP.ne')]; ring)
  refine ⟨hr, by rw [show s.pstar = s.res.pstar from rfl, hr], ?_⟩
  show ustarOf u u s.fL s.fR = u
  rw [show s.fL = s.fR from rfl, ustarOf, lit05]; ring

end CMacVerif.ExactRiemann
