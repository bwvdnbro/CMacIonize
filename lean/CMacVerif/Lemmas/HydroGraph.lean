import CMacVerif.Model.HydroGraph
import CMacVerif.Lemmas.MixedRadix
import Mathlib.Tactic.SplitIfs
import Mathlib.Data.List.Nodup
import Mathlib.Data.List.Range
/-! The hydro task graph of an arbitrary layout (C07): neighbours across a face are mutual; every edge goes
from one phase to the next; a gradient or flux sweep is tied to the per-cell tasks of the subgrids in its
`footprint` (`Sweep`), so that child and parent lists are inverse to each other with multiplicity (`consistent`). -/
namespace CMacVerif.HydroGraph

theorem up1_down1 {n : Nat} {p : Bool} {i j : Nat} (hi : i < n) (h : up1 n p i = some j) :
    j < n ∧ down1 n p j = some i := by
  unfold up1 at h
  unfold down1
  split_ifs at h with h1 h2
  · obtain rfl := Option.some.inj h
    exact ⟨h1, if_pos (Nat.succ_pos i)⟩
  · obtain rfl := Option.some.inj h
    refine ⟨Nat.zero_lt_of_lt hi, ?_⟩
    rw [if_neg (Nat.lt_irrefl 0), if_pos h2, show n - 1 = i by omega]

theorem down1_up1 {n : Nat} {p : Bool} {i j : Nat} (hi : i < n) (h : down1 n p i = some j) :
    j < n ∧ up1 n p j = some i := by
  unfold down1 at h
  unfold up1
  split_ifs at h with h1 h2
  · obtain rfl := Option.some.inj h
    refine ⟨by omega, ?_⟩
    rw [if_pos (by omega), show i - 1 + 1 = i by omega]
  · obtain rfl := Option.some.inj h
    refine ⟨by omega, ?_⟩
    rw [if_neg (by omega), if_pos h2, show i = 0 by omega]

theorem valid_iff (L : Layout) (g : Sub) :
    valid L g = true ↔ g.1 < L.nx ∧ g.2.1 < L.ny ∧ g.2.2 < L.nz := by
  simp [valid, and_assoc]

theorem coord_lt {L : Layout} {g : Sub} (h : valid L g = true) (ax : Axis) : coord g ax < len L ax := by
  rw [valid_iff] at h
  cases ax <;> simp [coord, len, h]

theorem coord_setCoord (g : Sub) (ax : Axis) (v : Nat) : coord (setCoord g ax v) ax = v := by
  cases ax <;> rfl

theorem setCoord_coord (g : Sub) (ax : Axis) : setCoord g ax (coord g ax) = g := by
  cases ax <;> rfl

theorem setCoord_setCoord (g : Sub) (ax : Axis) (v w : Nat) :
    setCoord (setCoord g ax v) ax w = setCoord g ax w := by
  cases ax <;> rfl

theorem valid_setCoord {L : Layout} {g : Sub} (h : valid L g = true) (ax : Axis) {v : Nat}
    (hv : v < len L ax) : valid L (setCoord g ax v) = true := by
  rw [valid_iff] at h ⊢
  cases ax
  · exact ⟨hv, h.2⟩
  · exact ⟨h.1, hv, h.2.2⟩
  · exact ⟨h.1, h.2.1, hv⟩

theorem ngb_roundtrip {L : Layout} {ax : Axis} {f f' : Nat → Option Nat}
    (hf : ∀ {i j}, i < len L ax → f i = some j → j < len L ax ∧ f' j = some i)
    {g n : Sub} (hg : valid L g = true) (h : (f (coord g ax)).map (setCoord g ax) = some n) :
    valid L n = true ∧ (f' (coord n ax)).map (setCoord n ax) = some g := by
  obtain ⟨j, hj, rfl⟩ := Option.map_eq_some_iff.mp h
  obtain ⟨hlt, hback⟩ := hf (coord_lt hg ax) hj
  refine ⟨valid_setCoord hg ax hlt, ?_⟩
  rw [coord_setCoord, hback, Option.map_some, setCoord_setCoord, setCoord_coord]

/-- neighbour relations across a face are mutual, for every layout and periodicity
(including axes with one or two subgrids) -/
theorem ngbUp_ngbDown {L : Layout} {ax : Axis} {g n : Sub} (hg : valid L g = true)
    (h : ngbUp L ax g = some n) : valid L n = true ∧ ngbDown L ax n = some g :=
  ngb_roundtrip up1_down1 hg h

theorem ngbDown_ngbUp {L : Layout} {ax : Axis} {g n : Sub} (hg : valid L g = true)
    (h : ngbDown L ax g = some n) : valid L n = true ∧ ngbUp L ax n = some g :=
  ngb_roundtrip down1_up1 hg h

theorem ngb_mutual {L : Layout} {ax : Axis} {g n : Sub} (hg : valid L g = true) (hn : valid L n = true) :
    ngbUp L ax g = some n ↔ ngbDown L ax n = some g :=
  ⟨fun h => (ngbUp_ngbDown hg h).2, fun h => (ngbDown_ngbUp hn h).2⟩

/-- common form of `gradDownTask` and `fluxDownTask` -/
def downTask (L : Layout) (up dn : Slot) (ax : Axis) (g : Sub) : Task :=
  match ngbDown L ax g with
  | none => ⟨g, dn⟩
  | some m => ⟨m, up⟩

theorem gradDownTask_def (L : Layout) (ax : Axis) (g : Sub) :
    gradDownTask L ax g = downTask L (.gradUp ax) (.gradDown ax) ax g := rfl

theorem fluxDownTask_def (L : Layout) (ax : Axis) (g : Sub) :
    fluxDownTask L ax g = downTask L (.fluxUp ax) (.fluxDown ax) ax g := rfl

theorem downTask_eq_iff (L : Layout) (up dn : Slot) (ax : Axis) (b a : Sub) (s : Slot) :
    downTask L up dn ax b = ⟨a, s⟩ ↔
      (b = a ∧ ngbDown L ax a = none ∧ dn = s) ∨ (ngbDown L ax b = some a ∧ up = s) := by
  unfold downTask
  cases h : ngbDown L ax b with
  | none =>
    simp only [Task.mk.injEq, reduceCtorEq, false_and, or_false]
    exact ⟨fun ⟨e, es⟩ => ⟨e, e ▸ h, es⟩, fun ⟨e, _, es⟩ => ⟨e, es⟩⟩
  | some m =>
    simp only [Task.mk.injEq, Option.some.injEq]
    exact ⟨Or.inr, fun h' => h'.resolve_left fun ⟨e, hn, _⟩ => by rw [← e, h] at hn; cases hn⟩

theorem slot_of_mem_optTask {o : Option Sub} {s : Slot} {t : Task} (h : t ∈ optTask o s) :
    t.slot = s := by
  cases o with
  | none => nomatch h
  | some n => rw [List.mem_singleton.mp h]

theorem phase_gradDownTask (L : Layout) (ax : Axis) (g : Sub) : phase (gradDownTask L ax g).slot = 0 := by
  unfold gradDownTask
  cases ngbDown L ax g <;> rfl

theorem phase_fluxDownTask (L : Layout) (ax : Axis) (g : Sub) : phase (fluxDownTask L ax g).slot = 3 := by
  unfold fluxDownTask
  cases ngbDown L ax g <;> rfl

theorem phase_children (L : Layout) (p : Task) :
    ∀ c ∈ children L p, phase c.slot = phase p.slot + 1 := by
  obtain ⟨g, sp⟩ := p
  cases sp with
  | gradUp ax | fluxUp ax =>
    exact List.forall_mem_cons.mpr ⟨rfl, fun c hc => by rw [slot_of_mem_optTask hc]; rfl⟩
  | predict =>
    simp only [children, List.forall_mem_cons, phase_fluxDownTask]
    exact ⟨rfl, rfl, rfl, rfl, rfl, rfl, rfl, fun _ h => nomatch h⟩
  | updPrim => exact fun _ h => nomatch h
  | _ => exact List.forall_mem_singleton.mpr rfl

theorem phase_parents (L : Layout) (c : Task) :
    ∀ p ∈ parents L c, phase c.slot = phase p.slot + 1 := by
  obtain ⟨g, sc⟩ := c
  cases sc with
  | fluxUp ax =>
    exact List.forall_mem_cons.mpr ⟨rfl, fun c hc => by rw [slot_of_mem_optTask hc]; rfl⟩
  | limiter | updCons =>
    simp only [parents, List.forall_mem_cons, phase_gradDownTask, phase_fluxDownTask]
    exact ⟨rfl, rfl, rfl, rfl, rfl, rfl, rfl, fun _ h => nomatch h⟩
  | gradInt | gradUp ax | gradDown ax => exact fun _ h => nomatch h
  | _ => exact List.forall_mem_singleton.mpr rfl

theorem exists_of_slotExists {L : Layout} {g : Sub} (hg : valid L g = true) {s : Slot}
    (hs : slotExists L g s = true) : exists_ L ⟨g, s⟩ = true :=
  Bool.and_eq_true_iff.mpr ⟨hg, hs⟩

theorem valid_of_exists {L : Layout} {g : Sub} {s : Slot} (h : exists_ L ⟨g, s⟩ = true) : valid L g = true :=
  (Bool.and_eq_true_iff.mp h).1

theorem children_predict (L : Layout) (g : Sub) : children L ⟨g, .predict⟩ = parents L ⟨g, .updCons⟩ := rfl

theorem count_single (a b : Sub) (s : Slot) :
    [(⟨a, s⟩ : Task)].count ⟨b, s⟩ = if a = b then 1 else 0 := by
  simp only [List.count_cons, List.count_nil, beq_iff_eq, Task.mk.injEq, and_true, Nat.zero_add]

theorem count_map_task (l : List Sub) (s : Slot) (b : Sub) :
    (l.map (⟨·, s⟩ : Sub → Task)).count ⟨b, s⟩ = l.count b := by
  induction l with
  | nil => rfl
  | cons x l ih => simp only [List.map_cons, List.count_cons, ih, beq_iff_eq, Task.mk.injEq, and_true]

/-- the + neighbour a pair sweep works on besides its own subgrid -/
def pairNgb (L : Layout) (t : Task) : Option Sub :=
  match t.slot with
  | .gradUp ax | .fluxUp ax => ngbUp L ax t.g
  | _ => none

theorem footprint_eq (L : Layout) (t : Task) : footprint L t = t.g :: (pairNgb L t).toList := by
  obtain ⟨g, s⟩ := t
  cases s with
  | gradUp ax | fluxUp ax => simp only [footprint, pairNgb]; cases ngbUp L ax g <;> rfl
  | _ => rfl

theorem pairNgb_valid {L : Layout} {t : Task} (ht : valid L t.g = true) {n : Sub}
    (h : pairNgb L t = some n) : valid L n = true := by
  obtain ⟨g, s⟩ := t
  cases s with
  | gradUp ax | fluxUp ax => exact (ngbUp_ngbDown ht h).1
  | _ => cases h

theorem footprint_valid {L : Layout} {t : Task} (ht : valid L t.g = true) :
    ∀ x ∈ footprint L t, valid L x = true := by
  rw [footprint_eq]
  exact List.forall_mem_cons.mpr ⟨ht, fun x hx => pairNgb_valid ht (Option.mem_toList.mp hx)⟩

/-- `s` is a gradient or flux sweep slot, `hub` the per-cell task that follows the stage (`set_dependencies`):
the sweep's task is a parent of the `hub` task of every subgrid it touches (`footprint`), and a flux
sweep is a child of their `predict` tasks -/
inductive Sweep : Slot → Slot → Prop
  | gradInt : Sweep .gradInt .limiter
  | gradUp (ax : Axis) : Sweep (.gradUp ax) .limiter
  | gradDown (ax : Axis) : Sweep (.gradDown ax) .limiter
  | fluxInt : Sweep .fluxInt .updCons
  | fluxUp (ax : Axis) : Sweep (.fluxUp ax) .updCons
  | fluxDown (ax : Axis) : Sweep (.fluxDown ax) .updCons

theorem sweep_of_phase_zero {s : Slot} (h : phase s = 0) : Sweep s .limiter := by
  cases s <;> first | constructor | exact nomatch h

theorem sweep_of_phase_three {s : Slot} (h : phase s = 3) : Sweep s .updCons := by
  cases s <;> first | constructor | exact nomatch h

theorem children_sweep {s hub : Slot} (h : Sweep s hub) (L : Layout) (g : Sub) :
    children L ⟨g, s⟩ = (footprint L ⟨g, s⟩).map (⟨·, hub⟩) := by
  cases h
  case gradUp ax | fluxUp ax => simp only [children, footprint, optTask]; cases ngbUp L ax g <;> rfl
  all_goals rfl

theorem parents_fluxSweep {s : Slot} (h : Sweep s .updCons) (L : Layout) (g : Sub) :
    parents L ⟨g, s⟩ = (footprint L ⟨g, s⟩).map (⟨·, .predict⟩) := by
  cases h
  case fluxUp ax => simp only [parents, footprint, optTask]; cases ngbUp L ax g <;> rfl
  all_goals rfl

theorem count_toList (o : Option Sub) (b : Sub) : o.toList.count b = if o = some b then 1 else 0 := by
  cases o <;>
    simp only [Option.toList, List.count_cons, List.count_nil, beq_iff_eq, Option.some.injEq, reduceCtorEq,
      if_false, Nat.zero_add]

/-- the seven parents of a hub are the existing sweeps that touch its subgrid, each as often as it
touches it (twice for a pair sweep along a periodic axis of one subgrid) -/
theorem count_hub {s hub : Slot} (h : Sweep s hub) {L : Layout} {a b : Sub}
    (ha : exists_ L ⟨a, s⟩ = true) (hb : valid L b = true) :
    (parents L ⟨b, hub⟩).count ⟨a, s⟩ = (footprint L ⟨a, s⟩).count b := by
  have hva : valid L a = true := valid_of_exists ha
  rw [footprint_eq, List.count_cons, count_toList]
  -- Six of the seven listed tasks have another slot; `downTask_eq_iff`, `ngb_mutual` decide the seventh.
  -- The seven-entry comparison does not depend on the axis, so the axis stays a variable in it.
  cases h <;>
    simp only [parents, pairNgb, List.count_cons, List.count_nil, beq_iff_eq, gradDownTask_def, fluxDownTask_def,
      downTask_eq_iff, Task.mk.injEq, Slot.gradUp.injEq, Slot.fluxUp.injEq, Slot.gradDown.injEq,
      Slot.fluxDown.injEq, reduceCtorEq, and_false, or_false, false_or, if_false, Nat.zero_add,
      eq_comm (a := b)]
  case gradInt | fluxInt => simp only [and_true]
  case gradUp ax | fluxUp ax =>
    cases ax <;>
      simp only [ngb_mutual hva hb, reduceCtorEq, and_false, and_true, if_false, Nat.add_zero, Nat.zero_add]
  case gradDown ax | fluxDown ax =>
    have hn : ngbDown L ax a = none := Option.isNone_iff_eq_none.mp (Bool.and_eq_true_iff.mp ha).2
    cases ax <;> simp only [hn, reduceCtorEq, and_false, and_true, if_false, Nat.add_zero, Nat.zero_add]

theorem consistent (L : Layout) (p c : Task) (hp : exists_ L p = true) (hc : exists_ L c = true) :
    (children L p).count c = (parents L c).count p := by
  by_cases h : phase c.slot = phase p.slot + 1
  swap
  · rw [List.count_eq_zero_of_not_mem fun hm => h (phase_children L _ _ hm),
      List.count_eq_zero_of_not_mem fun hm => h (phase_parents L _ _ hm)]
  obtain ⟨g, sp⟩ := p
  obtain ⟨g', sc⟩ := c
  have hg : valid L g = true := valid_of_exists hp
  have hg' : valid L g' = true := valid_of_exists hc
  cases sp <;> cases sc <;> simp only [phase, Nat.reduceAdd, Nat.reduceEqDiff] at h
  -- `by constructor`: the `Sweep` instance is found by unification with the goal
  case gradInt.limiter | gradUp.limiter | gradDown.limiter | fluxInt.updCons | fluxUp.updCons | fluxDown.updCons =>
    rw [children_sweep (by constructor), count_map_task, count_hub (by constructor) hp hg']
  case limiter.predict | updCons.updPrim =>
    exact (count_single g g' _).trans ((if_congr eq_comm rfl rfl).trans (count_single g' g _).symm)
  case predict.fluxInt | predict.fluxUp | predict.fluxDown =>
    rw [parents_fluxSweep (by constructor), count_map_task, children_predict]
    exact count_hub (by constructor) hc hg

theorem downTask_exists {L : Layout} {g : Sub} (hg : valid L g = true) (ax : Axis) {up dn : Slot}
    (hup : ∀ n, slotExists L n up = true) (hdn : slotExists L g dn = (ngbDown L ax g).isNone) :
    exists_ L (downTask L up dn ax g) = true := by
  unfold downTask
  cases h : ngbDown L ax g with
  | none => exact exists_of_slotExists hg (by rw [hdn, h]; rfl)
  | some m => exact exists_of_slotExists (ngbDown_ngbUp hg h).1 (hup m)

theorem optTask_exists {L : Layout} {g : Sub} (hg : valid L g = true) (ax : Axis) (s : Slot)
    (hs : ∀ n, slotExists L n s = true) : ∀ c ∈ optTask (ngbUp L ax g) s, exists_ L c = true := by
  cases h : ngbUp L ax g with
  | none => exact fun _ hc => nomatch hc
  | some n => exact List.forall_mem_singleton.mpr (exists_of_slotExists (ngbUp_ngbDown hg h).1 (hs n))

theorem hub_exists {hub : Slot} (h : hub = .limiter ∨ hub = .updCons) {L : Layout} {g : Sub}
    (hg : valid L g = true) : ∀ p ∈ parents L ⟨g, hub⟩, exists_ L p = true := by
  have down := fun ax up dn => @downTask_exists L g hg ax up dn
  rcases h with rfl | rfl <;> simp only [parents, List.forall_mem_cons] <;>
    exact ⟨exists_of_slotExists hg rfl, exists_of_slotExists hg rfl, down .x _ _ (fun _ => rfl) rfl, exists_of_slotExists hg rfl, down .y _ _ (fun _ => rfl) rfl,
      exists_of_slotExists hg rfl, down .z _ _ (fun _ => rfl) rfl, fun _ h => nomatch h⟩

theorem children_exist (L : Layout) (p : Task) (hp : exists_ L p = true) :
    ∀ c ∈ children L p, exists_ L c = true := by
  obtain ⟨g, sp⟩ := p
  have hg : valid L g = true := valid_of_exists hp
  cases sp with
  | gradUp ax | fluxUp ax =>
    exact List.forall_mem_cons.mpr ⟨exists_of_slotExists hg rfl, optTask_exists hg ax _ fun _ => rfl⟩
  | predict => rw [children_predict]; exact hub_exists (.inr rfl) hg
  | updPrim => exact fun _ h => nomatch h
  | _ => exact List.forall_mem_singleton.mpr (exists_of_slotExists hg rfl)

theorem parents_exist (L : Layout) (c : Task) (hc : exists_ L c = true) :
    ∀ p ∈ parents L c, exists_ L p = true := by
  obtain ⟨g, sc⟩ := c
  have hg : valid L g = true := valid_of_exists hc
  cases sc with
  | fluxUp ax =>
    exact List.forall_mem_cons.mpr ⟨exists_of_slotExists hg rfl, optTask_exists hg ax _ fun _ => rfl⟩
  | limiter => exact hub_exists (.inl rfl) hg
  | updCons => exact hub_exists (.inr rfl) hg
  | gradInt | gradUp ax | gradDown ax => exact fun _ h => nomatch h
  | _ => exact List.forall_mem_singleton.mpr (exists_of_slotExists hg rfl)

theorem mem_allSubs (L : Layout) (g : Sub) : g ∈ allSubs L ↔ valid L g = true :=
  MixedRadix.mem_range_triples.trans (valid_iff L g).symm

theorem allSubs_nodup (L : Layout) : (allSubs L).Nodup := by
  have : allSubs L = List.range L.nx ×ˢ (List.range L.ny ×ˢ List.range L.nz) := by
    simp only [allSubs, SProd.sprod, List.product, List.map_flatMap, List.map_map, Function.comp_def]
  rw [this]
  exact List.nodup_range.product (List.nodup_range.product List.nodup_range)

theorem allSlots_nodup : allSlots.Nodup := by decide

theorem mem_allSlots (s : Slot) : s ∈ allSlots := by
  rcases s with _ | ax | ax | _ | _ | _ | ax | ax | _ | _ <;> (try cases ax) <;> decide

theorem mem_allTasks (L : Layout) (t : Task) : t ∈ allTasks L ↔ exists_ L t = true := by
  obtain ⟨g, s⟩ := t
  simp only [allTasks, List.mem_flatMap, List.mem_map, List.mem_filter, Task.mk.injEq, exists_,
    Bool.and_eq_true, mem_allSubs]
  constructor
  · rintro ⟨g', hg', s', ⟨_, hs'⟩, rfl, rfl⟩; exact ⟨hg', hs'⟩
  · rintro ⟨hg, hs⟩; exact ⟨g, hg, s, ⟨mem_allSlots s, hs⟩, rfl, rfl⟩

theorem _root_.List.nodup_flatMap_of_disjoint {α β : Type} {l : List α} {f : α → List β} (hl : l.Nodup)
    (hf : ∀ a ∈ l, (f a).Nodup)
    (hd : ∀ a ∈ l, ∀ a' ∈ l, ∀ b, b ∈ f a → b ∈ f a' → a = a') : (l.flatMap f).Nodup := by
  rw [List.nodup_flatMap]
  refine ⟨hf, ?_⟩
  apply List.Nodup.pairwise_of_forall_ne hl
  intro a ha a' ha' hne
  simp only [Function.onFun, List.disjoint_left]
  intro b hb hb'
  exact hne (hd a ha a' ha' b hb hb')

theorem allTasks_nodup (L : Layout) : (allTasks L).Nodup := by
  refine List.nodup_flatMap_of_disjoint (allSubs_nodup L) (fun g _ => ?_) ?_
  · exact (allSlots_nodup.filter _).map (fun s s' h => by simpa using h)
  · intro g _ g' _ t ht ht'
    obtain ⟨s, _, rfl⟩ := List.mem_map.mp ht
    obtain ⟨s', _, h⟩ := List.mem_map.mp ht'
    exact (Task.mk.inj h).1.symm

end CMacVerif.HydroGraph
