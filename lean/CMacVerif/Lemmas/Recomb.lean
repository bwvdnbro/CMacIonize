import CMacVerif.Model.Recomb
import CMacVerif.Inst.Real
import CMacVerif.Lemmas.Verner
import Mathlib.Order.Monotone.Basic
/-!
# C18 — the recombination and charge-transfer models over ℝ

Formula (4) of Verner & Ferland is `a / vfDen` with `vfDen` positive and strictly increasing in `T`, and the tabulated
`rnew` fit is the same formula; the Nussbaumer & Storey polynomial `a/x + b + c x + d x²` gets its sign on an interval
from concavity or AM–GM; the charge-transfer fits are products of non-negative factors.
-/
namespace CMacVerif.Verner
open CMacVerif CMacVerif.Gen.Verner CMacVerif.Locate

/-! ## Verner & Ferland formula (4) with literal coefficients (H, He) -/

/-- denominator of formula (4) -/
noncomputable def vfDen (t1 t2 b1 b2 T : ℝ) : ℝ :=
  Real.sqrt (T / t1) * (1 + Real.sqrt (T / t1)) ^ b1 * (1 + Real.sqrt (T / t2)) ^ b2

theorem vfFit_eq (a t1 t2 b1 b2 T : ℝ) : vfFit a t1 t2 b1 b2 T = a / vfDen t1 t2 b1 b2 T := by
  unfold vfFit vfDen; simp only [pow_real, sqrt_real, lit1]

theorem one_add_sqrt_pos (y : ℝ) : 0 < 1 + Real.sqrt y :=
  add_pos_of_pos_of_nonneg one_pos (Real.sqrt_nonneg y)

theorem vfDen_pos {t1 t2 b1 b2 T : ℝ} (h1 : 0 < t1) (hT : 0 < T) : 0 < vfDen t1 t2 b1 b2 T :=
  mul_pos (mul_pos (Real.sqrt_pos.mpr (div_pos hT h1)) (Real.rpow_pos_of_pos (one_add_sqrt_pos _) _))
    (Real.rpow_pos_of_pos (one_add_sqrt_pos _) _)

theorem vfDen_lt {t1 t2 b1 b2 T T' : ℝ} (h1 : 0 < t1) (h2 : 0 < t2) (hb1 : 0 ≤ b1) (hb2 : 0 ≤ b2)
    (hT : 0 < T) (hTT : T < T') : vfDen t1 t2 b1 b2 T < vfDen t1 t2 b1 b2 T' := by
  unfold vfDen
  have s1 : Real.sqrt (T / t1) < Real.sqrt (T' / t1) :=
    Real.sqrt_lt_sqrt (div_pos hT h1).le (div_lt_div_of_pos_right hTT h1)
  have s2 : Real.sqrt (T / t2) ≤ Real.sqrt (T' / t2) :=
    Real.sqrt_le_sqrt (div_le_div_of_nonneg_right hTT.le h2.le)
  exact mul_lt_mul
    (mul_lt_mul s1 (Real.rpow_le_rpow (one_add_sqrt_pos _).le (add_le_add le_rfl s1.le) hb1)
      (Real.rpow_pos_of_pos (one_add_sqrt_pos _) _) (Real.sqrt_nonneg _))
    (Real.rpow_le_rpow (one_add_sqrt_pos _).le (add_le_add le_rfl s2) hb2)
    (Real.rpow_pos_of_pos (one_add_sqrt_pos _) _)
    (mul_nonneg (Real.sqrt_nonneg _) (Real.rpow_nonneg (one_add_sqrt_pos _).le _))

theorem vfFit_pos {a t1 t2 b1 b2 T : ℝ} (ha : 0 < a) (h1 : 0 < t1) (hT : 0 < T) :
    0 < vfFit a t1 t2 b1 b2 T := by
  rw [vfFit_eq]; exact div_pos ha (vfDen_pos h1 hT)

/-! ## the final `rate *= 1.e-6; return std::max(0., rate)` -/

theorem recombinationRate_eq_max (ion : Ion) (T : ℝ) :
    recombinationRate ion T = max 0 (rateCgs ion T * 1e-6) := by
  unfold recombinationRate; rw [amax_real, lit0, show (1.0e-6 : ℝ) = 1e-6 by norm_num]

theorem recombinationRate_nonneg (ion : Ion) (T : ℝ) : 0 ≤ recombinationRate ion T :=
  amax_lit0_left_nonneg _

theorem recombinationRate_of_pos {ion : Ion} {T : ℝ} (h : 0 < rateCgs ion T) :
    recombinationRate ion T = rateCgs ion T * 1e-6 := by
  rw [recombinationRate_eq_max]; exact max_eq_right (mul_pos h (by norm_num)).le

theorem recombinationRate_pos {ion : Ion} {T : ℝ} (h : 0 < rateCgs ion T) : 0 < recombinationRate ion T := by
  rw [recombinationRate_of_pos h]; exact mul_pos h (by norm_num)

theorem recombinationRate_vfFit {ion : Ion} {a t1 t2 b1 b2 : ℝ}
    (h : ∀ T : ℝ, rateCgs ion T = vfFit a t1 t2 b1 b2 T) (ha : 0 < a) (h1 : 0 < t1) (h2 : 0 < t2)
    (hb1 : 0 ≤ b1) (hb2 : 0 ≤ b2) :
    (∀ T : ℝ, 0 < T → 0 < recombinationRate ion T) ∧
    StrictAntiOn (fun T : ℝ => recombinationRate ion T) (Set.Ioi 0) := by
  have hp : ∀ T : ℝ, 0 < T → 0 < rateCgs ion T := fun T hT => by rw [h]; exact vfFit_pos ha h1 hT
  refine ⟨fun T hT => recombinationRate_pos (hp T hT), fun T hT T' hT' hlt => ?_⟩
  show recombinationRate ion T' < recombinationRate ion T
  rw [recombinationRate_of_pos (hp T hT), recombinationRate_of_pos (hp T' hT'), h, h, vfFit_eq, vfFit_eq]
  exact mul_lt_mul_of_pos_right
    (div_lt_div_of_pos_left ha (vfDen_pos h1 hT) (vfDen_lt h1 h2 hb1 hb2 hT hlt)) (by norm_num)

/-! ## radiative fits of `get_recombination_rate_verner` -/

/-- over ℝ the guard is immaterial: `1 / 0 = 0` -/
theorem invNZ_eq (x : ℝ) : invNZ x = 1 / x := by
  unfold invNZ
  rw [lit0, lit1]
  split_ifs with h
  · rfl
  · rw [not_or, not_lt, not_lt] at h
    rw [le_antisymm h.2 h.1, div_zero]

theorem recNew_eq_vfFit (row : RecRow ℝ) (T : ℝ) :
    recNew row T = vfFit row.rnew0 row.rnew2 row.rnew3 (1 - row.rnew1) (1 + row.rnew1) T := by
  unfold recNew vfFit
  simp only [invNZ_eq, mul_one_div, lit1]
  rw [add_comm (ArithFns.sqrt (T / row.rnew2)) 1]

/-- both power-law fits are `c · (T · 1e-4)^p` -/
theorem mul_rpow_pos {c x : ℝ} (p : ℝ) (hc : 0 < c) (hx : 0 < x) : 0 < c * x ^ p :=
  mul_pos hc (Real.rpow_pos_of_pos hx p)

theorem recPow_pos (row : RecRow ℝ) (T : ℝ) (h0 : 0 < row.rrec0) (hT : 0 < T) : 0 < recPow row T :=
  mul_rpow_pos _ h0 (mul_pos hT (lit_pos (by decide) _ _))

theorem recFe_pos (f : FeRow ℝ) (T : ℝ) (h0 : 0 < f.fe0) (hT : 0 < T) : 0 < recFe f T :=
  mul_rpow_pos _ h0 (mul_pos hT (lit_pos (by decide) _ _))

/-- what positivity of the radiative fit needs of the generated row, per branch -/
def RecWF (z n : ℕ) : Prop :=
  match recBranch z n with
  | .rnew => 0 < (recRow (α := ℝ) z n).rnew0 ∧ 0 < (recRow (α := ℝ) z n).rnew2
  | .fe => 0 < (feRow (α := ℝ) n).fe0
  | .rrec => 0 < (recRow (α := ℝ) z n).rrec0

theorem recVerner_pos {z n : ℕ} {T : ℝ} (h : RecWF z n) (hT : 0 < T) : 0 < recVerner z n T := by
  unfold recVerner
  unfold RecWF at h
  cases hb : recBranch z n with
  | rnew => rw [hb] at h; simp only; rw [recNew_eq_vfFit]; exact vfFit_pos h.1 h.2 hT
  | fe => rw [hb] at h; simp only; exact recFe_pos _ T h hT
  | rrec => rw [hb] at h; simp only; exact recPow_pos _ T h hT

/-! ## dielectronic terms -/

theorem nsFit_eq (a b c d f T : ℝ) : nsFit a b c d f T =
    1e-12 * (a * (1 / (T * 1e-4)) + b + c * (T * 1e-4) + d * (T * 1e-4) * (T * 1e-4)) *
      (T * 1e-4) ^ (-1.5 : ℝ) * Real.exp (-f * (1 / (T * 1e-4))) := by
  unfold nsFit
  simp only [pow_real, exp_real, lit1]
  norm_num

/-- over ℝ the N⁺ variant is formula (19) without the `1/T4` term; its `d` is subtracted -/
theorem nsFitN_eq (b c d f T : ℝ) : nsFitN b c d f T = nsFit 0 b c (-d) f T := by
  unfold nsFitN nsFit
  simp only [lit1, mul_one_div, zero_div, zero_add, neg_mul, neg_div, ← sub_eq_add_neg]

theorem nsFit_nonneg (a b c d f T : ℝ) (hT : 0 ≤ T)
    (hp : 0 ≤ a * (1 / (T * 1e-4)) + b + c * (T * 1e-4) + d * (T * 1e-4) * (T * 1e-4)) :
    0 ≤ nsFit a b c d f T := by
  rw [nsFit_eq]
  exact mul_nonneg (mul_nonneg (mul_nonneg (lit_nonneg _ _ _) hp)
    (Real.rpow_nonneg (mul_nonneg hT (lit_nonneg _ _ _)) _)) (Real.exp_pos _).le

theorem quadratic_nonneg_of_concave {b c d l u x : ℝ} (hd : d ≤ 0) (hl : l ≤ x) (hu : x ≤ u)
    (h0 : 0 ≤ b + c * l + d * l * l) (h1 : 0 ≤ b + c * u + d * u * u) : 0 ≤ b + c * x + d * x * x := by
  -- `q x - q l = (x - l) (c + d (x + l))`, `q u - q x = (u - x) (c + d (u + x))`
  rcases le_or_gt 0 (c + d * (x + l)) with hs | hs
  · linarith [mul_nonneg (sub_nonneg.2 hl) hs]
  · have hs' : c + d * (u + x) ≤ 0 := by
      linarith [mul_nonpos_of_nonpos_of_nonneg hd (sub_nonneg.2 (hl.trans hu))]
    linarith [mul_nonneg_of_nonpos_of_nonpos (sub_nonpos.2 hu) hs']

/-- `a/x ≥ a/l` for `a ≤ 0`, `d x² ≥ d' x²`, and the concave quadratic `a/l + b + c x + d' x²` -/
theorem nsPoly_nonneg_of_concave {a b c d d' l u x : ℝ} (ha : a ≤ 0) (hd' : d' ≤ 0) (hdd : d' ≤ d)
    (hl0 : 0 < l) (hl : l ≤ x) (hu : x ≤ u) (h0 : 0 ≤ a * (1 / l) + b + c * l + d' * l * l)
    (h1 : 0 ≤ a * (1 / l) + b + c * u + d' * u * u) : 0 ≤ a * (1 / x) + b + c * x + d * x * x := by
  have h := quadratic_nonneg_of_concave (b := a * (1 / l) + b) hd' hl hu h0 h1
  have := mul_le_mul_of_nonpos_left (one_div_le_one_div_of_le hl0 hl) ha
  linarith [mul_nonneg (sub_nonneg.2 hdd) (mul_self_nonneg x)]

theorem nsPoly_nonneg_of_quadratic {a b c d x : ℝ} (ha : 0 ≤ a) (hx : 0 < x)
    (hq : 0 ≤ b + c * x + d * x * x) : 0 ≤ a * (1 / x) + b + c * x + d * x * x := by
  have := mul_nonneg ha (one_div_pos.2 hx).le
  linarith

/-- AM–GM: `a / x + e x ≥ 2 √(a e) ≥ -b`, where `c x + d x² ≥ e x` -/
theorem nsPoly_nonneg_of_amgm {a b c d e x : ℝ} (ha : 0 ≤ a) (he : 0 ≤ e) (hx : 0 < x)
    (hb : b ^ 2 ≤ 4 * a * e) (hec : e ≤ c) (hecd : e ≤ c + d) (hdx : 0 ≤ d ∨ x ≤ 1) :
    0 ≤ a * (1 / x) + b + c * x + d * x * x := by
  have h1 : -b ≤ a * (1 / x) + e * x := by
    have h : (a * (1 / x) + e * x) ^ 2 = (a * (1 / x) - e * x) ^ 2 + 4 * a * e * (1 / x * x) := by ring
    rw [one_div_mul_cancel hx.ne', mul_one] at h
    refine (le_abs_self _).trans (abs_le_of_sq_le_sq ?_ (by positivity))
    rw [h, neg_sq]; exact hb.trans (le_add_of_nonneg_left (sq_nonneg _))
  have h2 : e * x ≤ c * x + d * x * x := by
    rcases le_or_gt 0 d with hd | hd
    · linarith [mul_nonneg (sub_nonneg.2 hec) hx.le, mul_nonneg (mul_nonneg hd hx.le) hx.le]
    · have hx1 := hdx.resolve_left (not_le.2 hd)
      linarith [mul_nonneg (sub_nonneg.2 hecd) hx.le,
        mul_nonneg_of_nonpos_of_nonpos hd.le (mul_nonpos_of_nonneg_of_nonpos hx.le (sub_nonpos.2 hx1))]
  linarith

/-- the ions whose dielectronic term is proved non-negative on (0, 1e5 K] -/
def dielNonnegIons : List Ion := [.C_p1, .C_p2, .N_n, .N_p1, .Ne_n, .Ne_p1, .S_p1, .S_p2, .S_p3]

theorem dielectronic_nonneg (ion : Ion) (hi : ion ∈ dielNonnegIons) (T : ℝ) (h0 : 0 < T) (h1 : T ≤ 1e5) :
    0 ≤ dielectronic ion T := by
  have hx : 0 < T * 1e-4 := mul_pos h0 (by norm_num)
  have hx10 : T * 1e-4 ≤ 10 := (mul_le_mul_of_nonneg_right h1 (by norm_num)).trans (by norm_num)
  simp only [dielNonnegIons, List.mem_cons, List.mem_nil_iff, or_false] at hi
  rcases hi with rfl | rfl | rfl | rfl | rfl | rfl | rfl | rfl | rfl
  · -- C_p1: all coefficients positive
    exact nsFit_nonneg _ _ _ _ _ T h0.le (by positivity)
  · -- C_p2: 6.8830 x - 0.1824 x² ≥ 0 on [0, 10]
    exact nsFit_nonneg _ _ _ _ _ T h0.le (nsPoly_nonneg_of_quadratic (by norm_num) hx
      (quadratic_nonneg_of_concave (l := 0) (by norm_num) hx.le hx10 (by norm_num) (by norm_num)))
  · -- N_n: 0.1990 x - 0.0197 x² ≥ 0 on [0, 10]
    simp only [dielectronic, nsFitN_eq]
    exact nsFit_nonneg _ _ _ _ _ T h0.le (nsPoly_nonneg_of_quadratic le_rfl hx
      (quadratic_nonneg_of_concave (l := 0) (by norm_num) hx.le hx10 (by norm_num) (by norm_num)))
  · -- N_p1: 0.0320 / x + 4.3191 x ≥ 2 √(0.0320 · 4.3191) ≥ 0.6624
    exact nsFit_nonneg _ _ _ _ _ T h0.le (nsPoly_nonneg_of_amgm (e := 4.3191) (ha := by norm_num) (he := by norm_num)
      (hx := hx) (hb := by norm_num) (hec := le_rfl) (hecd := by norm_num) (hdx := Or.inl (by norm_num)))
  · -- Ne_n: no dielectronic term
    simp only [dielectronic]; rw [lit0]
  · -- Ne_p1: AM–GM up to 10⁴ K (`-0.0682 x² ≥ -0.0682 x`, `0.1779² ≤ 4 · 0.0129 · 0.8671`), concavity above
    refine nsFit_nonneg _ _ _ _ _ T h0.le ?_
    rcases le_or_gt (T * 1e-4) 1 with hc | hc
    · exact nsPoly_nonneg_of_amgm (e := 0.8671) (ha := by norm_num) (he := by norm_num) (hx := hx)
        (hb := by norm_num) (hec := by norm_num) (hecd := by norm_num) (hdx := Or.inr hc)
    · exact nsPoly_nonneg_of_quadratic (by norm_num) hx
        (quadratic_nonneg_of_concave (l := 1) (by norm_num) hc.le hx10 (by norm_num) (by norm_num))
  -- S_p1, S_p2, S_p3
  all_goals
    simp only [dielectronic, pow_real, exp_real]
    positivity

/-! ## charge transfer -/

theorem safeT_eq (lo hi T4 : ℝ) : safeT lo hi T4 = min (max T4 lo) hi := by
  unfold safeT; rw [amin_real, amax_real]

theorem safeT_pos {lo hi : ℝ} (T4 : ℝ) (hlo : 0 < lo) (hhi : 0 < hi) : 0 < safeT lo hi T4 := by
  rw [safeT_eq]; exact lt_min (lt_of_lt_of_le hlo (le_max_right _ _)) hhi

theorem kfPlus_nonneg {c p a b lo hi : ℝ} (T4 : ℝ) (hc : 0 ≤ c) (ha : 0 ≤ a) (hlo : 0 < lo) (hhi : 0 < hi) :
    0 ≤ kfPlus c p a b lo hi T4 := by
  unfold kfPlus
  simp only [pow_real, exp_real, lit1]
  have hs := safeT_pos T4 hlo hhi
  exact mul_nonneg (mul_nonneg hc (Real.rpow_nonneg hs.le _))
    (add_nonneg zero_le_one (mul_nonneg ha (Real.exp_pos _).le))

theorem kfMinus_nonneg {c p a b lo hi : ℝ} (T4 : ℝ) (hc : 0 ≤ c) (ha1 : a ≤ 1) (hb : 0 ≤ b)
    (hlo : 0 < lo) (hhi : 0 < hi) : 0 ≤ kfMinus c p a b lo hi T4 := by
  unfold kfMinus
  simp only [pow_real, exp_real, lit1]
  have hs := safeT_pos T4 hlo hhi
  have he : Real.exp (-b * safeT lo hi T4) ≤ 1 :=
    Real.exp_le_one_iff.2 (mul_nonpos_of_nonpos_of_nonneg (neg_nonpos.2 hb) hs.le)
  exact mul_nonneg (mul_nonneg hc (Real.rpow_nonneg hs.le _))
    (sub_nonneg.2 (mul_le_one₀ ha1 (Real.exp_pos _).le he))

theorem ctRecH_nonneg (ion : Ion) (T4 : ℝ) : 0 ≤ ctRecH ion T4 := by
  cases ion
  case H_n | Ne_n => exact lit0.ge
  case Ne_p1 | S_p1 => exact lit_nonneg _ _ _
  case N_n | N_p2 | O_n => apply kfMinus_nonneg <;> norm_num
  all_goals apply kfPlus_nonneg <;> norm_num

theorem ctIonH_nonneg (ion : Ion) (T4 : ℝ) : 0 ≤ ctIonH ion T4 := by
  cases ion
  case N_n =>
    show 0 ≤ kfMinus 4.55e-18 (-0.29) 0.92 8.38 0.01 5.0 T4 * _
    exact mul_nonneg (by apply kfMinus_nonneg <;> norm_num) (Real.exp_pos _).le
  case O_n =>
    show 0 ≤ kfPlus 7.4e-17 0.47 24.37 0.74 0.001 1.0 T4 * _
    exact mul_nonneg (by apply kfPlus_nonneg <;> norm_num) (Real.exp_pos _).le
  all_goals exact lit0.ge

theorem ctRecHe_nonneg (ion : Ion) (T4 : ℝ) : 0 ≤ ctRecHe ion T4 := by
  have hs : ∀ {lo hi : ℝ}, 0 < lo → 0 < hi → 0 ≤ safeT lo hi T4 := fun hlo hhi => (safeT_pos T4 hlo hhi).le
  cases ion
  case C_p2 => exact mul_nonneg (mul_nonneg (lit_nonneg _ _ _) (hs (by norm_num) (by norm_num))) (hs (by norm_num) (by norm_num))
  case O_p1 | S_p2 => exact mul_nonneg (lit_nonneg _ _ _) (Real.rpow_nonneg (hs (by norm_num) (by norm_num)) _)
  case N_p1 | S_p3 => apply kfPlus_nonneg <;> norm_num
  case N_p2 | Ne_p1 => exact lit_nonneg _ _ _
  all_goals exact lit0.ge

end CMacVerif.Verner
