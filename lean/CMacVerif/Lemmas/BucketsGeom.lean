import CMacVerif.Lemmas.Buckets
import Mathlib.Tactic.Linarith
/-! The covered-radius bound of the bucket search follows from the geometry of the bucket grid
(C16): closed form of the widened bounds and `cover_bound`. -/
namespace CMacVerif.Buckets
open CMacVerif.GridNum CMacVerif.Shells

/-- one component of the "lower" bound through the widenings -/
noncomputable def lbSeq (a : Int) (cs v0 : ℝ) : Nat → ℝ
  | 0 => v0
  | L + 1 => if (L : Int) ≤ a then lbSeq a cs v0 L - cs else lbSeq a cs v0 L
noncomputable def ubSeq (a n : Int) (cs v0 : ℝ) : Nat → ℝ
  | 0 => v0
  | L + 1 => if (L : Int) + a < n then ubSeq a n cs v0 L + cs else ubSeq a n cs v0 L

theorem lbSeq_closed (a : Int) (ha : 0 ≤ a) (cs v0 : ℝ) (L : Nat) :
    lbSeq a cs v0 L = v0 - ((min (L : Int) (a + 1) : Int) : ℝ) * cs := by
  induction L with
  | zero => simp [lbSeq, min_eq_left (show (0 : Int) ≤ a + 1 by omega)]
  | succ L ih =>
    simp only [lbSeq, ih]
    by_cases h : (L : Int) ≤ a
    · rw [if_pos h, min_eq_left (by omega), min_eq_left (by omega)]; push_cast; ring
    · rw [if_neg h, min_eq_right (by omega), min_eq_right (by omega)]

theorem ubSeq_closed (a n : Int) (ha : a ≤ n) (cs v0 : ℝ) (L : Nat) :
    ubSeq a n cs v0 L = v0 + ((min (L : Int) (n - a) : Int) : ℝ) * cs := by
  induction L with
  | zero => simp [ubSeq, min_eq_left (show (0 : Int) ≤ n - a by omega)]
  | succ L ih =>
    simp only [ubSeq, ih]
    by_cases h : (L : Int) + a < n
    · rw [if_pos h, min_eq_left (by omega), min_eq_left (by omega)]; push_cast; ring
    · rw [if_neg h, min_eq_right (by omega), min_eq_right (by omega)]

theorem boundsAt_seq (g : BGrid ℝ) (p : V3 ℝ) (ax ay az : Int) (L : Nat) :
    boundsAt g p ax ay az L =
      ⟨⟨lbSeq ax g.cs.x (initBounds g ax ay az p).lb.x L, lbSeq ay g.cs.y (initBounds g ax ay az p).lb.y L,
        lbSeq az g.cs.z (initBounds g ax ay az p).lb.z L⟩,
       ⟨ubSeq ax g.n g.cs.x (initBounds g ax ay az p).ub.x L, ubSeq ay g.n g.cs.y (initBounds g ax ay az p).ub.y L,
        ubSeq az g.n g.cs.z (initBounds g ax ay az p).ub.z L⟩⟩ := by
  induction L with
  | zero => rfl
  | succ L ih => rw [boundsAt, ih]; rfl

theorem fmax_real (a b : ℝ) : fmax a b = max a b := amax_eq a b
theorem fmin_real (a b : ℝ) : fmin a b = min a b := amin_eq a b
theorem fabs_real (a : ℝ) : fabs a = |a| := by
  unfold fabs; rw [lit0]; split_ifs with h
  · exact (abs_of_neg h).symm
  · exact (abs_of_nonneg (not_lt.mp h)).symm

/-- `rmin` of `get_max_radius2` -/
noncomputable def rmin (b : Bounds ℝ) : ℝ :=
  fmin (fabs (fmax (fmax b.lb.x b.lb.y) b.lb.z)) (fmin (fmin b.ub.x b.ub.y) b.ub.z)

theorem maxRadius2_eq (b : Bounds ℝ) : maxRadius2 b = rmin b * rmin b := rfl

theorem rmin_bounds (b : Bounds ℝ) (hlx : b.lb.x ≤ 0) (hly : b.lb.y ≤ 0) (hlz : b.lb.z ≤ 0)
    (hux : 0 ≤ b.ub.x) (huy : 0 ≤ b.ub.y) (huz : 0 ≤ b.ub.z) :
    0 ≤ rmin b ∧ rmin b ≤ b.ub.x ∧ rmin b ≤ b.ub.y ∧ rmin b ≤ b.ub.z ∧
      rmin b ≤ -b.lb.x ∧ rmin b ≤ -b.lb.y ∧ rmin b ≤ -b.lb.z := by
  simp only [rmin, fmax_real, fmin_real, fabs_real]
  rw [abs_of_nonpos (max_le (max_le hlx hly) hlz)]
  simp only [le_min_iff, min_le_iff, neg_nonneg, max_le_iff, neg_le_neg_iff, le_max_iff, le_refl, true_or, or_true,
    hlx, hly, hlz, hux, huy, huz, and_self]

/-- one axis of the covered-radius bound, the query in cell `a` of `n`: after the widenings for
the levels `< L` the bounds enclose the query, and a radius `rr` within them stays below the
distance to every point stored `r` cells away, `|r| ≥ L` -/
theorem axis_cover (anchor cs pp : ℝ) (a n : Int) (L : Nat) (hcs : 0 < cs) (ha : 0 ≤ a ∧ a < n) (hL : 1 ≤ L)
    (hq : anchor + (a : ℝ) * cs ≤ pp ∧ pp < anchor + ((a + 1 : Int) : ℝ) * cs)
    (lb ub : ℝ) (hlb : lb = lbSeq a cs (anchor + ((a + 1 : Int) : ℝ) * cs - pp) L)
    (hub : ub = ubSeq a n cs (anchor + (a : ℝ) * cs - pp) L) :
    lb ≤ 0 ∧ 0 ≤ ub ∧
    ∀ (r : Int) (pq rr : ℝ), 0 ≤ a + r ∧ a + r < n → (L : Int) ≤ r ∨ r ≤ -(L : Int) →
      anchor + ((a + r : Int) : ℝ) * cs ≤ pq ∧ pq < anchor + ((a + r + 1 : Int) : ℝ) * cs →
      0 ≤ rr → rr ≤ ub → rr ≤ -lb → rr * rr ≤ (pq - pp) * (pq - pp) := by
  subst hlb hub
  rw [lbSeq_closed a ha.1, ubSeq_closed a n ha.2.le]
  have mono : ∀ i j : Int, i ≤ j → (i : ℝ) * cs ≤ (j : ℝ) * cs := fun i j h =>
    mul_le_mul_of_nonneg_right (by exact_mod_cast h) hcs.le
  have m1 := mono 1 (min (L : Int) (a + 1)) (by omega)
  have m2 := mono 1 (min (L : Int) (n - a)) (by omega)
  simp only [Int.cast_add, Int.cast_one] at hq m1 m2 ⊢
  refine ⟨by linarith, by linarith, fun r pq rr hr hfar hpq h0 hu hl => ?_⟩
  rcases hfar with h | h
  · have := mono (a + min (L : Int) (n - a)) (a + r) (by omega)
    simp only [Int.cast_add] at this
    exact mul_self_le_mul_self h0 (by linarith)
  · have := mono (a + r + 1) (a + 1 - min (L : Int) (a + 1)) (by omega)
    simp only [Int.cast_add, Int.cast_sub, Int.cast_one] at this
    rw [← neg_mul_neg (pq - pp)]
    exact mul_self_le_mul_self h0 (by linarith)

/-- geometric facts that make the covered-radius bound true -/
structure Geo (g : BGrid ℝ) (p : V3 ℝ) (ax ay az : Int) : Prop where
  csx : 0 < g.cs.x
  csy : 0 < g.cs.y
  csz : 0 < g.cs.z
  hax : 0 ≤ ax ∧ ax < g.n
  hay : 0 ≤ ay ∧ ay < g.n
  haz : 0 ≤ az ∧ az < g.n
  /-- the query lies in its anchor cell -/
  qx : g.anchor.x + (ax : ℝ) * g.cs.x ≤ p.x ∧ p.x < g.anchor.x + ((ax + 1 : Int) : ℝ) * g.cs.x
  qy : g.anchor.y + (ay : ℝ) * g.cs.y ≤ p.y ∧ p.y < g.anchor.y + ((ay + 1 : Int) : ℝ) * g.cs.y
  qz : g.anchor.z + (az : ℝ) * g.cs.z ≤ p.z ∧ p.z < g.anchor.z + ((az + 1 : Int) : ℝ) * g.cs.z
  /-- every stored point lies in the cell of its bucket -/
  pts : ∀ (ix iy iz : Int) (q : Nat), q ∈ g.bucket ix iy iz →
    (g.anchor.x + (ix : ℝ) * g.cs.x ≤ (g.pos q).x ∧ (g.pos q).x < g.anchor.x + ((ix + 1 : Int) : ℝ) * g.cs.x) ∧
    (g.anchor.y + (iy : ℝ) * g.cs.y ≤ (g.pos q).y ∧ (g.pos q).y < g.anchor.y + ((iy + 1 : Int) : ℝ) * g.cs.y) ∧
    (g.anchor.z + (iz : ℝ) * g.cs.z ≤ (g.pos q).z ∧ (g.pos q).z < g.anchor.z + ((iz + 1 : Int) : ℝ) * g.cs.z)

/-- the covered-radius bound holds when points lie in their buckets and the query in its anchor
cell -/
theorem cover_bound (g : BGrid ℝ) (p : V3 ℝ) (ax ay az : Int) (hg : Geo g p ax ay az) :
    ∀ (L k q : Nat), 1 ≤ L → Inside ax ay az g.n g.n g.n (iter k) → (L : Int) ≤ (iter k).level →
      q ∈ bucketAt g ax ay az (iter k) → maxRadius2 (boundsAt g p ax ay az L) ≤ d2 g p q := by
  intro L k q hL hin hlev hq
  rw [maxRadius2_eq]
  have hB := boundsAt_seq g p ax ay az L
  generalize boundsAt g p ax ay az L = B at hB ⊢
  obtain ⟨lx, ux, fx⟩ := axis_cover g.anchor.x g.cs.x p.x ax g.n L hg.csx hg.hax hL hg.qx B.lb.x B.ub.x
    (by rw [hB]; rfl) (by rw [hB]; rfl)
  obtain ⟨ly, uy, fy⟩ := axis_cover g.anchor.y g.cs.y p.y ay g.n L hg.csy hg.hay hL hg.qy B.lb.y B.ub.y
    (by rw [hB]; rfl) (by rw [hB]; rfl)
  obtain ⟨lz, uz, fz⟩ := axis_cover g.anchor.z g.cs.z p.z az g.n L hg.csz hg.haz hL hg.qz B.lb.z B.ub.z
    (by rw [hB]; rfl) (by rw [hB]; rfl)
  obtain ⟨r0, rux, ruy, ruz, rlx, rly, rlz⟩ := rmin_bounds B lx ly lz ux uy uz
  generalize rmin B = r at *
  obtain ⟨px, py, pz⟩ := hg.pts _ _ _ q hq
  obtain ⟨i1, i2, i3, i4, i5, i6⟩ := hin
  have farx := fun hf => fx (iter k).rx (g.pos q).x r ⟨i1, i2⟩ hf px r0 rux rlx
  have fary := fun hf => fy (iter k).ry (g.pos q).y r ⟨i3, i4⟩ hf py r0 ruy rly
  have farz := fun hf => fz (iter k).rz (g.pos q).z r ⟨i5, i6⟩ hf pz r0 ruz rlz
  have nx := mul_self_nonneg ((g.pos q).x - p.x)
  have ny := mul_self_nonneg ((g.pos q).y - p.y)
  have nz := mul_self_nonneg ((g.pos q).z - p.z)
  show r * r ≤ dist2 (g.pos q) p
  unfold dist2
  rcases (good_iter k).far hlev with h | h | h
  · linarith only [farx h, nx, ny, nz]
  · linarith only [fary h, nx, ny, nz]
  · linarith only [farz h, nx, ny, nz]

end CMacVerif.Buckets
