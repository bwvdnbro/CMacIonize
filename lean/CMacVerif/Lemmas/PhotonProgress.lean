import CMacVerif.Lemmas.PhotonEnd
import CMacVerif.Lemmas.PhotonCache
import CMacVerif.Lemmas.PhotonCont
/-! C01: no stuck state -- as long as not all requested packets are terminated some label is enabled
(provided the buffer pool and the task table are not exhausted). -/
namespace CMacVerif.Photon
open CMacVerif.Worker (sumOver sumOver_congr sumOver_le sumOver_zero sumOver_pos)

/-- free capacity: two free buffers and `nblocks + 1` free task slots -/
structure FreeCap (cfg : Cfg) (s : State) : Prop where
  bufs : ∃ b1 b2, b1 ≠ b2 ∧ b1 < cfg.bufCap ∧ s.pool b1 = none ∧ b2 < cfg.bufCap ∧ s.pool b2 = none
  tasks : ∃ fl : List Nat, fl.length = cfg.nblocks + 1 ∧ fl.Nodup ∧ ∀ t ∈ fl, t < cfg.taskCap ∧ s.tasks t = none

def Enabled (cfg : Cfg) (s : State) : Prop := ∃ l, (step cfg s l).isSome = true

theorem enabled_of {cfg : Cfg} {s s' : State} {l : Label} (h : step cfg s l = some s') : Enabled cfg s :=
  ⟨l, by rw [h]; rfl⟩

theorem FreeCap.buf2 {cfg : Cfg} {s : State} (h : FreeCap cfg s) :
    ∃ b1 b2, b1 ≠ b2 ∧ bufFree cfg s b1 = true ∧ bufFree cfg s b2 = true := by
  obtain ⟨b1, b2, hne, h1c, h1f, h2c, h2f⟩ := h.bufs
  exact ⟨b1, b2, hne, (bufFree_iff cfg s b1).mpr ⟨h1c, h1f⟩, (bufFree_iff cfg s b2).mpr ⟨h2c, h2f⟩⟩

theorem FreeCap.task {cfg : Cfg} {s : State} (h : FreeCap cfg s) : ∃ t, taskFree cfg s t = true := by
  obtain ⟨fl, hfl, -, hfree⟩ := h.tasks
  cases fl with
  | nil => cases hfl
  | cons t _ => exact ⟨t, (taskFree_iff cfg s t).mpr (hfree t List.mem_cons_self)⟩

theorem filter_zip_replicate {β : Type} (ids : List Nat) (n : Nat) (c : β) (p : Nat × β → Bool) (h : ∀ a, p (a, c) = false) :
    (ids.zip (List.replicate n c)).filter p = [] := by
  rw [List.filter_eq_nil_iff]
  rintro ⟨a, x⟩ hp
  rw [(List.mem_replicate.mp (List.of_mem_zip hp).2).2, h]
  exact Bool.false_ne_true

theorem fold_empty {cfg : Cfg} {g : Nat} {outs : Nat → List Nat} {res : Nat → DirRes} :
    ∀ (l : List Nat) (acc : State × Nat × Nat), (∀ i ∈ l, outs i = []) →
      ∃ acc', foldOpt (travDir cfg g outs res) acc l = some acc' := by
  intro l
  induction l with
  | nil => exact fun acc _ => ⟨acc, rfl⟩
  | cons i l ih =>
    intro acc h
    simp only [foldOpt, travDir, travDirState, h i List.mem_cons_self, List.isEmpty_nil, if_true]
    exact ih _ fun j hj => h j (List.mem_cons_of_mem _ hj)

theorem fillDir_some {cfg : Cfg} {g i a sub dir : Nat} {old L : List Nat} {r : DirRes} {s : State}
    (hnb : bufFree cfg s r.nb = true) (hne : r.nb ≠ a) (hnt : taskFree cfg s r.nt = true) :
    (fillDir cfg g i a sub dir old L r s).isSome = true := by
  rw [bufFree] at hnb
  rw [taskFree] at hnt
  -- past the guard on the two free ids every branch of `fillDir` is a `some`
  simp only [fillDir, bufFree, taskFree, upd_other _ _ _ hne, hnb, hnt, Bool.and_self, if_true, apply_ite Option.isSome,
    Option.isSome_some, ite_self]

theorem travDirState_some {cfg : Cfg} {g i : Nat} {L : List Nat} {r : DirRes} {s : State} (hi : Inv cfg s)
    (hngb : (cfg.ngb g i).isSome = true ∨ L = [])
    (hna : bufFree cfg s r.na = true) (hnb : bufFree cfg s r.nb = true) (hab : r.na ≠ r.nb) (hnt : taskFree cfg s r.nt = true) :
    (travDirState cfg g L r i s).isSome = true := by
  rw [travDirState]
  by_cases hL : L.isEmpty = true
  · rw [if_pos hL]; rfl
  rw [if_neg hL]
  obtain ⟨ng, hng⟩ := Option.isSome_iff_exists.mp (hngb.resolve_right (by simpa using hL))
  simp only [hng]
  cases ha : s.active g i with
  | some a =>
    obtain ⟨buf, hp, -⟩ := hi.own.live (.act g i) a ha
    simp only [hp]
    refine fillDir_some hnb (fun e => ?_) hnt
    rw [e, bufFree_iff, hp] at hnb
    cases hnb.2
  | none =>
    simp only [hna, if_true]
    exact fillDir_some hnb (Ne.symm hab) hnt

theorem fold_inside {cfg : Cfg} {g : Nat} {outs : Nat → List Nat} {res : Nat → DirRes} {s : State}
    (houts : ∀ i, i ≠ 0 → outs i = []) (h0 : (travDirState cfg g (outs 0) (res 0) 0 s).isSome = true) :
    ∃ acc, foldOpt (travDir cfg g outs res) (s, NDIR, 0) (List.range NDIR) = some acc := by
  obtain ⟨s1, hs1⟩ := Option.isSome_iff_exists.mp h0
  -- direction 0 is peeled off the loop, the others get no packets
  rw [show List.range NDIR = 0 :: List.range' 1 (NDIR - 1) from by decide, foldOpt, travDir, hs1]
  exact fold_empty _ _ fun i hi' => houts i (by rw [List.mem_range'_1] at hi'; omega)

theorem traverse_enabled {cfg : Cfg} {s : State} {t b0 : Nat} (hi : Inv cfg s) (hk : s.tasks t = some ⟨.traverse b0, .running⟩)
    (hcap : FreeCap cfg s) : Enabled cfg s := by
  obtain ⟨buf, hb, -⟩ := hi.own.live (.task t) b0 (by rw [refBuf_task_some hk]; rfl)
  obtain ⟨b1, b2, hb12, hb1, hb2⟩ := hcap.buf2
  obtain ⟨t1, ht1⟩ := hcap.task
  -- every packet ends in direction INSIDE (0): absorbed
  have houts : ∀ i, i ≠ 0 → outsOf cfg buf.sub (buf.ids.zip (List.replicate buf.ids.length 0)) i = [] := by
    intro i hi0
    rw [outsOf, filter_zip_replicate _ _ _ _ fun _ => (beq_false_of_ne (Ne.symm hi0) : (0 == i) = false)]
    exact ite_self _
  have hngb : (cfg.ngb buf.sub 0).isSome = true ∨ outsOf cfg buf.sub (buf.ids.zip (List.replicate buf.ids.length 0)) 0 = [] := by
    by_cases he : dirEnabled cfg buf.sub 0 = true
    · exact Or.inl (Bool.and_eq_true _ _ ▸ he).1
    · exact Or.inr (if_neg he)
  obtain ⟨⟨s1, li, ls⟩, hfold⟩ := fold_inside (res := fun i => [(⟨b1, b2, t1⟩ : DirRes)].getD i ⟨0, 0, 0⟩) houts
    (travDirState_some hi hngb hb1 hb2 hb12 ht1)
  have hguard : (List.replicate buf.ids.length 0).length = buf.ids.length ∧
      ((List.replicate buf.ids.length 0).all fun x => decide (x < NDIR)) = true := by
    refine ⟨List.length_replicate, List.all_eq_true.mpr fun x hx => ?_⟩
    rw [(List.mem_replicate.mp hx).2]; rfl
  apply enabled_of (l := .execTraverse t (List.replicate buf.ids.length 0) [⟨b1, b2, t1⟩])
  dsimp only [step]
  rw [hk]
  dsimp only
  rw [hb]
  dsimp only
  rw [if_pos hguard, hfold]

theorem addFlush_some {cfg : Cfg} : ∀ (fl : List Nat) (s : State) (c : Nat), fl.Nodup → (∀ t ∈ fl, t < cfg.taskCap ∧ s.tasks t = none) →
    ∃ s', addFlush cfg s c fl = some s' := by
  intro fl
  induction fl with
  | nil => exact fun s c _ _ => ⟨s, rfl⟩
  | cons t ts ih =>
    intro s c hn hf
    have hn' := List.nodup_cons.mp hn
    simp only [addFlush, (taskFree_iff cfg s t).mpr (hf t List.mem_cons_self), if_true]
    refine ih _ (c + 1) hn'.2 fun u hu => ?_
    have hne : u ≠ t := fun e => hn'.1 (e ▸ hu)
    have := hf u (List.mem_cons_of_mem _ hu)
    exact ⟨this.1, (upd_other _ _ _ hne).trans this.2⟩

theorem running_enabled {cfg : Cfg} {s : State} {t : Nat} {k : Kind} (hi : Inv cfg s) (hc : ContInv cfg s)
    (hk : s.tasks t = some ⟨k, .running⟩) (hcap : FreeCap cfg s) (hnorig : 0 < cfg.norig) : Enabled cfg s := by
  obtain ⟨b1, -, -, hb1, -⟩ := hcap.buf2
  obtain ⟨t1, ht1⟩ := hcap.task
  cases k with
  | source src ids => exact ⟨.execSource t b1 t1, by simp [step, hk, hb1, ht1]⟩
  | traverse b0 => exact traverse_enabled hi hk hcap
  | contSource c n ids =>
    by_cases hex : ∃ g, g < cfg.norig ∧ (s.cont (c, g)).length = BUFSZ
    · obtain ⟨g, -, hlen⟩ := hex
      exact enabled_of (l := .contOverflow t g b1 t1) (by dsimp only [step]; rw [hk]; exact if_pos ⟨hlen, hb1, ht1⟩)
    have hlt : ∀ g, g < cfg.norig → (s.cont (c, g)).length < BUFSZ :=
      fun g hg => Nat.lt_of_le_of_ne (hi.ct.len (c, g)) fun e => hex ⟨g, hg, e⟩
    cases ids with
    | cons x rest =>
      exact enabled_of (l := .contGen t 0 1) (by
        dsimp only [step]; rw [hk]
        exact if_pos ⟨Nat.one_pos, Nat.succ_le_succ (Nat.zero_le _), hnorig, (hi.contTask hk).2.1, hlt 0 hnorig⟩)
    | nil =>
      have hguard : ((List.range cfg.norig).all fun g => decide ((s.cont (c, g)).length < BUFSZ)) = true ∧ n ≤ s.contLeft :=
        ⟨List.all_eq_true.mpr fun g hg => decide_eq_true (hlt g (List.mem_range.mp hg)), (batch_le_contLeft hi hc hk).1⟩
      -- flush task ids: any `nblocks` of the free slots
      obtain ⟨fl, hfl, hfln, hflf⟩ := hcap.tasks
      have hlen : (fl.take cfg.nblocks).length = cfg.nblocks := by
        rw [List.length_take, hfl]; exact Nat.min_eq_left (Nat.le_succ _)
      obtain ⟨s2, hs2⟩ := addFlush_some (fl.take cfg.nblocks) { s with contLeft := s.contLeft - n, flushCount := 1 } 0
        (hfln.sublist (List.take_sublist _ _)) fun u hu => hflf u (List.mem_of_mem_take hu)
      refine ⟨.contFinish t (fl.take cfg.nblocks), ?_⟩
      dsimp only [step]
      rw [hk]
      dsimp only
      rw [if_pos hguard, if_pos hlen, hs2, ← apply_ite some, ← apply_ite some]
      rfl
  | reemit b =>
    obtain ⟨buf, hb, -⟩ := hi.own.live (.task t) b (by rw [refBuf_task_some hk]; rfl)
    -- no packet is re-emitted
    have hkept := filter_zip_replicate buf.ids buf.ids.length false (·.2) fun _ => rfl
    exact ⟨.execReemit t (List.replicate buf.ids.length false) t1, by simp [step, hk, hb, hkept]⟩
  | flush c =>
    by_cases hex : ∃ g, g < cfg.norig ∧ s.cont (c, g) ≠ []
    · obtain ⟨g, hg, hne⟩ := hex
      exact ⟨.flushOne t g b1 t1, by simp [step, hk, hne, hg, hb1, ht1]⟩
    · have hall : ((List.range cfg.norig).all fun g => (s.cont (c, g)).isEmpty) = true :=
        List.all_eq_true.mpr fun g hg => List.isEmpty_iff.mpr (not_not.mp fun e => hex ⟨g, List.mem_range.mp hg, e⟩)
      exact ⟨.flushFinish t, by simp [step, hk, hall]⟩

theorem task_enabled {cfg : Cfg} {s : State} {t : Nat} {tk : Task} (hi : Inv cfg s) (hc : ContInv cfg s)
    (hk : s.tasks t = some tk) (hcap : FreeCap cfg s) (hnorig : 0 < cfg.norig) : Enabled cfg s := by
  cases tk with
  | mk k st =>
    cases st with
    | running => exact running_enabled hi hc hk hcap hnorig
    | pending => exact enabled_of (l := .enqueue t) (by dsimp only [step]; rw [hk])
    | queued =>
      cases hl : lockOf s.pool k with
      | none => exact enabled_of (l := .acquire t) (by dsimp only [step]; rw [hk]; dsimp only; rw [hl])
      | some l =>
        by_cases hh : lockHeld cfg s l = true
        · obtain ⟨u, k', hu⟩ := lockHeld_running hh
          exact running_enabled hi hc hu hcap hnorig
        · exact enabled_of (l := .acquire t) (by dsimp only [step]; rw [hk]; dsimp only; rw [hl]; exact if_neg hh)

theorem no_stuck_of {cfg : Cfg} {s : State} (hi : Inv cfg s) (hcache : Cache s) (hc : ContInv cfg s)
    (hcap : FreeCap cfg s) (hnorig : 0 < cfg.norig) (hnb : 0 < cfg.nblocks)
    (hrest : 0 < restWeight cfg (fun _ => 1) s) : Enabled cfg s := by
  by_cases hnot : ∀ t, s.tasks t = none
  swap
  · obtain ⟨t, ht⟩ := not_forall.mp hnot
    obtain ⟨tk, hk⟩ := Option.ne_none_iff_exists'.mp ht
    exact task_enabled hi hc hk hcap hnorig
  obtain ⟨t1, ht1⟩ := hcap.task
  simp only [restWeight, hnot, taskW_none, sumOver_const_zero] at hrest
  by_cases hsrc : 0 < sumOver (List.range cfg.nsrc) (fun i => wsum (fun _ => 1) (s.srcLeft i))
  · obtain ⟨i, hi', hpos⟩ := sumOver_pos hsrc
    have hne : s.srcLeft i ≠ [] := by intro e; rw [e] at hpos; cases hpos
    exact enabled_of (l := .launchBatch i t1) (if_pos ⟨List.mem_range.mp hi', by simpa using hne, ht1⟩)
  by_cases hcp : s.contPool = []
  swap
  · exact enabled_of (l := .launchCont t1) (if_pos ⟨by simpa using hcp, ht1, hnb⟩)
  -- a buffer in use is an active buffer (there are no tasks): premature launch
  by_cases hbuf : 0 < sumOver (List.range cfg.bufCap) (fun b => bufW (fun _ => 1) (s.pool b))
  · obtain ⟨b, -, hpos⟩ := sumOver_pos hbuf
    obtain ⟨buf, hb⟩ : ∃ buf, s.pool b = some buf :=
      Option.ne_none_iff_exists'.mp fun e => by rw [e] at hpos; cases hpos
    have hlen : 0 < bufLen s.pool b := bufW_one s.pool b ▸ hpos
    obtain ⟨-, r, hr⟩ := hi.own.owned b buf hb
    cases r with
    | task t => rw [refBuf_task_none (hnot t)] at hr; cases hr
    | act g d =>
      have hck := hcache.ok g
      have hpos : 0 < (s.largest g).2 := Nat.lt_of_lt_of_le hlen (hck.bound d b (hcache.range g d b hr) hr)
      have hidx : (s.largest g).1 ≠ NDIR := fun e => Nat.ne_of_gt hpos (hck.empty e)
      obtain ⟨-, a, ha, -⟩ := hck.attained hidx
      have hheld : lockHeld cfg s (.sub g) = false := Bool.eq_false_iff.mpr fun hh => by
        obtain ⟨u, k', hu⟩ := lockHeld_running hh
        rw [hnot u] at hu; cases hu
      exact enabled_of (l := .premature g t1)
        (by dsimp only [step]; rw [if_pos ⟨hidx, hpos, by rw [hheld]; rfl, ht1⟩, ha])
  -- what is left is in the continuous-source buffers: a flush task must exist -- contradiction
  exfalso
  have hcont : 0 < sumOver (pairsU cfg) (fun k => wsum (fun _ => 1) (s.cont k)) := by
    rw [hcp, wsum_nil] at hrest
    omega
  obtain ⟨⟨c, g⟩, -, hpos⟩ := sumOver_pos hcont
  have hne : s.cont (c, g) ≠ [] := by intro e; rw [e] at hpos; cases hpos
  obtain ⟨t, ht⟩ := hc.served hcp (fun t n => by rw [hnot t]; nofun) c g hne
  rw [hnot t] at ht; cases ht

end CMacVerif.Photon
