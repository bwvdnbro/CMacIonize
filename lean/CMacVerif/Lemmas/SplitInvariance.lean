import CMacVerif.Lemmas.RayMarch
import CMacVerif.Lemmas.SubgridLayout
set_option linter.unusedSectionVars false
/-!
# Split invariance: chained subgrid marches = march over the undivided grid (C03 with C02's model)

The chained run (C02's `step` / `initSt` in every subgrid, C03's hand-over) is compared step by step with a reference
run on the unfolded lattice of cells, which depends on the grid only and not on the layout: with exact indices a pass
is the reference pass (wall distances do not change under a shift by whole cells, `lAx_shift`), an index recomputed on a
cell wall costs one pass of length zero.  Exact arithmetic over any linearly ordered field.
-/
namespace CMacVerif.Split
open CMacVerif.RayMarch
open CMacVerif.SubgridLayout (Layout gridPosition indexOf ngb outToInDir offsetOf comp clsOfOffset exitClass axisStep StepCommutes runSum Halts sim_totals)
open CMacVerif.Handover (LocalStep ChainState updatePosAxis startIndexAxis)

variable {K : Type} [Field K] [LinearOrder K] [IsStrictOrderedRing K]

/-! ## bridging the two generated table files (both regenerated from the same headers) -/

def axNum : Ax → Nat
  | .x => 0
  | .y => 1
  | .z => 2

theorem bridge_pin : ∀ d, d < 27 → ∀ a : Ax,
    pinKind d a = SubgridLayout.pinAt d (axNum a) ∧ idxKind d a = SubgridLayout.idxClassAt d (axNum a) := by
  intro d hd a
  revert d
  cases a <;> decide

theorem bridge_maskTab : CMacVerif.Gen.TDC02.maskTab = CMacVerif.Gen.TravelDirections.maskTable := by decide

theorem bridge_mask : ∀ m, m < 64 → RayMarch.maskDir m = SubgridLayout.maskDir m := fun m _ => by
  unfold RayMarch.maskDir SubgridLayout.maskDir; rw [bridge_maskTab]

theorem dirInside_eq : CMacVerif.Gen.TDC02.dirInside = 0 := by decide

/-- wall distance `l[a]` for the cell with (integer) index `i` of size `h`, position `p`, direction `d` -/
def lAx (d h p : K) (i : Int) : K := wallDist d (1.0 / d) ((i : K) * h) (((i : K) + 1) * h) p

theorem lAx_shift (d h p : K) (i k : Int) : lAx d h (p + (k : K) * h) (i + k) = lAx d h p i := by
  unfold lAx
  rcases lt_trichotomy d 0 with hn | hz | hp
  · rw [wallDist_neg hn, wallDist_neg hn]; push_cast; ring
  · subst hz; rw [wallDist_zero, wallDist_zero]
  · rw [wallDist_pos hp, wallDist_pos hp]; push_cast; ring

theorem lAx_zero_of_low {d h p : K} {i : Int} (hd : d < 0) (hp : p = (i : K) * h) : lAx d h p i = 0 := by
  unfold lAx; rw [wallDist_neg hd, hp]; simp

/-- `X` lies in the closed cell `G` of size `h`, off the wall the packet moves towards (it may sit on the one it entered
through): strictly below the upper wall when `0 ≤ d`, strictly above the lower wall when `d < 0` (the `cgood` clause of
`RelWith` on one axis) -/
abbrev GoodCell (d h X : K) (G : Int) : Prop :=
  (G : K) * h ≤ X ∧ X ≤ ((G : K) + 1) * h ∧ (0 ≤ d → X < ((G : K) + 1) * h) ∧ (d < 0 → (G : K) * h < X)

theorem GoodCell.lo {d h X : K} {G : Int} (hg : GoodCell d h X G) : (G : K) * h ≤ X := hg.1
theorem GoodCell.hi {d h X : K} {G : Int} (hg : GoodCell d h X G) : X ≤ ((G : K) + 1) * h := hg.2.1
theorem GoodCell.up {d h X : K} {G : Int} (hg : GoodCell d h X G) : 0 ≤ d → X < ((G : K) + 1) * h := hg.2.2.1
theorem GoodCell.down {d h X : K} {G : Int} (hg : GoodCell d h X G) : d < 0 → (G : K) * h < X := hg.2.2.2

theorem goodCell_shift {d h X p : K} {G i k : Int} (hX : X = p + (k : K) * h) (hG : G = i + k) :
    GoodCell d h X G ↔ GoodCell d h p i := by
  subst hX hG
  -- both walls move by `k h` with the point
  have e1 : ((i + k : Int) : K) * h = (i : K) * h + (k : K) * h := by push_cast; ring
  have e2 : (((i + k : Int) : K) + 1) * h = ((i : K) + 1) * h + (k : K) * h := by push_cast; ring
  simp only [GoodCell, e1, e2, add_le_add_iff_right, add_lt_add_iff_right]

theorem lAx_pos_of_good {d h p : K} {i : Int} (hd : d ≠ 0) (hg : GoodCell d h p i) : 0 < lAx d h p i := by
  unfold lAx
  rcases lt_or_gt_of_ne hd with hn | hp
  · rw [wallDist_neg hn]; exact div_pos_of_neg_of_neg (by have := hg.down hn; linarith) hn
  · rw [wallDist_pos hp]; exact div_pos (by have := hg.up hp.le; linarith) hp


/-! ## the split run: C02's `step` / `initSt` in every subgrid -/

/-- geometry of the whole grid in exact arithmetic: box anchor and cell size (the creator computes the
subgrid side as box side / number of subgrids and the cell size as subgrid side / cells per subgrid: in
exact arithmetic every subgrid has the same cell size `h`) -/
structure Geom (K : Type) where
  A : V3 K
  h : V3 K

def mV (L : Layout) : V3 Nat := ⟨L.mx, L.my, L.mz⟩
def nV (L : Layout) : V3 Nat := ⟨L.nx, L.ny, L.nz⟩
def pV (L : Layout) : V3 Bool := ⟨L.px, L.py, L.pz⟩
/-- cells of the whole grid per axis -/
def NV (L : Layout) : V3 Nat := ⟨L.nx * L.mx, L.ny * L.my, L.nz * L.mz⟩
def posV (L : Layout) (s : Nat) : V3 Nat := ⟨(gridPosition L s).1, (gridPosition L s).2.1, (gridPosition L s).2.2⟩
/-- global index of the first cell of subgrid `s` on axis `a` -/
def off (L : Layout) (s : Nat) (a : Ax) : Int := ((posV L s).get a : Int) * ((mV L).get a : Int)

/-- the `DensitySubGrid` of subgrid `s` (what `create_subgrid` constructs) -/
def blockOf (g : Geom K) (L : Layout) (s : Nat) : Block K :=
  { anchor := V3.of fun a => g.A.get a + (off L s a : K) * g.h.get a
    cs := g.h
    inv := V3.of fun a => 1 / g.h.get a
    n := mV L }

/-- local one-index → local three-index -/
def decode (m : V3 Nat) (c : Nat) : V3 Int :=
  ⟨((c / (m.y * m.z) : Nat) : Int), (((c % (m.y * m.z)) / m.z : Nat) : Int), (((c % (m.y * m.z)) % m.z : Nat) : Int)⟩

/-- cell contents of subgrid `s`: the global field (a function of the global three-index) seen through
the local one-index -/
def cellsOf (field : Int × Int × Int → Cell K) (L : Layout) (s : Nat) : Nat → Cell K := fun c =>
  field ((decode (mV L) c).x + off L s .x, (decode (mV L) c).y + off L s .y, (decode (mV L) c).z + off L s .z)

/-- the newest visit of a loop state (every pass of the loop body records one) -/
def lastVisit (ph : Photon K) (s : St K) : Visit K :=
  match s.out with
  | v :: _ => v
  | [] => visit ph s.idx 0 0.0

/-- what `interact` writes back into the packet when the loop is over -/
def writeBack (b : Block K) (ph : Photon K) (s : St K) : Photon K :=
  { ph with pos := V3.of fun a => s.pos.get a + b.anchor.get a, tau := ph.tau - s.tauDone }

/-- one pass of the `interact` loop in subgrid `s`, and what follows when the loop condition fails
afterwards (`tau_done >= tau_target`: absorbed; index outside: exit through `get_output_direction`) -/
def localStep (g : Geom K) (field : Int × Int × Int → Cell K) (L : Layout) (s : Nat)
    (x : Photon K × St K) : LocalStep (Photon K × St K) (Visit K) :=
  let b := blockOf g L s
  let st' := step b (cellsOf field L s) x.1 x.2
  let v := lastVisit x.1 st'
  if x.1.tau ≤ st'.tauDone then .absorbed v (writeBack b x.1 st', st')
  else if inside b.n st'.idx then .move v (x.1, st')
  else .exit v (RayMarch.outputDirection b.n st'.idx).toNat (writeBack b x.1 st', st')

/-- the beginning of `interact` in the neighbour: `position - anchor`, `update_photon_position`, `get_start_index` -/
def enterStep (g : Geom K) (L : Layout) (t inDir : Nat) (x : Photon K × St K) : Photon K × St K :=
  (x.1, initSt (blockOf g L t) x.1 inDir)

/-- `get_subgrid(position)`: `floor((x - anchor) / subgrid_side)` per axis -/
def subgridOf (g : Geom K) (L : Layout) (p : V3 K) : Nat :=
  let c : Ax → Nat := fun a =>
    floorUpTo ((nV L).get a) ((p.get a - g.A.get a) / (ofNat ((mV L).get a) * g.h.get a))
  indexOf L (c .x) (c .y) (c .z)

abbrev Totals := Int × Int × Int → K

/-- contribution of a visit in subgrid `s` to the per-cell path totals: its path, at its global cell -/
def valOf (L : Layout) (s : Nat) (v : Visit K) : Int × Int × Int → K :=
  Pi.single (v.idx.x + off L s .x, v.idx.y + off L s .y, v.idx.z + off L s .z) v.path

/-! ## the reference run: the same march on the unfolded (periodically continued) lattice of cells,
without subgrids, without repositioning, without index recomputation -/

structure Env (K : Type) where
  h : V3 K
  N : V3 Nat
  per : V3 Bool
  field : Int × Int × Int → Cell K
  pk : Photon K

structure CS (K : Type) where
  X : V3 K         -- position relative to the box anchor (unfolded)
  G : V3 Int       -- cell index (unfolded)
  td : K           -- optical depth done

inductive CState (K : Type) where
  | run (c : CS K)
  | absorbed (c : CS K)
  | escaped (c : CS K)

def key (N : V3 Nat) (G : V3 Int) : Int × Int × Int := (G.x % (N.x : Int), G.y % (N.y : Int), G.z % (N.z : Int))

def cl (e : Env K) (c : CS K) (a : Ax) : K := lAx (e.pk.dir.get a) (e.h.get a) (c.X.get a) (c.G.get a)
def clmin (e : Env K) (c : CS K) : K := lmin3 (V3.of (cl e c))
def ctau (e : Env K) (c : CS K) : K := opticalDepth (e.field (key e.N c.G)) e.pk (clmin e c)

/-- the index left the grid on a non-periodic axis -/
def cOut (e : Env K) (c : CS K) (a : Ax) : Bool :=
  !e.per.get a && (decide (c.G.get a < 0) || decide ((e.N.get a : Int) ≤ c.G.get a))

def cLeave (e : Env K) (c : CS K) : CS K :=
  { X := V3.of fun a => c.X.get a + clmin e c * e.pk.dir.get a
    G := V3.of fun a => bumpAxis (e.pk.dir.get a) (cl e c a) (clmin e c) (c.G.get a)
    td := c.td + ctau e c }

def cStopPath (e : Env K) (c : CS K) : K := clmin e c * (1.0 - (c.td + ctau e c - e.pk.tau) / ctau e c)

def cStop (e : Env K) (c : CS K) : CS K :=
  { X := V3.of fun a => c.X.get a + cStopPath e c * e.pk.dir.get a, G := c.G, td := c.td + ctau e c }

def cstep (e : Env K) : CState K → Option ((Int × Int × Int → K) × CState K)
  | .run c =>
    if e.pk.tau ≤ c.td + ctau e c then
      some (Pi.single (key e.N c.G) (cStopPath e c), .absorbed (cStop e c))
    else
      some (Pi.single (key e.N c.G) (clmin e c),
        if cOut e (cLeave e c) .x || cOut e (cLeave e c) .y || cOut e (cLeave e c) .z
        then .escaped (cLeave e c) else .run (cLeave e c))
  | _ => none


/-! ## standing assumptions and the state correspondence -/

/-- what the theorem assumes about grid, cell contents and packet (C02's `Valid`, for every subgrid) -/
structure Ok (g : Geom K) (L : Layout) (field : Int × Int × Int → Cell K) (pk : Photon K) : Prop where
  h_pos : ∀ a, 0 < g.h.get a
  m_pos : ∀ a, 0 < (mV L).get a
  moving : ∃ a, pk.dir.get a ≠ 0
  big : ∀ a, pk.dir.get a ≠ 0 → g.h.get a < dblMax * |pk.dir.get a|
  kappa_nonneg : ∀ k, 0 ≤ kappa (field k) pk
  tau_pos : 0 < pk.tau

def envOf (g : Geom K) (L : Layout) (field : Int × Int × Int → Cell K) (pk : Photon K) : Env K :=
  { h := g.h, N := NV L, per := pV L, field := field, pk := pk }

/-- index correspondence on one axis: exact, or the split run is one cell ahead (it recomputed the index
from a coordinate that lies exactly on a cell wall while moving in the negative direction) -/
def AxRel (d h pos : K) (idx sh G : Int) : Prop :=
  G = idx + sh ∨ (G + 1 = idx + sh ∧ d < 0 ∧ pos = (idx : K) * h)

def Ahead (d h pos : K) (idx sh G : Int) : Prop := G + 1 = idx + sh ∧ d < 0 ∧ pos = (idx : K) * h

/-- The invariant of the simulation: the local state `ph st` of the chained run in subgrid `s` against the state `c` of
the reference run, with the index shift `sh` of the subgrid (`shift`: its first cell, up to whole box lengths on a
periodic axis).  Same packet data and remaining optical depth (`dir` … `td0`), the same point (`pos`), the index exact
or one cell ahead on each axis (`idx`, `AxRel`), in range (`inr`); the reference point lies in its cell off the wall it
moves towards (`cgood`) and inside the box on non-periodic axes (`cin`).  `fresh` is what bounds the zero-length passes
(`rank`, `step_stutter`): while a coordinate sits on the upper block face, where only a hand-over from the subgrid
above (left through its lower face) puts it, no axis that is ahead is in the first cell, so the zero-length pass that
follows does not leave the subgrid. -/
structure RelWith (g : Geom K) (e : Env K) (L : Layout) (s : Nat) (ph : Photon K) (st : St K) (c : CS K)
    (sh : V3 Int) : Prop where
  slt : s < L.size
  shift : ∀ a, ∃ w : Int, sh.get a = off L s a + w * (e.N.get a : Int) ∧ (e.per.get a = false → w = 0)
  dir : ph.dir = e.pk.dir
  sigH : ph.sigH = e.pk.sigH
  sigHe : ph.sigHe = e.pk.sigHe
  tau : ph.tau - st.tauDone = e.pk.tau - c.td
  run : st.tauDone < ph.tau
  td0 : 0 ≤ st.tauDone
  pos : ∀ a, c.X.get a = st.pos.get a + (sh.get a : K) * e.h.get a
  idx : ∀ a, AxRel (ph.dir.get a) (e.h.get a) (st.pos.get a) (st.idx.get a) (sh.get a) (c.G.get a)
  inr : InRange (mV L) st.idx
  cgood : ∀ a, (c.G.get a : K) * e.h.get a ≤ c.X.get a ∧ c.X.get a ≤ ((c.G.get a : K) + 1) * e.h.get a
    ∧ (0 ≤ e.pk.dir.get a → c.X.get a < ((c.G.get a : K) + 1) * e.h.get a)
    ∧ (e.pk.dir.get a < 0 → (c.G.get a : K) * e.h.get a < c.X.get a)
  cin : ∀ a, e.per.get a = false → 0 ≤ c.G.get a ∧ c.G.get a < (e.N.get a : Int)
  fresh : (∃ a, st.pos.get a = top (blockOf g L s) a) →
    ∀ b, Ahead (ph.dir.get b) (e.h.get b) (st.pos.get b) (st.idx.get b) (sh.get b) (c.G.get b) → 1 ≤ st.idx.get b

def Rel (g : Geom K) (e : Env K) (L : Layout) (s : Nat) (ph : Photon K) (st : St K) (c : CS K) : Prop :=
  ∃ sh, RelWith g e L s ph st c sh

/-- the `shift` clause of `RelWith` on one axis: `sh` is the global index `o` of the first cell of the subgrid, up
to whole box lengths `N` on a periodic axis -/
abbrev ShiftOf (per : Bool) (N : Nat) (o sh : Int) : Prop := ∃ w : Int, sh = o + w * (N : Int) ∧ (per = false → w = 0)

theorem shift_nonper {per : Bool} {N : Nat} {o sh : Int} (h : ShiftOf per N o sh) (hp : per = false) : sh = o := by
  obtain ⟨w, hw, hw0⟩ := h
  rw [hw, hw0 hp, zero_mul, add_zero]

section basics
variable (g : Geom K) (L : Layout) (field : Int × Int × Int → Cell K) (pk : Photon K)

@[simp] theorem blockOf_cs (s : Nat) : (blockOf g L s).cs = g.h := rfl
@[simp] theorem blockOf_n (s : Nat) : (blockOf g L s).n = mV L := rfl
theorem blockOf_inv (s : Nat) (a : Ax) : (blockOf g L s).inv.get a = 1 / g.h.get a := V3.get_of _ a
@[simp] theorem envOf_h : (envOf g L field pk).h = g.h := rfl
@[simp] theorem envOf_N : (envOf g L field pk).N = NV L := rfl
@[simp] theorem envOf_per : (envOf g L field pk).per = pV L := rfl
@[simp] theorem envOf_field : (envOf g L field pk).field = field := rfl
@[simp] theorem envOf_pk : (envOf g L field pk).pk = pk := rfl

theorem kappa_congr (c : Cell K) (ph : Photon K) (h1 : ph.sigH = pk.sigH) (h2 : ph.sigHe = pk.sigHe) :
    kappa c ph = kappa c pk := by unfold kappa; rw [h1, h2]

theorem opticalDepth_congr (c : Cell K) (ph : Photon K) (h1 : ph.sigH = pk.sigH) (h2 : ph.sigHe = pk.sigHe) (x : K) :
    opticalDepth c ph x = opticalDepth c pk x := by unfold opticalDepth; rw [h1, h2]

end basics


theorem decode_oneIndex (m : V3 Nat) (i : V3 Int) (hr : InRange m i) :
    decode m (oneIndex m i).toNat = i := by
  have hx := hr .x; have hy := hr .y; have hz := hr .z
  simp only [V3.get] at hx hy hz
  obtain ⟨x, hxe⟩ := Int.eq_ofNat_of_zero_le hx.1
  obtain ⟨y, hye⟩ := Int.eq_ofNat_of_zero_le hy.1
  obtain ⟨z, hze⟩ := Int.eq_ofNat_of_zero_le hz.1
  have hone : (oneIndex m i).toNat = x * (m.y * m.z) + y * m.z + z := by
    unfold oneIndex
    rw [hxe, hye, hze]
    have : ((x : Int) * ((m.y : Int) * (m.z : Int)) + (y : Int) * (m.z : Int) + (z : Int))
        = ((x * (m.y * m.z) + y * m.z + z : Nat) : Int) := by push_cast; ring
    rw [this, Int.toNat_natCast]
  obtain ⟨h1, h2, h3⟩ := MixedRadix.index_div_mod (a := x) (n1 := m.y) (n2 := m.z) (b := y) (c := z) (by omega) (by omega)
  unfold decode
  rw [hone, h1, h2, h3]
  cases i
  simp only [V3.mk.injEq]
  simp only at hxe hye hze
  exact ⟨hxe.symm, hye.symm, hze.symm⟩

theorem cellsOf_oneIndex (field : Int × Int × Int → Cell K) (L : Layout) (s : Nat) (i : V3 Int)
    (hr : InRange (mV L) i) :
    cellsOf field L s (oneIndex (mV L) i).toNat = field (i.x + off L s .x, i.y + off L s .y, i.z + off L s .z) := by
  unfold cellsOf; rw [decode_oneIndex _ _ hr]

section local_facts
variable {g : Geom K} {L : Layout} {field : Int × Int × Int → Cell K} {pk : Photon K}
variable {s : Nat} {ph : Photon K} {st : St K} {c : CS K} {sh : V3 Int}

theorem posV_lt (hs : s < L.size) (a : Ax) : (posV L s).get a < (nV L).get a := by
  obtain ⟨h1, h2, h3⟩ := SubgridLayout.gridPosition_lt L s hs
  cases a <;> simpa [posV, nV, V3.get]

theorem NV_get (L : Layout) (a : Ax) : (NV L).get a = (nV L).get a * (mV L).get a := by cases a <;> rfl

theorem off_range (hs : s < L.size) (a : Ax) (i : Int) (h0 : 0 ≤ i) (h1 : i < ((mV L).get a : Int)) :
    0 ≤ i + off L s a ∧ i + off L s a < ((NV L).get a : Int) := by
  have hb := SubgridLayout.block_in_grid ((mV L).get a) (posV_lt (L := L) hs a)
  rw [NV_get]; unfold off; constructor <;> omega

variable (hok : Ok g L field pk) (hR : RelWith g (envOf g L field pk) L s ph st c sh)
include hok hR

theorem rel_valid : Valid (blockOf g L s) (cellsOf field L s) ph where
  cs_pos := hok.h_pos
  n_pos := hok.m_pos
  moving := by rw [hR.dir]; exact hok.moving
  big := by rw [hR.dir]; exact hok.big
  kappa_nonneg := fun c => by
    unfold cellsOf; rw [kappa_congr pk _ ph hR.sigH hR.sigHe]; exact hok.kappa_nonneg _
  tau_pos := lt_of_le_of_lt hR.td0 hR.run

omit hok in
theorem rel_goodCell (a : Ax) (he : c.G.get a = st.idx.get a + sh.get a) :
    GoodCell (ph.dir.get a) (g.h.get a) (st.pos.get a) (st.idx.get a) := by
  rw [hR.dir]; exact (goodCell_shift (hR.pos a) he).mp (hR.cgood a)

theorem rel_inCell : InCell (blockOf g L s) st := fun a => by
  rcases hR.idx a with he | ⟨_, _, hpos⟩
  · exact ⟨(rel_goodCell hR a he).lo, (rel_goodCell hR a he).hi⟩
  · have hh := hok.h_pos a
    rw [blockOf_cs, hpos, envOf_h]; constructor <;> linarith

theorem rel_pass : Pass (blockOf g L s) (cellsOf field L s) ph st (geo (blockOf g L s) (cellsOf field L s) ph st) :=
  pass_geo (rel_valid hok hR) hR.inr (rel_inCell hok hR)

theorem rel_l (a : Ax) : (geo (blockOf g L s) (cellsOf field L s) ph st).l.get a
    = lAx (ph.dir.get a) (g.h.get a) (st.pos.get a) (st.idx.get a) :=
  (rel_pass hok hR).l a

theorem rel_l_pos (a : Ax) (he : c.G.get a = st.idx.get a + sh.get a) (hd : ph.dir.get a ≠ 0) :
    0 < (geo (blockOf g L s) (cellsOf field L s) ph st).l.get a := by
  rw [rel_l hok hR a]
  exact lAx_pos_of_good hd (rel_goodCell hR a he)

theorem rel_l_exact (a : Ax) (he : c.G.get a = st.idx.get a + sh.get a) :
    (geo (blockOf g L s) (cellsOf field L s) ph st).l.get a = cl (envOf g L field pk) c a := by
  rw [rel_l hok hR a, cl, hR.pos a, he, lAx_shift, hR.dir]; rfl

theorem rel_l_ahead (a : Ax)
    (ha : Ahead (ph.dir.get a) (g.h.get a) (st.pos.get a) (st.idx.get a) (sh.get a) (c.G.get a)) :
    (geo (blockOf g L s) (cellsOf field L s) ph st).l.get a = 0 := by
  rw [rel_l hok hR a]; exact lAx_zero_of_low ha.2.1 ha.2.2

/-! ## a pass of the loop body when all indices correspond exactly: it is the pass of the reference run -/

variable (hall : ∀ a, c.G.get a = st.idx.get a + sh.get a)
include hall

omit hok in
theorem exact_key : key (NV L) c.G = (st.idx.x + off L s .x, st.idx.y + off L s .y, st.idx.z + off L s .z) := by
  have hax : ∀ a, c.G.get a % ((NV L).get a : Int) = st.idx.get a + off L s a := by
    intro a
    obtain ⟨w, hw, _⟩ := hR.shift a
    simp only [envOf_N] at hw
    have hr := off_range (L := L) hR.slt a (st.idx.get a) (hR.inr a).1 (hR.inr a).2
    rw [hall a, hw, ← add_assoc, Int.add_mul_emod_self_right, Int.emod_eq_of_lt hr.1 hr.2]
  have hx := hax .x; have hy := hax .y; have hz := hax .z
  simp only [V3.get] at hx hy hz
  unfold key; rw [hx, hy, hz]

theorem exact_lmin : (geo (blockOf g L s) (cellsOf field L s) ph st).lmin = clmin (envOf g L field pk) c := by
  have : (geo (blockOf g L s) (cellsOf field L s) ph st).l = V3.of (cl (envOf g L field pk) c) :=
    V3.ext_get fun a => by rw [rel_l_exact hok hR a (hall a), V3.get_of]
  rw [geo_lmin, this]; rfl

theorem exact_tau : (geo (blockOf g L s) (cellsOf field L s) ph st).tau = ctau (envOf g L field pk) c := by
  rw [geo_tau, exact_lmin hok hR hall]
  unfold ctau
  rw [opticalDepth_eq]
  simp only [blockOf_n, envOf_N, envOf_field, envOf_pk]
  rw [cellsOf_oneIndex _ _ _ _ hR.inr, exact_key hR hall, kappa_congr pk _ ph hR.sigH hR.sigHe]

theorem exact_reach : ph.tau ≤ (geo (blockOf g L s) (cellsOf field L s) ph st).td ↔
    pk.tau ≤ c.td + ctau (envOf g L field pk) c := by
  rw [geo_td, exact_tau hok hR hall]
  have := hR.tau
  simp only [envOf_pk] at this
  constructor <;> intro h <;> linarith

end local_facts

/-! ## re-entry into the neighbour, one axis -/

/-- recomputing the index (`floor`, clamped to the last cell) of a coordinate in the closed cell `i`: the same cell,
or one cell ahead on its upper wall, which the reference run only touches while moving down -/
theorem floor_axRel {h d pos : K} {i sh : Int} {m : Nat} (hh : 0 < h) (hg : GoodCell d h pos i)
    (h0 : 0 ≤ pos) (hlt : pos < (m : K) * h) :
    AxRel d h pos (clampIdx ((floorUpTo m (pos * (1 / h)) : Nat) : Int) ((m : Int) - 1)) sh (i + sh)
      ∧ 0 ≤ clampIdx ((floorUpTo m (pos * (1 / h)) : Nat) : Int) ((m : Int) - 1)
      ∧ clampIdx ((floorUpTo m (pos * (1 / h)) : Nat) : Int) ((m : Int) - 1) < (m : Int) := by
  obtain ⟨c1, c2, c3⟩ := floorUpTo_owner (n := m) hh h0 hlt
  -- the position is strictly below the upper boundary: the clamp is inactive
  rw [clampIdx, if_neg (by omega)]
  refine ⟨?_, Int.natCast_nonneg _, by exact_mod_cast c3⟩
  rcases Axis.cell_of_closed hh (k := ((floorUpTo m (pos * (1 / h)) : Nat) : Int)) (by exact_mod_cast c1)
    (by exact_mod_cast c2) hg.lo hg.hi with e | ⟨e, hw⟩
  · exact Or.inl (by rw [e])
  · refine Or.inr ⟨by rw [e]; ring, lt_of_not_ge fun hd => (hg.up hd).ne hw, ?_⟩
    rw [e, hw]; push_cast; ring

/-- what `entry_axis` establishes on one axis: the state `posN idxN` the neighbour (first cell `o`) starts from
corresponds with the shift `sh'` to the reference state `X G` — the per-axis clauses of `RelWith`, and where the
coordinate is pinned after an exit through the lower face (`idx' < 0`) -/
structure EntryAxis (p : Bool) (N m : Nat) (h d X : K) (G o idx' : Int) (posN : K) (idxN sh' : Int) : Prop where
  shift : ShiftOf p N o sh'
  pos : X = posN + (sh' : K) * h
  idx : AxRel d h posN idxN sh' G
  inr : 0 ≤ idxN ∧ idxN < (m : Int)
  fresh : Ahead d h posN idxN sh' G → 1 ≤ idxN
  pinTop : idx' < 0 → posN = (m : K) * h

/-- One axis of the hand-over.  `pos' idx'` is the local state after the pass that left the subgrid at coordinate `i`
(`LeaveAxis`; `GoodCell` adds which wall it is off), in exact correspondence `X = pos' + sh h`, `G = idx' + sh` with the
reference state; the neighbour sits at coordinate `j`.  `posN idxN` are what the entry code computes in the neighbour
(`update_photon_position`, `get_start_index` for the opposite of the exit class, the index of a kept coordinate being
recomputed).  Then the new local state corresponds to the same reference state, exactly or one cell ahead, with the
shift moved by the subgrid side on a crossed axis. -/
theorem entry_axis {h d X pos' : K} {G sh idx' : Int} {m n i j N : Nat} {p : Bool}
    (hN : N = n * m) (hh : 0 < h) (hm : 0 < m) (hi : i < n)
    (hL : LeaveAxis m h d pos' idx')
    (hgc : GoodCell d h pos' idx')
    (hX : X = pos' + (sh : K) * h) (hG : G = idx' + sh)
    (hshift : ShiftOf p N ((i : Int) * m) sh)
    (hlt : 0 ≤ idx' → idx' < (m : Int) → pos' < (m : K) * h)
    (hj : axisStep p n i (exitClass m idx') = some j)
    (posN : K) (idxN : Int)
    (hposN : posN = updatePosAxis (clsOfOffset (-(exitClass m idx'))) (m : K) h
      (pos' + (((i : Int) * m - (j : Int) * m : Int) : K) * h))
    (hidxN : idxN = startIndexAxis (clsOfOffset (-(exitClass m idx'))) m
      (clampIdx ((floorUpTo m (posN * (1 / h)) : Nat) : Int) ((m : Int) - 1))) :
    EntryAxis p N m h d X G ((j : Int) * m) idx' posN idxN (sh + exitClass m idx' * (m : Int)) := by
  obtain ⟨w, hw, hwp⟩ := hshift
  have hes := SubgridLayout.exitClass_cases m idx' hL.range
  have hpos : posN = pos' - (exitClass m idx' : K) * ((m : K) * h) := by
    rw [hposN]
    refine SubgridLayout.updatePosAxis_handover m _ h _ pos' (SubgridLayout.exitClass_small m idx')
      ⟨fun he => (hL.high (by omega)).2, fun he => (hL.low (by omega)).2⟩ fun he => ?_
    rw [he] at hj
    obtain rfl : i = j := Option.some.inj ((SubgridLayout.axisStep_zero p n i hi).symm.trans hj)
    rw [sub_self, Int.cast_zero, zero_mul, add_zero]
  by_cases he : exitClass m idx' = 0
  · -- the axis is not crossed: index recomputed from the kept coordinate
    have h0i : 0 ≤ idx' ∧ idx' < m := by omega
    rw [he, Int.cast_zero, zero_mul, sub_zero] at hpos
    subst hpos
    rw [he] at hj hidxN
    obtain rfl : i = j := Option.some.inj ((SubgridLayout.axisStep_zero p n i hi).symm.trans hj)
    have h0 : 0 ≤ posN := le_trans (mul_nonneg (by exact_mod_cast h0i.1) hh.le) hgc.lo
    obtain ⟨hrel, hfl⟩ := floor_axRel (sh := sh) (m := m) hh hgc h0 (hlt h0i.1 h0i.2)
    rw [SubgridLayout.startIndexAxis_exit_none] at hidxN
    rw [he, zero_mul, add_zero]
    refine ⟨⟨w, hw, hwp⟩, hX, by rw [hidxN, hG]; exact hrel, hidxN ▸ hfl, fun ha => ?_, fun h => absurd h (by omega)⟩
    have := ha.1; omega
  · -- a crossed axis: the start index names the same global cell from the neighbour
    obtain ⟨k, hk01, hjm, hst, hst0, hstm⟩ :=
      SubgridLayout.handover_index p n m i j idx' _ hi hm hL.range hj fun h => absurd h he
    rw [← hidxN] at hst hst0 hstm
    refine ⟨⟨w - k, by rw [hw, hjm, hN]; push_cast; ring, fun hp => ?_⟩,
      by rw [hX, hpos]; push_cast; ring, Or.inl (by omega), ⟨hst0, hstm⟩, fun ha => by have := ha.1; omega, fun hneg => ?_⟩
    · rw [hwp hp, hk01.resolve_right fun hr => by rw [hp] at hr; cases hr.1]; rfl
    · rw [hpos, (hL.low hneg).2, show exitClass m idx' = -1 by omega]
      push_cast; ring


/-! ## exit direction of the local index, in terms of C03's tables -/

theorem outputDirection_bridge (n : V3 Nat) (i : V3 Int) :
    RayMarch.outputDirection n i = SubgridLayout.outputDirection (n.x, n.y, n.z) (i.x, i.y, i.z) := by
  unfold RayMarch.outputDirection SubgridLayout.outputDirection RayMarch.maskDir SubgridLayout.maskDir
  rw [bridge_maskTab]; rfl

def tup (i : V3 Int) : Int × Int × Int := (i.x, i.y, i.z)

theorem comp_tup (i : V3 Int) (a : Ax) : comp (tup i) (axNum a) = i.get a := by cases a <;> rfl
theorem axM_get (L : Layout) (a : Ax) : SubgridLayout.axM L (axNum a) = (mV L).get a := by cases a <;> rfl
theorem axN_get (L : Layout) (a : Ax) : SubgridLayout.axN L (axNum a) = (nV L).get a := by cases a <;> rfl
theorem axP_get (L : Layout) (a : Ax) : SubgridLayout.axP L (axNum a) = (pV L).get a := by cases a <;> rfl
theorem posAx_get (L : Layout) (s : Nat) (a : Ax) :
    SubgridLayout.posAx (gridPosition L s) (axNum a) = (posV L s).get a := by cases a <;> rfl
theorem axNum_lt (a : Ax) : axNum a < 3 := by cases a <;> decide
theorem axNum_surj (ax : Nat) (h : ax < 3) : ∃ a : Ax, axNum a = ax := by
  rcases (by omega : ax = 0 ∨ ax = 1 ∨ ax = 2) with rfl | rfl | rfl
  exacts [⟨.x, rfl⟩, ⟨.y, rfl⟩, ⟨.z, rfl⟩]

theorem exit_dir_facts (L : Layout) (hx : 0 < L.mx) (hy : 0 < L.my) (hz : 0 < L.mz) (i : V3 Int) :
    (RayMarch.outputDirection (mV L) i).toNat < 27 ∧
    ∀ a, comp (offsetOf (RayMarch.outputDirection (mV L) i).toNat) (axNum a) = exitClass ((mV L).get a) (i.get a) := by
  rw [outputDirection_bridge]
  obtain ⟨hd, hoff⟩ := SubgridLayout.outputDirection_offset ((mV L).x, (mV L).y, (mV L).z) hx hy hz (i.x, i.y, i.z)
  refine ⟨hd, fun a => ?_⟩
  rw [hoff]
  cases a <;> rfl

theorem entry_kinds (d : Nat) (hd : d < 27) (a : Ax) :
    pinKind (outToInDir d) a = clsOfOffset (-(comp (offsetOf d) (axNum a)))
    ∧ idxKind (outToInDir d) a = clsOfOffset (-(comp (offsetOf d) (axNum a))) := by
  have hb := bridge_pin _ (SubgridLayout.outToIn_lt d hd) a
  have hc := SubgridLayout.classes_agree_with_offset _ (SubgridLayout.outToIn_lt d hd) (axNum a) (axNum_lt a)
  rw [hb.1, hb.2, hc.1, hc.2, SubgridLayout.comp_outToIn d hd]
  exact ⟨rfl, rfl⟩


/-! ## after a pass: stay, hand over, or leave the box -/

/-- the local state right after a "leave" pass (index possibly one cell outside the subgrid), in exact
correspondence with a reference state -/
structure RawRel (g : Geom K) (e : Env K) (L : Layout) (s : Nat) (ph : Photon K) (st : St K) (c : CS K)
    (sh : V3 Int) : Prop where
  slt : s < L.size
  shift : ∀ a, ShiftOf (e.per.get a) (e.N.get a) (off L s a) (sh.get a)
  dir : ph.dir = e.pk.dir
  sigH : ph.sigH = e.pk.sigH
  sigHe : ph.sigHe = e.pk.sigHe
  tau : ph.tau - st.tauDone = e.pk.tau - c.td
  run : st.tauDone < ph.tau
  td0 : 0 ≤ st.tauDone
  pos : ∀ a, c.X.get a = st.pos.get a + (sh.get a : K) * e.h.get a
  idx : ∀ a, c.G.get a = st.idx.get a + sh.get a
  axis : ∀ a, LeaveAxis ((mV L).get a) (e.h.get a) (ph.dir.get a) (st.pos.get a) (st.idx.get a)
  cgood : ∀ a, GoodCell (e.pk.dir.get a) (e.h.get a) (c.X.get a) (c.G.get a)

/-- C02's entry code on one axis is C03's `update_photon_position` / `get_start_index` on that axis -/
theorem initSt_pos_eq (b : Block K) (ph : Photon K) {inDir : Nat} (hd : inDir < 27) (a : Ax) :
    (initSt b ph inDir).pos.get a
      = updatePosAxis (pinKind inDir a) (ofNat (b.n.get a)) (b.cs.get a) (ph.pos.get a - b.anchor.get a) := by
  rw [initSt_pos, ← relPos_get]
  unfold pinAxis updatePosAxis
  obtain h | h | h : pinKind inDir a = 0 ∨ pinKind inDir a = 1 ∨ pinKind inDir a = 2 := by
    have := (tables_entry_ax inDir hd a).2; omega
  all_goals rw [h]; rfl

theorem initSt_idx_eq (b : Block K) (ph : Photon K) {inDir : Nat} (hd : inDir < 27) (a : Ax) :
    (initSt b ph inDir).idx.get a = startIndexAxis (idxKind inDir a) (b.n.get a)
      (clampIdx ((floorUpTo (b.n.get a) ((initSt b ph inDir).pos.get a * b.inv.get a) : Nat) : Int) ((b.n.get a : Int) - 1)) := by
  rw [initSt_idx, initSt_pos, ← pinPos_get]
  unfold startIdxAxis startIndexAxis
  obtain h | h | h : idxKind inDir a = 0 ∨ idxKind inDir a = 1 ∨ idxKind inDir a = 2 := by
    have := tables_entry_ax inDir hd a; omega
  all_goals rw [h]; rfl

theorem cOut_true_iff (e : Env K) (c : CS K) (a : Ax) :
    cOut e c a = true ↔ e.per.get a = false ∧ (c.G.get a < 0 ∨ (e.N.get a : Int) ≤ c.G.get a) := by
  unfold cOut; cases e.per.get a <;> simp

theorem cOut_false_iff (e : Env K) (c : CS K) (a : Ax) :
    cOut e c a = false ↔ (e.per.get a = false → 0 ≤ c.G.get a ∧ c.G.get a < (e.N.get a : Int)) := by
  unfold cOut; cases e.per.get a <;> simp

theorem Ok.m_pos3 {g : Geom K} {L : Layout} {field : Int × Int × Int → Cell K} {pk : Photon K}
    (hok : Ok g L field pk) : 0 < L.mx ∧ 0 < L.my ∧ 0 < L.mz := ⟨hok.m_pos .x, hok.m_pos .y, hok.m_pos .z⟩

section post
variable {g : Geom K} {L : Layout} {field : Int × Int × Int → Cell K} {pk : Photon K}
variable {s : Nat} {ph : Photon K} {st : St K} {c : CS K} {sh : V3 Int}
variable (hok : Ok g L field pk) (hW : RawRel g (envOf g L field pk) L s ph st c sh)
include hok hW

omit hok in
theorem raw_goodCell (a : Ax) : GoodCell (ph.dir.get a) (g.h.get a) (st.pos.get a) (st.idx.get a) := by
  rw [hW.dir]; exact (goodCell_shift (hW.pos a) (hW.idx a)).mp (hW.cgood a)

omit hok in
theorem raw_move (hin : InRange (mV L) st.idx) : RelWith g (envOf g L field pk) L s ph st c sh where
  slt := hW.slt
  shift := hW.shift
  dir := hW.dir
  sigH := hW.sigH
  sigHe := hW.sigHe
  tau := hW.tau
  run := hW.run
  td0 := hW.td0
  pos := hW.pos
  idx := fun a => Or.inl (hW.idx a)
  inr := hin
  cgood := hW.cgood
  cin := fun a hp => by
    rw [hW.idx a, shift_nonper (hW.shift a) hp]
    exact off_range (L := L) hW.slt a (st.idx.get a) (hin a).1 (hin a).2
  fresh := fun _ b hb => by
    have := hW.idx b
    have h1 := hb.1
    omega


theorem raw_exit_none
    (hn : ngb L s (RayMarch.outputDirection (mV L) st.idx).toNat = none) :
    ∃ a, cOut (envOf g L field pk) c a = true := by
  obtain ⟨hx, hy, hz⟩ := hok.m_pos3
  obtain ⟨hd, hcomp⟩ := exit_dir_facts L hx hy hz st.idx
  obtain ⟨ax, hax, ha⟩ := SubgridLayout.ngb_none_axis L hx hy hz s _ hd hn
  obtain ⟨a, rfl⟩ := axNum_surj ax hax
  rw [axP_get, axN_get, posAx_get, hcomp a] at ha
  obtain ⟨hp, hout⟩ := SubgridLayout.handover_cell_axis_none _ _ _ _ (st.idx.get a) (posV_lt hW.slt a) (hW.axis a).range ha
  refine ⟨a, (cOut_true_iff _ _ a).mpr ⟨hp, ?_⟩⟩
  rw [hW.idx a, shift_nonper (hW.shift a) hp, envOf_N, NV_get, add_comm]
  exact hout

theorem raw_exit_some (t : Nat)
    (hlt : ∀ a, 0 ≤ st.idx.get a → st.idx.get a < ((mV L).get a : Int) → st.pos.get a < top (blockOf g L s) a)
    (ht : ngb L s (RayMarch.outputDirection (mV L) st.idx).toNat = some t) :
    (∀ a, cOut (envOf g L field pk) c a = false) ∧
    Rel g (envOf g L field pk) L t (writeBack (blockOf g L s) ph st)
      (initSt (blockOf g L t) (writeBack (blockOf g L s) ph st)
        (outToInDir (RayMarch.outputDirection (mV L) st.idx).toNat)) c ∧
    ∀ a, st.idx.get a < 0 →
      (initSt (blockOf g L t) (writeBack (blockOf g L s) ph st)
        (outToInDir (RayMarch.outputDirection (mV L) st.idx).toNat)).pos.get a = top (blockOf g L t) a := by
  obtain ⟨hx, hy, hz⟩ := hok.m_pos3
  obtain ⟨hd, hcomp⟩ := exit_dir_facts L hx hy hz st.idx
  generalize (RayMarch.outputDirection (mV L) st.idx).toNat = d at hd hcomp ht ⊢
  have htl : t < L.size := SubgridLayout.ngb_lt L hx hy hz s d t hd ht
  have hpe := initSt_pos_eq (blockOf g L t) (writeBack (blockOf g L s) ph st) (SubgridLayout.outToIn_lt d hd)
  have hie := initSt_idx_eq (blockOf g L t) (writeBack (blockOf g L s) ph st) (SubgridLayout.outToIn_lt d hd)
  have htd := initSt_tau (blockOf g L t) (writeBack (blockOf g L s) ph st) (outToInDir d)
  generalize initSt (blockOf g L t) (writeBack (blockOf g L s) ph st) (outToInDir d) = stN at hpe hie htd ⊢
  have hE : ∀ a, EntryAxis ((pV L).get a) ((NV L).get a) ((mV L).get a) (g.h.get a) (ph.dir.get a)
      (c.X.get a) (c.G.get a) (off L t a) (st.idx.get a) (stN.pos.get a) (stN.idx.get a)
      ((V3.of fun a => sh.get a + exitClass ((mV L).get a) (st.idx.get a) * ((mV L).get a : Int)).get a) := by
    intro a
    rw [V3.get_of]
    have hj := SubgridLayout.ngb_axis L hx hy hz s d t hd ht (axNum a) (axNum_lt a)
    rw [axP_get, axN_get, posAx_get, posAx_get, hcomp a] at hj
    have hk := entry_kinds d hd a
    rw [hcomp a] at hk
    have hrel : (writeBack (blockOf g L s) ph st).pos.get a - (blockOf g L t).anchor.get a
        = st.pos.get a + ((((posV L s).get a : Int) * ((mV L).get a : Int) - ((posV L t).get a : Int) * ((mV L).get a : Int) : Int) : K) * g.h.get a := by
      simp only [writeBack, blockOf, V3.get_of, off]; push_cast; ring
    exact entry_axis (hN := NV_get L a) (hh := hok.h_pos a) (hm := hok.m_pos a) (hi := posV_lt hW.slt a)
      (hL := hW.axis a) (hgc := raw_goodCell hW a) (hX := hW.pos a) (hG := hW.idx a)
      (hshift := hW.shift a)
      (hlt := by have := hlt a; rw [top_eq] at this; exact this) (hj := hj)
      (hposN := by rw [hpe a, hk.1, ofNat_eq, hrel]; rfl)
      (hidxN := by rw [hie a, hk.2, blockOf_inv]; rfl)
  have hcin : ∀ a, (pV L).get a = false → 0 ≤ c.G.get a ∧ c.G.get a < ((NV L).get a : Int) := by
    intro a hp
    have hsh := shift_nonper (hE a).shift hp
    have h4 := (hE a).inr
    rcases (hE a).idx with he | ha
    · rw [he, hsh]; exact off_range htl a _ h4.1 h4.2
    · have h5 := (hE a).fresh ha
      have hr' := off_range (L := L) htl a (stN.idx.get a - 1) (by omega) (by omega)
      have := ha.1
      rw [hsh] at this
      constructor <;> omega
  have htau := hW.tau
  exact ⟨fun a => (cOut_false_iff _ _ a).mpr (hcin a), ⟨_,
    { slt := htl, shift := fun a => (hE a).shift, dir := hW.dir, sigH := hW.sigH, sigHe := hW.sigHe
      tau := by rw [htd]; simp only [writeBack]; linarith
      run := by rw [htd]; simp only [writeBack]; linarith [hW.run]
      td0 := by rw [htd]
      pos := fun a => (hE a).pos, idx := fun a => (hE a).idx, inr := fun a => (hE a).inr, cgood := hW.cgood, cin := hcin
      fresh := fun _ a => (hE a).fresh }⟩,
    fun a ha => ((hE a).pinTop ha).trans (top_eq (blockOf g L t) a).symm⟩

end post
/-! ## the chained run as a deposit-producing step function, and the correspondence of chain states -/

abbrev AState (K : Type) := ChainState (Photon K × St K)

def aStep (g : Geom K) (field : Int × Int × Int → Cell K) (L : Layout) :
    AState K → Option ((Int × Int × Int → K) × AState K) :=
  SubgridLayout.splitStep L (localStep g field L) (enterStep g L) (valOf L)

theorem aStep_inGrid (g : Geom K) (field : Int × Int × Int → Cell K) (L : Layout) (s : Nat) (x : Photon K × St K) :
    aStep g field L (.inGrid s x) =
      match localStep g field L s x with
      | .move dep st' => some (valOf L s dep, .inGrid s st')
      | .absorbed dep st' => some (valOf L s dep, .absorbedIn s st')
      | .exit dep d st' =>
        match ngb L s d with
        | none => some (valOf L s dep, .escaped s d st')
        | some t => some (valOf L s dep, .inGrid t (enterStep g L t (outToInDir d) st')) := by
  unfold aStep
  rw [SubgridLayout.splitStep_eq_splitStepN L (localStep g field L) (enterStep g L) (valOf L),
    SubgridLayout.splitStepN_inGrid]
  cases localStep g field L s x with
  | exit dep d st' => cases ngb L s d <;> rfl
  | _ => rfl

/-- final states: same remaining optical depth, same point up to whole box lengths on periodic axes -/
def RFin (g : Geom K) (e : Env K) (x : Photon K × St K) (c : CS K) : Prop :=
  x.1.tau = e.pk.tau - c.td ∧
  ∀ a, ∃ w : Int, x.1.pos.get a - g.A.get a = c.X.get a + (w : K) * ((e.N.get a : K) * e.h.get a)
    ∧ (e.per.get a = false → w = 0)

def R (g : Geom K) (e : Env K) (L : Layout) : AState K → CState K → Prop
  | .inGrid s x, .run c => Rel g e L s x.1 x.2 c
  | .absorbedIn _ x, .absorbed c => RFin g e x c
  | .escaped _ _ x, .escaped c => RFin g e x c
  | _, _ => False

theorem cOut_any (e : Env K) (c : CS K) :
    (cOut e c .x || cOut e c .y || cOut e c .z) = true ↔ ∃ a, cOut e c a = true := by
  constructor
  · intro h
    simp only [Bool.or_eq_true] at h
    rcases h with (h | h) | h
    · exact ⟨.x, h⟩
    · exact ⟨.y, h⟩
    · exact ⟨.z, h⟩
  · rintro ⟨a, h⟩
    cases a <;> simp [h]

theorem rfin_of {g : Geom K} {L : Layout} {field : Int × Int × Int → Cell K} {pk : Photon K}
    {s : Nat} {ph : Photon K} {st : St K} {c : CS K} {sh : V3 Int}
    (hshift : ∀ a, ShiftOf ((envOf g L field pk).per.get a) ((envOf g L field pk).N.get a) (off L s a) (sh.get a))
    (hpos : ∀ a, c.X.get a = st.pos.get a + (sh.get a : K) * (envOf g L field pk).h.get a)
    (htau : ph.tau - st.tauDone = (envOf g L field pk).pk.tau - c.td) :
    RFin g (envOf g L field pk) (writeBack (blockOf g L s) ph st, st) c := by
  refine ⟨by simp only [writeBack]; exact htau, fun a => ?_⟩
  obtain ⟨w, hw, hw0⟩ := hshift a
  refine ⟨-w, ?_, fun hp => by rw [hw0 hp]; rfl⟩
  simp only [writeBack, blockOf, V3.get_of]
  rw [hpos a, hw]; simp only [envOf_N, envOf_h]; push_cast; ring


section lstep
variable (g : Geom K) (field : Int × Int × Int → Cell K) (L : Layout) (s : Nat) (ph : Photon K) (st st' : St K)
variable (hst' : step (blockOf g L s) (cellsOf field L s) ph st = st')
include hst'

theorem aStep_absorb (h : ph.tau ≤ st'.tauDone) :
    aStep g field L (.inGrid s (ph, st))
      = some (valOf L s (lastVisit ph st'), .absorbedIn s (writeBack (blockOf g L s) ph st', st')) := by
  subst hst'
  rw [aStep_inGrid]; unfold localStep; simp only [h, if_true]

theorem aStep_leave (h : ¬ ph.tau ≤ st'.tauDone) :
    aStep g field L (.inGrid s (ph, st)) = some (valOf L s (lastVisit ph st'),
      if inside (mV L) st'.idx = true then .inGrid s (ph, st')
      else match ngb L s (RayMarch.outputDirection (mV L) st'.idx).toNat with
        | none => .escaped s (RayMarch.outputDirection (mV L) st'.idx).toNat (writeBack (blockOf g L s) ph st', st')
        | some t => .inGrid t (enterStep g L t (outToInDir (RayMarch.outputDirection (mV L) st'.idx).toNat)
            (writeBack (blockOf g L s) ph st', st'))) := by
  subst hst'
  rw [aStep_inGrid]; unfold localStep
  by_cases hin : inside (mV L) (step (blockOf g L s) (cellsOf field L s) ph st).idx = true
  · simp only [h, if_false, blockOf_n, hin, if_true]
  · simp only [h, if_false, blockOf_n, hin, Bool.false_eq_true]
    cases ngb L s _ <;> rfl

end lstep

theorem lastVisit_cons (ph : Photon K) (s : St K) (v : Visit K) (rest : List (Visit K)) (h : s.out = v :: rest) :
    lastVisit ph s = v := by unfold lastVisit; rw [h]


/-- an axis on which the next pass of the split run has length zero: the packet moves down and sits on the
lower wall of its index cell -/
def Pend (h : V3 K) (x : Photon K × St K) (a : Ax) : Prop :=
  x.1.dir.get a < 0 ∧ x.2.pos.get a = (x.2.idx.get a : K) * h.get a

open Classical in
/-- how many zero-length passes the chained run can make in a row from a state: 2 if a pending axis is in the
first cell (the zero-length pass leaves the subgrid), else 1 if some axis is pending, else 0 -/
noncomputable def rank (g : Geom K) : AState K → Nat
  | .inGrid _ x => if ∃ a, Pend g.h x a ∧ x.2.idx.get a = 0 then 2 else if ∃ a, Pend g.h x a then 1 else 0
  | _ => 0

open Classical in
theorem rank_inGrid_def (g : Geom K) (s : Nat) (x : Photon K × St K) :
    rank g (.inGrid s x)
      = if ∃ a, Pend g.h x a ∧ x.2.idx.get a = 0 then 2 else if ∃ a, Pend g.h x a then 1 else 0 := rfl

theorem rank_inGrid_le (g : Geom K) (s : Nat) (x : Photon K × St K) (h : ¬ ∃ a, Pend g.h x a ∧ x.2.idx.get a = 0) :
    rank g (.inGrid s x) ≤ 1 := by
  rw [rank_inGrid_def, if_neg h]; split_ifs <;> omega

theorem rank_inGrid_zero (g : Geom K) (s : Nat) (x : Photon K × St K) (h : ¬ ∃ a, Pend g.h x a) :
    rank g (.inGrid s x) = 0 := by
  rw [rank_inGrid_def, if_neg (fun ⟨a, ha, _⟩ => h ⟨a, ha⟩), if_neg h]

theorem rank_inGrid_pos (g : Geom K) (s : Nat) (x : Photon K × St K) (a : Ax) (h : Pend g.h x a) :
    1 ≤ rank g (.inGrid s x) := by
  rw [rank_inGrid_def]; split_ifs with h1 h2
  · omega
  · omega
  · exact absurd ⟨a, h⟩ h2

theorem rank_inGrid_two (g : Geom K) (s : Nat) (x : Photon K × St K) (a : Ax) (h : Pend g.h x a) (h0 : x.2.idx.get a = 0) :
    rank g (.inGrid s x) = 2 := by
  rw [rank_inGrid_def, if_pos ⟨a, h, h0⟩]

theorem pend_ahead {g : Geom K} {L : Layout} {field : Int × Int × Int → Cell K} {pk : Photon K}
    {s : Nat} {ph : Photon K} {st : St K} {c : CS K} {sh : V3 Int}
    (hR : RelWith g (envOf g L field pk) L s ph st c sh) (a : Ax)
    (hp : Pend g.h (ph, st) a) :
    Ahead (ph.dir.get a) (g.h.get a) (st.pos.get a) (st.idx.get a) (sh.get a) (c.G.get a) := by
  rcases hR.idx a with he | ha
  · exact absurd hp.2 ((rel_goodCell hR a he).down hp.1).ne'
  · exact ha

theorem valOf_zero (L : Layout) (s : Nat) (v : Visit K) (h : v.path = 0) : valOf L s v = 0 := by
  unfold valOf; rw [h]; exact Pi.single_zero _

theorem cstep_stop (e : Env K) (c : CS K) (h : e.pk.tau ≤ c.td + ctau e c) :
    cstep e (.run c) = some (Pi.single (key e.N c.G) (cStopPath e c), .absorbed (cStop e c)) := by
  simp only [cstep, if_pos h]

theorem cstep_leave (e : Env K) (c : CS K) (h : ¬ e.pk.tau ≤ c.td + ctau e c) :
    cstep e (.run c) = some (Pi.single (key e.N c.G) (clmin e c),
      if (cOut e (cLeave e c) .x || cOut e (cLeave e c) .y || cOut e (cLeave e c) .z) = true
      then .escaped (cLeave e c) else .run (cLeave e c)) := by
  simp only [cstep, if_neg h]

theorem cOut_none (e : Env K) (c : CS K) (h : ∀ a, cOut e c a = false) :
    ¬ (cOut e c .x || cOut e c .y || cOut e c .z) = true := by
  rw [h .x, h .y, h .z]; decide

section steps
variable {g : Geom K} {L : Layout} {field : Int × Int × Int → Cell K} {pk : Photon K}
variable {s : Nat} {ph : Photon K} {st : St K} {c : CS K} {sh : V3 Int}
variable (hok : Ok g L field pk) (hR : RelWith g (envOf g L field pk) L s ph st c sh)
include hok hR

/-- A "leave" pass against a reference state `c'` that moved along the same chord, took the same optical depth and
sits in the cell the new index names: the correspondence is kept, with the same shift.  (`cgood` needs no
hypothesis: after the pass the packet is off the wall of its new cell that it moves towards.) -/
theorem leave_rawRel {c' : CS K} (hnr : ¬ ph.tau ≤ (geo (blockOf g L s) (cellsOf field L s) ph st).td)
    (hX : ∀ a, c'.X.get a = c.X.get a + (geo (blockOf g L s) (cellsOf field L s) ph st).lmin * pk.dir.get a)
    (htd : c'.td = c.td + (geo (blockOf g L s) (cellsOf field L s) ph st).tau)
    (hG : ∀ a, c'.G.get a = (leave ph st (geo (blockOf g L s) (cellsOf field L s) ph st)).idx.get a + sh.get a) :
    RawRel g (envOf g L field pk) L s ph (leave ph st (geo (blockOf g L s) (cellsOf field L s) ph st)) c' sh := by
  have hP := rel_pass hok hR
  have hL := fun a => (hP.leave_axis a).1
  have hdir : ph.dir = pk.dir := hR.dir
  have hpos : ∀ a, c'.X.get a
      = (leave ph st (geo (blockOf g L s) (cellsOf field L s) ph st)).pos.get a + (sh.get a : K) * g.h.get a := fun a => by
    rw [hX a, hP.leave_pos a, hR.pos a, hdir]; simp only [envOf_h]; ring
  exact
    { slt := hR.slt, shift := hR.shift, dir := hR.dir, sigH := hR.sigH, sigHe := hR.sigHe
      tau := by
        show ph.tau - (geo (blockOf g L s) (cellsOf field L s) ph st).td = pk.tau - c'.td
        rw [geo_td, htd]; linarith [show ph.tau - st.tauDone = pk.tau - c.td from hR.tau]
      run := not_le.mp hnr
      td0 := by
        show 0 ≤ (geo (blockOf g L s) (cellsOf field L s) ph st).td
        rw [geo_td, geo_tau]
        exact add_nonneg hR.td0 (mul_nonneg ((rel_valid hok hR).kappa_nonneg _) hP.lmin_nonneg)
      pos := hpos, idx := hG, axis := hL
      cgood := fun a => by
        refine (goodCell_shift (hpos a) (hG a)).mpr
          ⟨(hL a).inCell.1, (hL a).inCell.2, fun hd => ?_, fun hd => (hL a).ahead.2 (hdir ▸ hd)⟩
        rcases hd.eq_or_lt with hd0 | hd
        · -- a static axis: neither coordinate nor index change, and the index is exact (an axis ahead moves down)
          have hph : ph.dir.get a = 0 := by rw [hdir]; exact hd0.symm
          have he := (hR.idx a).resolve_right fun ha => absurd ha.2.1 (by rw [hph]; exact lt_irrefl _)
          rw [hP.leave_pos a, Pass.leave_idx a, bumpAxis_eq, if_neg (hP.static a hph), hph, mul_zero, add_zero]
          exact (rel_goodCell hR a he).up hph.ge
        · exact (hL a).ahead.1 (hdir ▸ hd) }

theorem zeroPass_rawRel (a0 : Ax) (ha0 : ¬ c.G.get a0 = st.idx.get a0 + sh.get a0) :
    ∃ st', step (blockOf g L s) (cellsOf field L s) ph st = st' ∧ RawRel g (envOf g L field pk) L s ph st' c sh
      ∧ valOf L s (lastVisit ph st') = 0 ∧ ∀ a, st'.pos.get a = st.pos.get a := by
  have hP := rel_pass hok hR
  have hl0 : (geo (blockOf g L s) (cellsOf field L s) ph st).lmin = 0 := by
    have := hP.lmin_le a0
    rw [rel_l_ahead hok hR a0 ((hR.idx a0).resolve_left ha0)] at this
    exact le_antisymm this hP.lmin_nonneg
  have htau0 : (geo (blockOf g L s) (cellsOf field L s) ph st).tau = 0 := by rw [geo_tau, hl0, mul_zero]
  have hnr : ¬ ph.tau ≤ (geo (blockOf g L s) (cellsOf field L s) ph st).td := by
    rw [geo_td, htau0, add_zero]; exact not_le.mpr hR.run
  refine ⟨_, step_of_not_reached _ _ _ _ hnr,
    leave_rawRel hok hR hnr (fun a => by rw [hl0, zero_mul, add_zero]) (by rw [htau0, add_zero]) fun a => ?_, ?_,
    fun a => by rw [hP.leave_pos a, hl0, zero_mul, add_zero]⟩
  · rw [Pass.leave_idx a, bumpAxis_eq, hl0]
    rcases hR.idx a with he | ha
    · -- an exact axis is not bumped: its wall distance is positive (or the axis is static)
      have hne : (geo (blockOf g L s) (cellsOf field L s) ph st).l.get a ≠ 0 := by
        by_cases hd : ph.dir.get a = 0
        · exact hl0 ▸ hP.static a hd
        · exact (rel_l_pos hok hR a he hd).ne'
      rw [if_neg hne]; exact he
    · rw [rel_l_ahead hok hR a ha, if_pos rfl, if_neg (not_lt.mpr ha.2.1.le)]
      have := ha.1; omega
  · rw [lastVisit_cons ph _ _ _ hP.leave_out, hl0]
    exact valOf_zero L s _ rfl

/-- the split run is one cell ahead on some axis: its next pass has length zero, deposits nothing and
re-establishes the exact correspondence — the reference run does not move -/
theorem step_stutter (a0 : Ax) (ha0 : ¬ c.G.get a0 = st.idx.get a0 + sh.get a0) :
    ∃ a', aStep g field L (.inGrid s (ph, st)) = some (0, a') ∧ R g (envOf g L field pk) L a' (.run c)
      ∧ rank g a' < rank g (.inGrid s (ph, st)) := by
  obtain ⟨st', hst', hW, hv0, hpos⟩ := zeroPass_rawRel hok hR a0 ha0
  have hah0 := (hR.idx a0).resolve_left ha0
  rw [aStep_leave g field L s ph st st' hst' (not_le.mpr hW.run), hv0]
  by_cases hin : inside (mV L) st'.idx = true
  · rw [if_pos hin]
    have hrel := raw_move hW ((inside_iff _ _).mp hin)
    refine ⟨_, rfl, ⟨sh, hrel⟩, ?_⟩
    rw [rank_inGrid_zero g s (ph, st') fun ⟨a, ha⟩ => by
      have := (pend_ahead hrel a ha).1
      have := hW.idx a
      omega]
    exact rank_inGrid_pos g s (ph, st) a0 ⟨hah0.2.1, hah0.2.2⟩
  · rw [if_neg hin]
    -- the zero-length pass left the subgrid: some pending axis was in the first cell
    obtain ⟨b0, hb0⟩ : ∃ b, ¬ (0 ≤ st'.idx.get b ∧ st'.idx.get b < ((mV L).get b : Int)) :=
      not_forall.mp fun h => hin ((inside_iff _ _).mpr h)
    obtain ⟨hahb, hb1, hb2⟩ : Ahead (ph.dir.get b0) (g.h.get b0) (st.pos.get b0) (st.idx.get b0) (sh.get b0) (c.G.get b0)
        ∧ st.idx.get b0 = 0 ∧ st'.idx.get b0 = -1 := by
      have h1 := hW.idx b0
      have h2 := hR.inr b0
      rcases hR.idx b0 with he | hah
      · exact absurd ⟨by omega, by omega⟩ hb0
      · have h3 := hah.1
        have h4 : st.idx.get b0 = 0 := by
          by_contra h; exact hb0 ⟨by omega, by omega⟩
        exact ⟨hah, h4, by omega⟩
    cases hn : ngb L s (RayMarch.outputDirection (mV L) st'.idx).toNat with
    | none =>
      exfalso
      obtain ⟨a, ha⟩ := raw_exit_none hok hW hn
      rw [cOut_true_iff] at ha
      have := hR.cin a ha.1
      omega
    | some t =>
      -- a coordinate on the upper block face was pinned there on entry: then no pending axis is in the first cell
      have hlt : ∀ a, 0 ≤ st'.idx.get a → st'.idx.get a < ((mV L).get a : Int) →
          st'.pos.get a < top (blockOf g L s) a := by
        intro a h0 hm
        by_contra hge
        have hca := (raw_goodCell hW a).hi
        rw [top_eq] at hge
        simp only [blockOf_n, blockOf_cs] at hge
        have := hR.fresh ⟨a, by
          rw [← hpos a, top_eq]
          exact le_antisymm (hca.trans (Axis.cell_in_block (hok.h_pos a) h0 hm).2) (not_lt.mp hge)⟩ b0 hahb
        omega
      obtain ⟨_, ⟨sh', hrel⟩, htop⟩ := raw_exit_some hok hW t hlt hn
      refine ⟨_, rfl, ⟨sh', hrel⟩, ?_⟩
      rw [rank_inGrid_two g s (ph, st) b0 ⟨hahb.2.1, hahb.2.2⟩ hb1]
      refine Nat.lt_succ_of_le (rank_inGrid_le g t _ ?_)
      rintro ⟨a, hpa, ha0'⟩
      -- the exit axis is pinned to the upper face of the neighbour
      have := hrel.fresh ⟨b0, htop b0 (by omega)⟩ a (pend_ahead hrel a hpa)
      simp only [enterStep] at ha0'
      omega

variable (hall : ∀ a, c.G.get a = st.idx.get a + sh.get a)
include hall

theorem exact_stop (hreach : pk.tau ≤ c.td + ctau (envOf g L field pk) c) :
    ∃ st', step (blockOf g L s) (cellsOf field L s) ph st = st' ∧ ph.tau ≤ st'.tauDone
      ∧ valOf L s (lastVisit ph st') = Pi.single (key (NV L) c.G) (cStopPath (envOf g L field pk) c)
      ∧ RFin g (envOf g L field pk) (writeBack (blockOf g L s) ph st', st') (cStop (envOf g L field pk) c) := by
  have hreach' := (exact_reach hok hR hall).mpr hreach
  have hP := rel_pass hok hR
  have htau := hR.tau
  simp only [envOf_pk] at htau
  have hsp : stopPath ph (geo (blockOf g L s) (cellsOf field L s) ph st) = cStopPath (envOf g L field pk) c := by
    unfold stopPath cStopPath
    rw [geo_td, exact_tau hok hR hall, exact_lmin hok hR hall]
    simp only [envOf_pk]
    have : st.tauDone + ctau (envOf g L field pk) c - ph.tau = c.td + ctau (envOf g L field pk) c - pk.tau := by linarith
    rw [this]
  refine ⟨_, step_of_reached _ _ _ _ hreach', hreach', ?_, rfin_of hR.shift (fun a => ?_) ?_⟩
  · rw [lastVisit_cons ph _ _ _ hP.stop_out]
    simp only [valOf, visit, exact_key hR hall, hsp]
  · rw [hP.stop_pos hR.run hreach' a, hsp]
    have hp := hR.pos a
    have hdir : ph.dir = pk.dir := hR.dir
    simp only [cStop, V3.get_of, envOf_pk, hp, hdir]; ring
  · show ph.tau - (geo (blockOf g L s) (cellsOf field L s) ph st).td = pk.tau - (c.td + ctau (envOf g L field pk) c)
    rw [geo_td, exact_tau hok hR hall]; linarith

theorem exact_leave (hreach : ¬ pk.tau ≤ c.td + ctau (envOf g L field pk) c) :
    ∃ st', step (blockOf g L s) (cellsOf field L s) ph st = st'
      ∧ RawRel g (envOf g L field pk) L s ph st' (cLeave (envOf g L field pk) c) sh
      ∧ valOf L s (lastVisit ph st') = Pi.single (key (NV L) c.G) (clmin (envOf g L field pk) c)
      ∧ ∀ a, 0 ≤ st'.idx.get a → st'.idx.get a < ((mV L).get a : Int) → st'.pos.get a < top (blockOf g L s) a := by
  have hP := rel_pass hok hR
  have hdir : ph.dir = pk.dir := hR.dir
  have hlm := exact_lmin hok hR hall
  have hnr : ¬ ph.tau ≤ (geo (blockOf g L s) (cellsOf field L s) ph st).td :=
    fun h => hreach ((exact_reach hok hR hall).mp h)
  have hW := leave_rawRel hok hR hnr (c' := cLeave (envOf g L field pk) c)
    (fun a => by simp only [cLeave, V3.get_of, envOf_pk, hlm]) (by rw [exact_tau hok hR hall]; rfl) fun a => by
      rw [Pass.leave_idx a, hlm, rel_l_exact hok hR a (hall a)]
      simp only [cLeave, V3.get_of, envOf_pk, hdir, bumpAxis_eq, hall a]
      split_ifs <;> ring
  refine ⟨_, step_of_not_reached _ _ _ _ hnr, hW, ?_, fun a h0' hm => ?_⟩
  · rw [lastVisit_cons ph _ _ _ hP.leave_out]
    simp only [valOf, visit, exact_key hR hall, hlm]
  · rw [top_eq]; simp only [blockOf_n, blockOf_cs]
    have hle' := (Axis.cell_in_block (hok.h_pos a) h0' hm).2
    rcases le_or_gt 0 (ph.dir.get a) with hd | hd
    · exact ((raw_goodCell hW a).up hd).trans_le hle'
    · have hca := (hP.inCell a).2
      simp only [blockOf_cs] at hca
      -- with exact indices every moving axis has a positive wall distance: the pass has positive length
      obtain ⟨a', hda, hla⟩ := hP.attained
      have := mul_neg_of_pos_of_neg (hla ▸ rel_l_pos hok hR a' (hall a') hda) hd
      have hi' := (Axis.cell_in_block (hok.h_pos a) (hR.inr a).1 (hR.inr a).2).2
      rw [hP.leave_pos a]; linarith

/-- all indices correspond exactly: the pass of the split run is the pass of the reference run — same
branch, same path length deposited in the same physical cell — and what follows (stay / hand over /
leave the box / absorbed) corresponds as well -/
theorem step_real :
    ∃ m a' b', aStep g field L (.inGrid s (ph, st)) = some (m, a')
      ∧ cstep (envOf g L field pk) (.run c) = some (m, b') ∧ R g (envOf g L field pk) L a' b' := by
  by_cases hreach : pk.tau ≤ c.td + ctau (envOf g L field pk) c
  · obtain ⟨st', hst', h1, hv, hfin⟩ := exact_stop hok hR hall hreach
    exact ⟨_, _, .absorbed (cStop (envOf g L field pk) c), aStep_absorb g field L s ph st st' hst' h1,
      by rw [cstep_stop _ _ hreach, hv]; rfl, hfin⟩
  · obtain ⟨st', hst', hW, hv1, hlt⟩ := exact_leave hok hR hall hreach
    rw [aStep_leave g field L s ph st st' hst' (not_le.mpr hW.run), hv1, cstep_leave _ _ hreach]
    by_cases hin : inside (mV L) st'.idx = true
    · have hrel := raw_move hW ((inside_iff _ _).mp hin)
      rw [if_pos hin, if_neg (cOut_none _ _ fun a => (cOut_false_iff _ _ a).mpr (hrel.cin a))]
      exact ⟨_, _, _, rfl, rfl, sh, hrel⟩
    · rw [if_neg hin]
      cases hn : ngb L s (RayMarch.outputDirection (mV L) st'.idx).toNat with
      | none =>
        rw [if_pos ((cOut_any _ _).mpr (raw_exit_none hok hW hn))]
        exact ⟨_, _, _, rfl, rfl, rfin_of hW.shift hW.pos hW.tau⟩
      | some t =>
        obtain ⟨hno, hrel, _⟩ := raw_exit_some hok hW t hlt hn
        rw [if_neg (cOut_none _ _ hno)]
        exact ⟨_, _, _, rfl, rfl, hrel⟩

end steps

theorem aStep_absorbed (g : Geom K) (field : Int × Int × Int → Cell K) (L : Layout) (s : Nat) (x : Photon K × St K) :
    aStep g field L (.absorbedIn s x) = none := rfl
theorem aStep_escaped (g : Geom K) (field : Int × Int × Int → Cell K) (L : Layout) (s d : Nat) (x : Photon K × St K) :
    aStep g field L (.escaped s d x) = none := rfl

theorem aStep_inGrid_ne_none (g : Geom K) (field : Int × Int × Int → Cell K) (L : Layout) (s : Nat) (x : Photon K × St K) :
    aStep g field L (.inGrid s x) ≠ none := by
  rw [aStep_inGrid]
  cases localStep g field L s x with
  | move dep st' => simp
  | absorbed dep st' => simp
  | exit dep d st' => cases hn : ngb L s d <;> simp [hn]

section sim
variable {g : Geom K} {L : Layout} {field : Int × Int × Int → Cell K} {pk : Photon K}

theorem R_halt_iff {a : AState K} {b : CState K} (hR : R g (envOf g L field pk) L a b) :
    aStep g field L a = none ↔ cstep (envOf g L field pk) b = none := by
  cases a with
  | inGrid s x =>
    cases b with
    | run c => exact ⟨fun h => absurd h (aStep_inGrid_ne_none g field L s x), fun h => by simp [cstep] at h; split_ifs at h⟩
    | absorbed c => exact False.elim hR
    | escaped c => exact False.elim hR
  | absorbedIn s x => cases b <;> first | exact ⟨fun _ => rfl, fun _ => rfl⟩ | exact False.elim hR
  | escaped s d x => cases b <;> first | exact ⟨fun _ => rfl, fun _ => rfl⟩ | exact False.elim hR

/-- one step of the chained run against the reference run: a pass of the reference run with the same deposit,
or a zero-length pass, of which there are at most two in a row (`rank`) -/
theorem step_sim (hok : Ok g L field pk) (a : AState K) (b : CState K) (m : Int × Int × Int → K) (a' : AState K)
    (hR : R g (envOf g L field pk) L a b) (ha : aStep g field L a = some (m, a')) :
    (∃ b', cstep (envOf g L field pk) b = some (m, b') ∧ R g (envOf g L field pk) L a' b')
      ∨ (m = 0 ∧ R g (envOf g L field pk) L a' b ∧ rank g a' < rank g a) := by
  cases a with
  | inGrid s x =>
    cases b with
    | run c =>
      obtain ⟨ph, st⟩ := x
      obtain ⟨sh, hRW⟩ : Rel g (envOf g L field pk) L s ph st c := hR
      by_cases hall : ∀ a, c.G.get a = st.idx.get a + sh.get a
      · obtain ⟨m0, a0, b0, h1, h2, h3⟩ := step_real hok hRW hall
        obtain ⟨rfl, rfl⟩ := Prod.mk.inj (Option.some.inj (h1.symm.trans ha))
        exact Or.inl ⟨b0, h2, h3⟩
      · obtain ⟨a0, ha0⟩ := not_forall.mp hall
        obtain ⟨a1, h1, h2, h3⟩ := step_stutter hok hRW a0 ha0
        obtain ⟨rfl, rfl⟩ := Prod.mk.inj (Option.some.inj (h1.symm.trans ha))
        exact Or.inr ⟨rfl, h2, h3⟩
    | absorbed c => exact False.elim hR
    | escaped c => exact False.elim hR
  | absorbedIn s x => rw [aStep_absorbed] at ha; cases ha
  | escaped s d x => rw [aStep_escaped] at ha; cases ha

/-- **Single-step commutation, proved**: the chained run through the subgrids of `L` (C02's `step`,
`initSt`, C03's hand-over) against the reference run on the unfolded lattice of cells. -/
theorem step_commutes (hok : Ok g L field pk) :
    StepCommutes (aStep g field L) (cstep (envOf g L field pk)) (R g (envOf g L field pk) L) where
  halt := fun _ _ hR => (R_halt_iff hR).mp
  step := fun a b m a' hR ha => (step_sim hok a b m a' hR ha).imp id fun h => ⟨h.1, h.2.1⟩

end sim

/-! ## the start of both runs -/

/-- start position relative to the box anchor -/
def X0 (g : Geom K) (pk : Photon K) (a : Ax) : K := pk.pos.get a - g.A.get a

/-- the packet starts inside the (half-open) box, and not on the lower box face of an axis along which it
moves downwards -/
structure StartInside (g : Geom K) (L : Layout) (pk : Photon K) : Prop where
  lo : ∀ a, 0 ≤ X0 g pk a
  hi : ∀ a, X0 g pk a < ((NV L).get a : K) * g.h.get a
  down : ∀ a, pk.dir.get a < 0 → 0 < X0 g pk a

/-- start cell of the reference run: the cell that owns the start position (half-open), one lower when
the position lies on a cell wall and the packet moves downwards -/
def G0 (g : Geom K) (e : Env K) (a : Ax) : Int :=
  if e.pk.dir.get a < 0 ∧
      X0 g e.pk a = ((floorUpTo (e.N.get a) (X0 g e.pk a * (1 / e.h.get a)) : Nat) : K) * e.h.get a
  then ((floorUpTo (e.N.get a) (X0 g e.pk a * (1 / e.h.get a)) : Nat) : Int) - 1
  else ((floorUpTo (e.N.get a) (X0 g e.pk a * (1 / e.h.get a)) : Nat) : Int)

def cstart (g : Geom K) (e : Env K) : CState K := .run ⟨V3.of (X0 g e.pk), V3.of (G0 g e), 0⟩

/-- start of the chained run: `get_subgrid(position)`, then `interact(photon, INSIDE)` begins -/
def startOf (g : Geom K) (L : Layout) (pk : Photon K) : AState K :=
  .inGrid (subgridOf g L pk.pos) (pk, initSt (blockOf g L (subgridOf g L pk.pos)) pk 0)

theorem kinds_inside : ∀ a : Ax, pinKind 0 a = 0 ∧ idxKind 0 a = 0 := by
  intro a; cases a <;> decide

theorem G0_spec (g : Geom K) (e : Env K) (a : Ax) (hh : 0 < e.h.get a) (h0 : 0 ≤ X0 g e.pk a)
    (hlt : X0 g e.pk a < (e.N.get a : K) * e.h.get a) (hdown : e.pk.dir.get a < 0 → 0 < X0 g e.pk a) :
    GoodCell (e.pk.dir.get a) (e.h.get a) (X0 g e.pk a) (G0 g e a)
      ∧ (0 ≤ G0 g e a ∧ G0 g e a < (e.N.get a : Int)) := by
  obtain ⟨c1, c2, c3⟩ := floorUpTo_owner (n := e.N.get a) hh h0 hlt
  unfold GoodCell G0
  generalize floorUpTo (e.N.get a) (X0 g e.pk a * (1 / e.h.get a)) = k at c1 c2 c3 ⊢
  split_ifs with hcond
  · -- on the lower wall of cell `k`, moving down: the cell below, which exists because the start is not on the box face
    obtain ⟨hd, hx⟩ := hcond
    have hk1 : 1 ≤ k := by
      rcases Nat.eq_zero_or_pos k with rfl | hk
      · rw [hx] at hdown; simpa using hdown hd
      · exact hk
    push_cast
    exact ⟨⟨by linarith, by linarith, fun hd' => absurd hd (not_lt.mpr hd'), fun _ => by linarith⟩, by omega, by omega⟩
  · push_cast
    exact ⟨⟨c1, c2.le, fun _ => c2, fun hd => lt_of_le_of_ne c1 fun h => hcond ⟨hd, h.symm⟩⟩, by omega, by exact_mod_cast c3⟩


/-- `get_subgrid` finds a subgrid of the layout whose (half-open) block contains the start position -/
theorem subgridOf_spec {g : Geom K} {L : Layout} {field : Int × Int × Int → Cell K} {pk : Photon K}
    (hok : Ok g L field pk) (hs : StartInside g L pk) :
    subgridOf g L pk.pos < L.size ∧
    ∀ a, 0 ≤ X0 g pk a - (off L (subgridOf g L pk.pos) a : K) * g.h.get a
      ∧ X0 g pk a - (off L (subgridOf g L pk.pos) a : K) * g.h.get a < ((mV L).get a : K) * g.h.get a := by
  let cc : Ax → Nat := fun a =>
    floorUpTo ((nV L).get a) ((pk.pos.get a - g.A.get a) / (ofNat ((mV L).get a) * g.h.get a))
  have hcc : ∀ a, cc a < (nV L).get a ∧ ((cc a : K) * ((mV L).get a : K)) * g.h.get a ≤ X0 g pk a
      ∧ X0 g pk a < (((cc a : K) + 1) * ((mV L).get a : K)) * g.h.get a := by
    intro a
    have hm : (0 : K) < ((mV L).get a : K) := by exact_mod_cast hok.m_pos a
    have hN : ((NV L).get a : K) = ((nV L).get a : K) * ((mV L).get a : K) := by rw [NV_get]; push_cast; ring
    have := floorUpTo_owner (n := (nV L).get a) (mul_pos hm (hok.h_pos a)) (hs.lo a)
      (by have := hs.hi a; rw [hN] at this; linarith)
    have e : X0 g pk a * (1 / (((mV L).get a : K) * g.h.get a))
        = (pk.pos.get a - g.A.get a) / (ofNat ((mV L).get a) * g.h.get a) := by
      rw [ofNat_eq]; unfold X0; rw [mul_one_div]
    rw [e] at this
    exact ⟨this.2.2, by rw [mul_assoc]; exact this.1, by rw [mul_assoc]; exact this.2.1⟩
  have hs0 : subgridOf g L pk.pos = indexOf L (cc .x) (cc .y) (cc .z) := rfl
  have hgp := SubgridLayout.gridPosition_indexOf L (cc .x) (cc .y) (cc .z) (hcc .y).1 (hcc .z).1
  refine ⟨SubgridLayout.indexOf_lt L _ _ _ (hcc .x).1 (hcc .y).1 (hcc .z).1, fun a => ?_⟩
  have hoff : (off L (subgridOf g L pk.pos) a : K) = (cc a : K) * ((mV L).get a : K) := by
    have : (posV L (subgridOf g L pk.pos)).get a = cc a := by
      rw [hs0]; unfold posV; rw [hgp]; cases a <;> rfl
    unfold off; rw [this]; push_cast; ring
  rw [hoff]
  exact ⟨by linarith [(hcc a).2.1], by linarith [(hcc a).2.2]⟩

theorem start_rel {g : Geom K} {L : Layout} {field : Int × Int × Int → Cell K} {pk : Photon K}
    (hok : Ok g L field pk) (hs : StartInside g L pk) :
    R g (envOf g L field pk) L (startOf g L pk) (cstart g (envOf g L field pk)) := by
  obtain ⟨hslt, hloc01⟩ := subgridOf_spec hok hs
  show Rel g (envOf g L field pk) L (subgridOf g L pk.pos) pk _ _
  generalize subgridOf g L pk.pos = s0 at hslt hloc01 ⊢
  have hloc : ∀ a, (initSt (blockOf g L s0) pk 0).pos.get a = X0 g pk a - (off L s0 a : K) * g.h.get a := by
    intro a
    rw [initSt_pos_eq _ pk (by decide) a, (kinds_inside a).1]
    simp only [updatePosAxis, blockOf, V3.get_of, X0]; ring
  have hG := fun a => G0_spec g (envOf g L field pk) a (hok.h_pos a) (hs.lo a) (hs.hi a) (hs.down a)
  simp only [envOf_h, envOf_pk, envOf_N] at hG
  -- the start cell seen from subgrid `s0`
  have hgc : ∀ a, GoodCell (pk.dir.get a) (g.h.get a) (X0 g pk a - (off L s0 a : K) * g.h.get a)
      (G0 g (envOf g L field pk) a - off L s0 a) := fun a =>
    (goodCell_shift (by ring) (by ring)).mp (hG a).1
  have hfl := fun a => floor_axRel (sh := off L s0 a) (m := (mV L).get a) (hok.h_pos a) (hgc a) (hloc01 a).1 (hloc01 a).2
  have hidx : ∀ a, (initSt (blockOf g L s0) pk 0).idx.get a
      = clampIdx ((floorUpTo ((mV L).get a) ((X0 g pk a - (off L s0 a : K) * g.h.get a) * (1 / g.h.get a)) : Nat) : Int)
          (((mV L).get a : Int) - 1) := by
    intro a
    rw [initSt_idx_eq _ pk (by decide) a, (kinds_inside a).2, hloc a, blockOf_inv, blockOf_n]; rfl
  exact ⟨V3.of (off L s0),
    { slt := hslt
      shift := fun a => ⟨0, by simp, fun _ => rfl⟩
      dir := rfl, sigH := rfl, sigHe := rfl
      tau := by rw [initSt_tau]; rfl
      run := by rw [initSt_tau]; exact hok.tau_pos
      td0 := by rw [initSt_tau]
      pos := fun a => by simp only [V3.get_of, envOf_h, envOf_pk]; rw [hloc a]; ring
      idx := fun a => by
        simp only [V3.get_of, envOf_h]
        rw [hloc a, hidx a, ← sub_add_cancel (G0 g (envOf g L field pk) a) (off L s0 a)]; exact (hfl a).1
      inr := fun a => by rw [hidx a]; exact (hfl a).2
      cgood := fun a => by simp only [V3.get_of, envOf_h, envOf_pk]; exact (hG a).1
      cin := fun a _ => by simp only [V3.get_of, envOf_N]; exact (hG a).2
      fresh := fun ⟨a, ha⟩ => by
        exfalso
        rw [hloc a, top_eq] at ha
        simp only [blockOf_n, blockOf_cs] at ha
        have := (hloc01 a).2; linarith }⟩


/-! ## split invariance -/

/-- the same grid as a single block -/
def whole (L : Layout) : Layout := ⟨1, 1, 1, L.nx * L.mx, L.ny * L.my, L.nz * L.mz, L.px, L.py, L.pz⟩

theorem NV_whole (L : Layout) : NV (whole L) = NV L := by simp [NV, whole]

theorem envOf_congr (g : Geom K) {L L' : Layout} (field : Int × Int × Int → Cell K) (pk : Photon K)
    (hN : NV L' = NV L) (hp : pV L' = pV L) : envOf g L' field pk = envOf g L field pk := by
  unfold envOf; rw [hN, hp]

theorem ok_whole {g : Geom K} {L : Layout} {field : Int × Int × Int → Cell K} {pk : Photon K}
    (hok : Ok g L field pk) (hn : ∀ a, 0 < (nV L).get a) : Ok g (whole L) field pk where
  h_pos := hok.h_pos
  m_pos := fun a => by
    have h1 := hok.m_pos a; have h2 := hn a
    cases a <;> simp only [mV, nV, whole, V3.get] at h1 h2 ⊢ <;> exact Nat.mul_pos h2 h1
  moving := hok.moving
  big := hok.big
  kappa_nonneg := hok.kappa_nonneg
  tau_pos := hok.tau_pos

theorem startInside_congr {g : Geom K} {L L' : Layout} {pk : Photon K} (hN : NV L' = NV L)
    (hs : StartInside g L pk) : StartInside g L' pk :=
  ⟨hs.lo, fun a => by rw [hN]; exact hs.hi a, hs.down⟩


/-- two packets as written back by `interact`: same remaining optical depth, same point of the box up to
whole box lengths on periodic axes -/
def SamePoint (e : Env K) (x y : Photon K × St K) : Prop :=
  x.1.tau = y.1.tau ∧
  ∀ a, ∃ w : Int, x.1.pos.get a - y.1.pos.get a = (w : K) * ((e.N.get a : K) * e.h.get a) ∧ (e.per.get a = false → w = 0)

/-- how two finished chained runs compare: both absorbed or both escaped, at the same point -/
def FinalAgree (e : Env K) : AState K → AState K → Prop
  | .absorbedIn _ x, .absorbedIn _ y => SamePoint e x y
  | .escaped _ _ x, .escaped _ _ y => SamePoint e x y
  | _, _ => False

theorem samePoint_of_rfin {g : Geom K} {e : Env K} {x y : Photon K × St K} {c : CS K}
    (hx : RFin g e x c) (hy : RFin g e y c) : SamePoint e x y := by
  refine ⟨by rw [hx.1, hy.1], fun a => ?_⟩
  obtain ⟨w1, h1, p1⟩ := hx.2 a
  obtain ⟨w2, h2, p2⟩ := hy.2 a
  refine ⟨w1 - w2, ?_, fun hp => by rw [p1 hp, p2 hp]; rfl⟩
  have : x.1.pos.get a - y.1.pos.get a = (x.1.pos.get a - g.A.get a) - (y.1.pos.get a - g.A.get a) := by ring
  rw [this, h1, h2]; push_cast; ring

/-- Two ways of cutting the same grid into subgrids (`NV`, `pV` agree): whenever both chained runs are over they
have deposited the same totals and ended the same way.  Both are compared with the reference run, which depends
on the grid only. -/
theorem split_invariance_layouts {g : Geom K} {L L' : Layout} {field : Int × Int × Int → Cell K} {pk : Photon K}
    (hok : Ok g L field pk) (hok' : Ok g L' field pk) (hN : NV L' = NV L) (hp : pV L' = pV L)
    (hs : StartInside g L pk) (f f' : Nat)
    (hA : Halts (aStep g field L) f (startOf g L pk)) (hB : Halts (aStep g field L') f' (startOf g L' pk)) :
    (runSum (aStep g field L) f (startOf g L pk)).1 = (runSum (aStep g field L') f' (startOf g L' pk)).1
    ∧ FinalAgree (envOf g L field pk) (runSum (aStep g field L) f (startOf g L pk)).2
        (runSum (aStep g field L') f' (startOf g L' pk)).2 := by
  obtain ⟨a1, a2, a3⟩ := sim_totals _ _ _ (step_commutes hok) f _ _ (start_rel hok hs) hA
  obtain ⟨b1, b2, b3⟩ := sim_totals _ _ _ (step_commutes hok') f' _ _ (start_rel hok' (startInside_congr hN hs)) hB
  rw [envOf_congr g field pk hN hp] at b1 b2 b3
  have heq := SubgridLayout.runSum_halts_eq _ f f' _ a3 b3
  refine ⟨by rw [a1, b1, heq], ?_⟩
  rw [← heq] at b2
  -- both final states correspond to the same final state of the reference run
  have hA' : aStep g field L (runSum (aStep g field L) f (startOf g L pk)).2 = none := hA
  generalize (runSum (aStep g field L) f (startOf g L pk)).2 = fa at a2 hA' ⊢
  generalize (runSum (aStep g field L') f' (startOf g L' pk)).2 = fb at b2 ⊢
  generalize (runSum (cstep (envOf g L field pk)) f (cstart g (envOf g L field pk))).2 = fc at a2 b2
  cases fa with
  | inGrid s x => exact absurd hA' (aStep_inGrid_ne_none g field L s x)
  | absorbedIn s x =>
    cases fc with
    | absorbed c =>
      cases fb with
      | absorbedIn t y => exact samePoint_of_rfin a2 b2
      | _ => exact False.elim b2
    | _ => exact False.elim a2
  | escaped s d x =>
    cases fc with
    | escaped c =>
      cases fb with
      | escaped t d y => exact samePoint_of_rfin a2 b2
      | _ => exact False.elim b2
    | _ => exact False.elim a2

/-- **split invariance.**  Exact arithmetic (any linearly ordered field).  Grid of `nx·mx × ny·my × nz·mz`
cells of size `h`, any cell contents with non-negative opacity, any periodicity; a packet that starts inside
the box (`StartInside`) with a direction that is not zero and satisfies C02's `DBL_MAX` sentinel condition.
Whenever the chained run through the subgrids of `L` (C02's `step` / `initSt` in every subgrid, C03's
hand-over `get_neighbour` / `output_to_input_direction`) and the run through the same grid as one single
block are both over, they have deposited the same total path length in every cell of the grid and ended
the same way: both absorbed or both escaped, with the same remaining optical depth, at the same point. -/
theorem split_invariance {g : Geom K} {L : Layout} {field : Int × Int × Int → Cell K} {pk : Photon K}
    (hok : Ok g L field pk) (hn : ∀ a, 0 < (nV L).get a) (hs : StartInside g L pk) (f f' : Nat)
    (hA : Halts (aStep g field L) f (startOf g L pk))
    (hB : Halts (aStep g field (whole L)) f' (startOf g (whole L) pk)) :
    (runSum (aStep g field L) f (startOf g L pk)).1
        = (runSum (aStep g field (whole L)) f' (startOf g (whole L) pk)).1
    ∧ FinalAgree (envOf g L field pk) (runSum (aStep g field L) f (startOf g L pk)).2
        (runSum (aStep g field (whole L)) f' (startOf g (whole L) pk)).2 :=
  split_invariance_layouts hok (ok_whole hok hn) (NV_whole L) rfl hs f f' hA hB

/-! ## termination transfer: when the reference run is over, so is the chained run -/

theorem halts_transfer {g : Geom K} {L : Layout} {field : Int × Int × Int → Cell K} {pk : Photon K}
    (hok : Ok g L field pk) (a : AState K) (b : CState K) (hR : R g (envOf g L field pk) L a b) (f : Nat)
    (hh : Halts (cstep (envOf g L field pk)) f b) : ∃ f', Halts (aStep g field L) f' a :=
  SubgridLayout.sim_reverse (aStep g field L) (cstep (envOf g L field pk)) (R g (envOf g L field pk) L) (rank g)
    (fun _ _ hR => (R_halt_iff hR).mpr) (step_sim hok) f a b hR hh

/-- **split invariance, with termination transfer.**  If the chained run through the subgrids of `L` is over
within `f` steps, the run through any other layout `L'` of the same grid (e.g. the grid as one block, `whole L`) is
over as well (after some number `f'` of steps, in general not the same), with the same per-cell totals and the same end. -/
theorem split_invariance_halts {g : Geom K} {L L' : Layout} {field : Int × Int × Int → Cell K} {pk : Photon K}
    (hok : Ok g L field pk) (hok' : Ok g L' field pk) (hN : NV L' = NV L) (hp : pV L' = pV L)
    (hs : StartInside g L pk) (f : Nat) (hA : Halts (aStep g field L) f (startOf g L pk)) :
    ∃ f', Halts (aStep g field L') f' (startOf g L' pk)
      ∧ (runSum (aStep g field L) f (startOf g L pk)).1 = (runSum (aStep g field L') f' (startOf g L' pk)).1
      ∧ FinalAgree (envOf g L field pk) (runSum (aStep g field L) f (startOf g L pk)).2
          (runSum (aStep g field L') f' (startOf g L' pk)).2 := by
  obtain ⟨_, _, a3⟩ := sim_totals _ _ _ (step_commutes hok) f _ _ (start_rel hok hs) hA
  rw [← envOf_congr g field pk hN hp] at a3
  obtain ⟨f', hB⟩ := halts_transfer hok' _ _ (start_rel hok' (startInside_congr hN hs)) f a3
  exact ⟨f', hB, split_invariance_layouts hok hok' hN hp hs f f' hA hB⟩

end CMacVerif.Split
