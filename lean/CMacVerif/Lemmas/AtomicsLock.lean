import CMacVerif.Lemmas.AtomicsFrame
/-!
C08 lemmas: the lock invariant.  For every `ThreadLock` L (resource locks and queue
locks): the number of holders, counted over all threads — locks in user hands, locks held
through a task whose `lock_dependency` succeeded, and the transient program counters between
a successful CAS and the matching unlock — equals `[locks L]`.
-/
namespace CMacVerif.Atomics

/-- locks a task holds once `lock_dependency` returned true -/
def depsHold (cfg : Cfg) (t : Nat) (L : LockId) : Nat :=
  match cfg.deps t with
  | (some a, some b) => ind (L = .dep a) + ind (L = .dep b)
  | (some a, none) => ind (L = .dep a)
  | (none, _) => 0

/-- the first dependency only -/
def dep0Hold (cfg : Cfg) (t : Nat) (L : LockId) : Nat :=
  match cfg.deps t with
  | (some a, _) => ind (L = .dep a)
  | (none, _) => 0

/-- the queue lock a `lock_dependency` called from a pop runs under -/
def ctxHold : Ctx → LockId → Nat
  | .alone, _ => 0
  | .pop q _, L => ind (L = .queue q)

/-- locks held because of where the thread is in its current call -/
def pcHoldL (cfg : Cfg) : PC → LockId → Nat
  | .unlockL k, L => ind (L = .dep k)
  | .tlStart c _, L => ctxHold c L
  | .tl0 c _, L => ctxHold c L
  | .tl1 c t, L => ctxHold c L + dep0Hold cfg t L
  | .tlBack c t, L => ctxHold c L + dep0Hold cfg t L
  | .tuStart t, L => depsHold cfg t L
  | .tu1 t, L => depsHold cfg t L
  | .tu0 t, L => dep0Hold cfg t L
  | .addBody q _ _, L => ind (L = .queue q)
  | .addUnlock q _ _, L => ind (L = .queue q)
  | .popInit q, L => ind (L = .queue q)
  | .popScan q _, L => ind (L = .queue q)
  | .popUnlock q _, L => ind (L = .queue q)
  | .popRemove q _ t, L => ind (L = .queue q) + depsHold cfg t L
  | .idle, _ | .getCheck _, _ | .getInc _, _ | .getCas _ _, _ | .getCount _ _, _ | .getMax _ _ _, _ | .getMaxCas _ _ _ _, _ | .cMax _ _, _ | .cMaxCas _ _ _, _ | .cLoadMx _, _ | .loadTaken, _
  | .getTotal _ _, _ | .apFill _ _, _ | .apPlace _ _, _ | .crashed _, _ | .freeReset _, _ | .freeYield _, _
  | .freeUnlock _, _ | .freeDec _, _ | .lockSpin _, _ | .lockTry _, _ | .addLock _ _ _, _ | .numInc _ _ _, _ | .relDec _ _ _, _ | .retire _, _ | .setUnf _ _, _ | .loadNum, _
  | .popLock _ _, _ | .qsz _, _ | .cInc _, _ | .cDec _, _ | .cPostInc _, _ | .cPreAdd _ _, _
  | .cPostAdd _ _, _ | .cPreSub _ _, _ | .cLoad _, _ | .cAwait _ _, _ | .lfLoad _ _, _ | .lfCas _ _ _, _ => 0

/-- resource locks in the caller's hands (`ThreadLock::lock` / `try_lock` returned true) -/
def heldHold (held : List Nat) : LockId → Nat
  | .dep k => held.count k
  | .queue _ => 0

/-- locks held through the tasks whose `lock_dependency` succeeded -/
def tasksHold (cfg : Cfg) (ts : List Nat) (L : LockId) : Nat := (ts.map (depsHold cfg · L)).sum

/-- how many times thread `th` holds lock `L` -/
def holdL (cfg : Cfg) (L : LockId) (th : Thread) : Nat :=
  heldHold th.held L + tasksHold cfg th.tasks L + pcHoldL cfg th.pc L

def LockInv (cfg : Cfg) (s : State) : Prop :=
  ∀ L, sumT (holdL cfg L) s.threads = (s.mem.locks L).toNat

theorem heldHold_cons (held : List Nat) (k : Nat) (L : LockId) :
    heldHold (k :: held) L = heldHold held L + ind (L = .dep k) := by
  cases L with
  | dep k' => simp only [heldHold, count_cons_ind, ind, LockId.dep.injEq]
  | queue q => simp [heldHold, ind]

theorem heldHold_erase (held : List Nat) (k : Nat) (L : LockId) (h : k ∈ held) :
    heldHold (held.erase k) L + ind (L = .dep k) = heldHold held L := by
  cases L with
  | dep k' =>
    have := count_erase_add held k k' h
    simp only [heldHold, ind, LockId.dep.injEq] at this ⊢; omega
  | queue q => simp [heldHold, ind]

theorem tasksHold_cons (cfg : Cfg) (ts : List Nat) (t : Nat) (L : LockId) :
    tasksHold cfg (t :: ts) L = depsHold cfg t L + tasksHold cfg ts L := by
  simp [tasksHold]

theorem tasksHold_erase (cfg : Cfg) (ts : List Nat) (t : Nat) (L : LockId) (h : t ∈ ts) :
    tasksHold cfg (ts.erase t) L + depsHold cfg t L = tasksHold cfg ts L :=
  sum_map_erase (depsHold cfg · L) ts t h

theorem depsHold_le_tasksHold (cfg : Cfg) (ts : List Nat) (x : Nat) (L : LockId) (h : x ∈ ts) :
    depsHold cfg x L ≤ tasksHold cfg ts L := by
  have := tasksHold_erase cfg ts x L h
  omega

theorem pcHoldL_le_holdL (cfg : Cfg) (L : LockId) (th : Thread) : pcHoldL cfg th.pc L ≤ holdL cfg L th :=
  Nat.le_add_left _ _

theorem LockInv.excl {cfg : Cfg} {s : State} (h : LockInv cfg s) (L : LockId) {i j : Nat} {a b : Thread}
    (hi : s.threads[i]? = some a) (hj : s.threads[j]? = some b) (hne : i ≠ j)
    (ha : 1 ≤ holdL cfg L a) : holdL cfg L b = 0 :=
  sumT_toNat_excl _ _ _ (h L) i j a b hi hj hne ha

theorem LockInv.pc_excl {cfg : Cfg} {s : State} (h : LockInv cfg s) (L : LockId) {i j : Nat} {a b : Thread}
    (hi : s.threads[i]? = some a) (hj : s.threads[j]? = some b) (hne : i ≠ j)
    (ha : 1 ≤ pcHoldL cfg a.pc L) : pcHoldL cfg b.pc L = 0 :=
  Nat.le_zero.mp (h.excl L hi hj hne (Nat.le_trans ha (pcHoldL_le_holdL cfg L a)) ▸ pcHoldL_le_holdL cfg L b)

theorem holdL_dispatch (cfg : Cfg) (L : LockId) (th : Thread) (c : Cmd) (hpc : th.pc = .idle) :
    holdL cfg L (dispatch cfg th c) = holdL cfg L th := by
  obtain ⟨pc, prog, owned, held, tasks⟩ := th
  cases hpc
  cases c <;> simp only [dispatch]
  case unlock j =>
    split
    · rename_i k hk
      have := heldHold_erase held k L (pick_mem _ _ _ hk)
      simp only [holdL, pcHoldL]; omega
    · rfl
  case unlockTask j =>
    split
    · rename_i t hk
      have := tasksHold_erase cfg tasks t L (pick_mem _ _ _ hk)
      simp only [holdL, pcHoldL]; omega
    · rfl
  all_goals (repeat' split) <;> rfl

theorem holdL_tlSucc (cfg : Cfg) (L : LockId) (c : Ctx) (t : Nat) (th : Thread) :
    holdL cfg L (tlSucc c t th)
      = heldHold th.held L + tasksHold cfg th.tasks L + (ctxHold c L + depsHold cfg t L) := by
  cases c <;> simp only [tlSucc, ret, holdL, pcHoldL, ctxHold, tasksHold_cons] <;> omega

theorem holdL_tlFail (cfg : Cfg) (L : LockId) (c : Ctx) (t : Nat) (th : Thread) :
    holdL cfg L (tlFail c t th) = heldHold th.held L + tasksHold cfg th.tasks L + ctxHold c L := by
  cases c <;> rfl

theorem pcHoldL_of_part (cfg : Cfg) (pc : PC) (L : LockId) (h : pc.part ≠ some .sched) :
    pcHoldL cfg pc L = 0 := by
  cases pc <;> first | rfl | exact absurd rfl h

/-- `h` (the mover's holds are covered by the flag) is what makes an unlock subtract -/
theorem exec_holdL (cfg : Cfg) (m : Mem) (th : Thread) (L : LockId)
    (h : holdL cfg L th ≤ (m.locks L).toNat) :
    (m.locks L).toNat + holdL cfg L (exec cfg m th).2
      = ((exec cfg m th).1.locks L).toNat + holdL cfg L th := by
  refine exec_sched_cases cfg m th (fun _ _ => rfl)
    (fun c rest hpc _ => congrArg _ (holdL_dispatch cfg L _ c hpc)) ?own fun hs hold hnew => ?other
  case own =>
    rintro th pc l r rfl hs
    have lock : ∀ X, m.locks X = false → ((m.lock X).locks L).toNat = (m.locks L).toNat + ind (L = X) :=
      fun X hf => toNat_upd_true _ _ _ hf
    have unlock : ∀ X, ((m.unlock X).locks L).toNat = (m.locks L).toNat - ind (L = X) :=
      fun X => toNat_upd_false m.locks X L
    cases hs
    -- a successful CAS: the flag and the mover's holds go up together
    case spinAcquire k hf | tryAcquire k hf => simp only [holdL, ret, pcHoldL, heldHold_cons, lock _ hf]; omega
    case firstOfTwo c t a b hd hf | onlyLock c t a hd hf | secondLock c t a b hd hf =>
      simp only [holdL_tlSucc, lock _ hf]; simp only [holdL, pcHoldL, depsHold, dep0Hold, hd]; omega
    case addAcquire q t k hf | popAcquire q b hf => simp only [holdL, pcHoldL, lock _ hf]; omega
    -- an unlock: `h` says that the flag covers what the mover gives back
    case release k | popRelease q r | addRelease q t | addReleaseCounted q t k _ =>
      simp only [holdL, ret, pcHoldL, unlock] at h ⊢; omega
    case rollBack c t a d1 hd | unlockSecond t a b hd | unlockOnly t a hd | unlockFirst t a b hd =>
      simp only [holdL_tlFail]; simp only [holdL, ret, pcHoldL, depsHold, dep0Hold, hd, unlock] at h ⊢; omega
    -- no lock operation: what the program counter stood for is what the thread holds afterwards
    case noDependency c t hd =>
      rcases hd' : cfg.deps t with ⟨_ | a, d1⟩
      · simp only [holdL_tlSucc, depsHold, hd']; rfl
      · rw [hd'] at hd; cases hd
    case firstAbsent c t d1 hd | secondAbsent c t a hd | bothAbsent c t d1 hd =>
      simp only [holdL_tlSucc]; simp only [holdL, pcHoldL, depsHold, dep0Hold, hd] <;> rfl
    case rollBackNothing c t d1 hd => simp only [holdL_tlFail]; simp only [holdL, pcHoldL, dep0Hold, hd]; rfl
    case firstBusy c t a d1 hd hf => simp only [holdL_tlFail]; rfl
    case twoToUnlock t a b hd | oneToUnlock t a hd | nothingToUnlock t d1 hd | skipSecond t a hd | skipBoth t d1 hd
        | noneToUnlock t hd | firstMissing t b hd => simp only [holdL, ret, pcHoldL, depsHold, dep0Hold, hd]
    case takeEntry q j t t' _ | entryGone q j t _ => simp only [holdL, pcHoldL, tasksHold_cons]; omega
    all_goals rfl
  case other =>
    unfold holdL
    rw [hs.locks, hs.held, hs.tasks, pcHoldL_of_part cfg _ L hnew, pcHoldL_of_part cfg th.pc L hold]

theorem lockInv_step (cfg : Cfg) (s : State) (tid : Nat) (h : LockInv cfg s) :
    LockInv cfg (step cfg s tid) := by
  intro L
  exact sumT_balance_step cfg (holdL cfg L) (fun m => (m.locks L).toNat) (fun m th => exec_holdL cfg m th L) s tid (h L)

theorem lockInv_init (cfg : Cfg) (progs : List (List Cmd)) : LockInv cfg (init progs) := by
  intro L
  rw [sumT_init _ _ fun p => by cases L <;> rfl]
  rfl

theorem lockInv_run (cfg : Cfg) (progs : List (List Cmd)) (sched : List Nat) :
    LockInv cfg (run cfg (init progs) sched) :=
  run_inv cfg (LockInv cfg) (lockInv_step cfg) _ sched (lockInv_init cfg progs)

end CMacVerif.Atomics
