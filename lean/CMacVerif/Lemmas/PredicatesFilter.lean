import CMacVerif.Lemmas.Predicates
import CMacVerif.Inst.Real
import Mathlib.Tactic.Ring
import Mathlib.Tactic.Linarith
import Mathlib.Tactic.NormNum
import Mathlib.Tactic.Positivity
import Mathlib.Algebra.Order.Ring.Abs

/-!
C17, floating-point filter part: the reals with an arbitrary rounding after every operation
(`Rnd fl`), at which the generic filters of `Model/Predicates.lean` are instantiated; a running error
analysis (`Appr`) up to the final comparison (`sign_of_filter`); the double grid of [1,2); the rounded
rescaling.
-/
set_option exponentiation.threshold 1200
namespace CMacVerif.Predicates

/-- unit round-off of IEEE-754 binary64, round to nearest -/
noncomputable def u : ℝ := 1 / 2 ^ 53

/-- the standard model of floating-point arithmetic: relative error at most `u` -/
def RndOK (fl : ℝ → ℝ) : Prop := ∀ x, |fl x - x| ≤ u * |x|

/-- real numbers with the rounding function `fl` applied after every arithmetic operation
(and to every literal).  Negation and absolute value only touch the sign bit: exact. -/
structure Rnd (fl : ℝ → ℝ) where
  val : ℝ

namespace Rnd
variable {fl : ℝ → ℝ}
noncomputable instance : Add (Rnd fl) := ⟨fun a b => ⟨fl (a.val + b.val)⟩⟩
noncomputable instance : Sub (Rnd fl) := ⟨fun a b => ⟨fl (a.val - b.val)⟩⟩
noncomputable instance : Mul (Rnd fl) := ⟨fun a b => ⟨fl (a.val * b.val)⟩⟩
noncomputable instance : Div (Rnd fl) := ⟨fun a b => ⟨fl (a.val / b.val)⟩⟩
instance : Neg (Rnd fl) := ⟨fun a => ⟨-a.val⟩⟩
instance : LT (Rnd fl) := ⟨fun a b => a.val < b.val⟩
noncomputable instance : DecidableLT (Rnd fl) := fun a b => Classical.propDecidable (a.val < b.val)
noncomputable instance : OfScientific (Rnd fl) :=
  ⟨fun m s e => ⟨fl (OfScientific.ofScientific m s e : ℝ)⟩⟩
noncomputable instance : ArithFns (Rnd fl) :=
  ⟨fun a => ⟨fl (ArithFns.sqrt a.val)⟩, fun a b => ⟨fl (ArithFns.pow a.val b.val)⟩,
   fun a => ⟨fl (ArithFns.exp a.val)⟩, fun a => ⟨fl (ArithFns.log a.val)⟩,
   fun a => ⟨fl (ArithFns.log10 a.val)⟩, fun a => ⟨|a.val|⟩⟩

@[simp] theorem add_val (a b : Rnd fl) : (a + b).val = fl (a.val + b.val) := rfl
@[simp] theorem sub_val (a b : Rnd fl) : (a - b).val = fl (a.val - b.val) := rfl
@[simp] theorem mul_val (a b : Rnd fl) : (a * b).val = fl (a.val * b.val) := rfl
@[simp] theorem div_val (a b : Rnd fl) : (a / b).val = fl (a.val / b.val) := rfl
@[simp] theorem neg_val (a : Rnd fl) : (-a).val = -a.val := rfl
@[simp] theorem abs_val (a : Rnd fl) : (ArithFns.abs a).val = |a.val| := rfl
theorem lt_iff (a b : Rnd fl) : a < b ↔ a.val < b.val := Iff.rfl
@[simp] theorem sci_val (m : Nat) (s : Bool) (e : Nat) :
    (OfScientific.ofScientific m s e : Rnd fl).val = fl (OfScientific.ofScientific m s e : ℝ) := rfl
end Rnd

theorem u_pos : 0 < u := by unfold u; positivity

/-- accumulated relative error after `n` roundings -/
noncomputable def eps (n : ℕ) : ℝ := (1 + u) ^ n - 1

theorem eps_nonneg (n : ℕ) : 0 ≤ eps n := sub_nonneg.2 (one_le_pow₀ (by linarith [u_pos]))
theorem eps_mono {n m : ℕ} (h : n ≤ m) : eps n ≤ eps m :=
  sub_le_sub_right (pow_le_pow_right₀ (by linarith [u_pos]) h) 1
theorem eps_zero : eps 0 = 0 := by simp [eps]
theorem eps_succ (n : ℕ) : eps (n + 1) = eps n + u * (1 + eps n) := by
  unfold eps; rw [pow_succ]; ring
theorem eps_add (n m : ℕ) : eps (n + m) = eps n + eps m + eps n * eps m := by
  unfold eps; rw [pow_add]; ring

/-- `xt` is a computed value of the exact `x`: `|x| ≤ B` and the error is at most `eps n * B`.  `B`
is the same expression as `x` with every leaf replaced by its absolute value, `n` the number of
factors `1 + u` in the error bound (`max n m + 1` after a rounded sum or difference, `n + m + 1` after
a rounded product); one lemma per operation, composed along the statement order of the C++. -/
structure Appr (n : ℕ) (xt x B : ℝ) : Prop where
  bnd : |x| ≤ B
  err : |xt - x| ≤ eps n * B

namespace Appr
variable {fl : ℝ → ℝ} {n m : ℕ} {xt x Bx yt y By : ℝ}

theorem B_nonneg (h : Appr n xt x Bx) : 0 ≤ Bx := (abs_nonneg _).trans h.bnd

theorem exact (x : ℝ) : Appr 0 x x |x| := ⟨le_refl _, by simp [eps_zero]⟩

theorem mono (hnm : n ≤ m) (h : Appr n xt x Bx) : Appr m xt x Bx :=
  ⟨h.bnd, h.err.trans (mul_le_mul_of_nonneg_right (eps_mono hnm) h.B_nonneg)⟩

theorem comp_le (h : Appr n xt x Bx) : |xt| ≤ (1 + eps n) * Bx := by
  linarith [abs_sub_abs_le_abs_sub xt x, h.err, h.bnd]

theorem rnd (hfl : RndOK fl) (h : Appr n xt x Bx) : Appr (n + 1) (fl xt) x Bx := by
  refine ⟨h.bnd, ?_⟩
  have h1 : |fl xt - x| ≤ |fl xt - xt| + |xt - x| := abs_sub_le _ _ _
  have h2 : u * |xt| ≤ u * ((1 + eps n) * Bx) := mul_le_mul_of_nonneg_left h.comp_le u_pos.le
  rw [eps_succ]
  linarith [h.err, hfl xt]

theorem absv (h : Appr n xt x Bx) : Appr n |xt| |x| Bx :=
  ⟨by rw [abs_abs]; exact h.bnd, (abs_abs_sub_abs_le_abs_sub xt x).trans h.err⟩

theorem add_exact (hx : Appr n xt x Bx) (hy : Appr n yt y By) :
    Appr n (xt + yt) (x + y) (Bx + By) := by
  refine ⟨(abs_add_le _ _).trans (add_le_add hx.bnd hy.bnd), ?_⟩
  rw [add_sub_add_comm, mul_add]
  exact (abs_add_le _ _).trans (add_le_add hx.err hy.err)

theorem sub_exact (hx : Appr n xt x Bx) (hy : Appr n yt y By) :
    Appr n (xt - yt) (x - y) (Bx + By) := by
  refine ⟨(abs_sub _ _).trans (add_le_add hx.bnd hy.bnd), ?_⟩
  rw [sub_sub_sub_comm, mul_add]
  exact (abs_sub _ _).trans (add_le_add hx.err hy.err)

theorem mul_exact (hx : Appr n xt x Bx) (hy : Appr m yt y By) :
    Appr (n + m) (xt * yt) (x * y) (Bx * By) := by
  refine ⟨by rw [abs_mul]; exact mul_le_mul hx.bnd hy.bnd (abs_nonneg _) hx.B_nonneg, ?_⟩
  have e : xt * yt - x * y = (xt - x) * yt + x * (yt - y) := by ring
  have h1 : |(xt - x) * yt| ≤ (eps n * Bx) * ((1 + eps m) * By) := by
    rw [abs_mul]
    exact mul_le_mul hx.err hy.comp_le (abs_nonneg _) (mul_nonneg (eps_nonneg n) hx.B_nonneg)
  have h2 : |x * (yt - y)| ≤ Bx * (eps m * By) := by
    rw [abs_mul]
    exact mul_le_mul hx.bnd hy.err (abs_nonneg _) hx.B_nonneg
  rw [e, eps_add]
  calc |(xt - x) * yt + x * (yt - y)| ≤ |(xt - x) * yt| + |x * (yt - y)| := abs_add_le _ _
    _ ≤ (eps n * Bx) * ((1 + eps m) * By) + Bx * (eps m * By) := add_le_add h1 h2
    _ = (eps n + eps m + eps n * eps m) * (Bx * By) := by ring

theorem add (hfl : RndOK fl) (hx : Appr n xt x Bx) (hy : Appr m yt y By) :
    Appr (max n m + 1) (fl (xt + yt)) (x + y) (Bx + By) :=
  ((hx.mono (le_max_left n m)).add_exact (hy.mono (le_max_right n m))).rnd hfl

theorem sub (hfl : RndOK fl) (hx : Appr n xt x Bx) (hy : Appr m yt y By) :
    Appr (max n m + 1) (fl (xt - yt)) (x - y) (Bx + By) :=
  ((hx.mono (le_max_left n m)).sub_exact (hy.mono (le_max_right n m))).rnd hfl

theorem mul (hfl : RndOK fl) (hx : Appr n xt x Bx) (hy : Appr m yt y By) :
    Appr (n + m + 1) (fl (xt * yt)) (x * y) (Bx * By) :=
  (hx.mul_exact hy).rnd hfl

theorem congr {x' B' : ℝ} (h : Appr n xt x Bx) (hx : x = x') (hB : Bx = B') : Appr n xt x' B' := by
  subst hx; subst hB; exact h
end Appr

/-- a decided comparison of `result` with `±errbound` (the two branches of `filterSign` that do not
fall back) gives the sign of `D` -/
def Decides {fl : ℝ → ℝ} (f : FiltOut (Rnd fl)) (D : ℝ) : Prop :=
  (f.errbound.val < f.result.val → 0 < D) ∧ (f.result.val < -f.errbound.val → D < 0)

/-- final comparison of both adaptive routines: when the computed result exceeds the computed
error bound, the exact value has the sign of the computed one.  `x` is what the error bound computes
exactly; it is its own bound because every leaf of it is an absolute value.  That it is `c` times
the bound `P` of the result holds up to commutativity only, hence the separate `hx` (callers:
`by ring`). -/
theorem sign_of_filter {fl : ℝ → ℝ} {f : FiltOut (Rnd fl)} {n m : ℕ} {D P c x : ℝ}
    (hR : Appr n f.result.val D P) (hE : Appr m f.errbound.val x x) (hx : x = c * P)
    (hc : eps n < c * (1 - eps m)) : Decides f D := by
  subst hx
  -- `E ≥ (1 - eps m) c P` and `|R - D| ≤ eps n P`: from `E < R` follows
  -- `D ≥ R - eps n P > (c (1 - eps m) - eps n) P ≥ 0`, and symmetrically
  have hE' := (_root_.abs_le.mp hE.err).1
  have hRD := _root_.abs_le.mp hR.err
  have hk : 0 ≤ (c * (1 - eps m) - eps n) * P := mul_nonneg (by linarith) hR.B_nonneg
  exact ⟨fun h => by linarith [hRD.1], fun h => by linarith [hRD.2]⟩

structure VAppr {fl : ℝ → ℝ} (k : ℕ) (pt : V3 (Rnd fl)) (p : V3 ℝ) : Prop where
  x : Appr k pt.x.val p.x |p.x|
  y : Appr k pt.y.val p.y |p.y|
  z : Appr k pt.z.val p.z |p.z|

/-- exact values of the coordinates of a point held in `Rnd fl` -/
def vals {fl : ℝ → ℝ} (p : V3 (Rnd fl)) : V3 ℝ := p.map Rnd.val

theorem vappr_vsub {fl : ℝ → ℝ} (hfl : RndOK fl) (a e : V3 (Rnd fl)) :
    VAppr 1 (vsub a e) (vsub (vals a) (vals e)) :=
  ⟨(Appr.exact _).rnd hfl, (Appr.exact _).rnd hfl, (Appr.exact _).rnd hfl⟩

theorem eps8_lt : eps 8 < 1.0e-10 * (1 - eps 10) := by
  unfold eps u; norm_num

theorem eps16_lt : eps 16 < 1.0e-10 * (1 - eps 19) := by
  unfold eps u; norm_num

def n2 (p : V3 ℝ) : ℝ := p.x * p.x + p.y * p.y + p.z * p.z
theorem n2_nonneg (p : V3 ℝ) : 0 ≤ n2 p :=
  add_nonneg (add_nonneg (mul_self_nonneg _) (mul_self_nonneg _)) (mul_self_nonneg _)

section Filters
variable {fl : ℝ → ℝ} (hfl : RndOK fl)
include hfl

theorem prod2_appr {pt qt : V3 (Rnd fl)} {p q : V3 ℝ} (hp : VAppr 1 pt p) (hq : VAppr 1 qt q) :
    Appr 3 (prod2 pt qt).pq.val (p.x * q.y) (|p.x| * |q.y|) ∧
    Appr 3 (prod2 pt qt).qp.val (q.x * p.y) (|q.x| * |p.y|) ∧
    Appr 4 (prod2 pt qt).det.val (minor2 p q) (|p.x| * |q.y| + |q.x| * |p.y|) := by
  simp only [prod2, Rnd.sub_val, Rnd.mul_val]
  have pq := Appr.mul hfl hp.x hq.y
  have qp := Appr.mul hfl hq.x hp.y
  exact ⟨pq, qp, Appr.sub hfl pq qp⟩

theorem nrm2_appr {pt : V3 (Rnd fl)} {p : V3 ℝ} (hp : VAppr 1 pt p) :
    Appr 5 (nrm2 pt).val (nrm2 p) (nrm2 p) := by
  simp only [nrm2, Rnd.add_val, Rnd.mul_val]
  have h := Appr.add hfl (Appr.add hfl (Appr.mul hfl hp.x hp.x) (Appr.mul hfl hp.y hp.y))
    (Appr.mul hfl hp.z hp.z)
  exact Appr.mono (by decide) (h.congr rfl (by simp only [abs_mul_abs_self]))

theorem ebTerm_appr {ft st zt : Rnd fl} {f s z Bf Bs : ℝ} (h1 : Appr 3 ft.val f Bf)
    (h2 : Appr 3 st.val s Bs) (hz : Appr 1 zt.val z |z|) :
    Appr 6 (ebTerm ft st zt).val ((|f| + |s|) * |z|) ((Bf + Bs) * |z|) := by
  simp only [ebTerm, Rnd.add_val, Rnd.mul_val, Rnd.abs_val]
  exact Appr.mono (by decide) (Appr.mul hfl (Appr.add hfl h1.absv h2.absv) hz.absv)

/-- the head of both error bounds: the rounded literal `1e-10` times the rounded sum -/
theorem errFactor_appr {st S BS : ℝ} {k : ℕ} (h : Appr k st S BS) :
    Appr (k + 2) (fl (fl 1.0e-10 * st)) (1.0e-10 * S) (1.0e-10 * BS) :=
  ((Appr.mul hfl ((Appr.exact 1.0e-10).rnd hfl) h).congr rfl
    (by rw [abs_of_pos (by norm_num : (0 : ℝ) < 1.0e-10)])).mono (by omega)

/-- a decided orientation filter gives the sign of the exact routine evaluated in ℝ: `result`
carries 8 roundings, `errbound` 10, against the factor `1e-10` (`eps8_lt`).  The six products and three
error terms that `orientCore` writes out are those of `prod2` and `ebTerm`. -/
theorem orientCore_sign {adt bdt cdt : V3 (Rnd fl)} {ad bd cd : V3 ℝ}
    (ha : VAppr 1 adt ad) (hb : VAppr 1 bdt bd) (hc : VAppr 1 cdt cd) :
    Decides (orientCore adt bdt cdt) (orientVec ad bd cd) := by
  obtain ⟨bc1, bc2, bc⟩ := prod2_appr hfl hb hc
  obtain ⟨ca1, ca2, ca⟩ := prod2_appr hfl hc ha
  obtain ⟨ab1, ab2, ab⟩ := prod2_appr hfl ha hb
  have hR := Appr.add hfl (Appr.add hfl (Appr.mul hfl ha.z bc) (Appr.mul hfl hb.z ca))
    (Appr.mul hfl hc.z ab)
  have hE := errFactor_appr hfl
    (Appr.add hfl (Appr.add hfl (ebTerm_appr hfl bc1 bc2 ha.z) (ebTerm_appr hfl ca1 ca2 hb.z))
      (ebTerm_appr hfl ab1 ab2 hc.z))
  -- value and bound of `hE` are both `1e-10 ·` the bound of `hR`, up to commutativity
  simp only [abs_mul] at hE
  exact sign_of_filter (hR.mono (m := 8) (by decide)) (hE.mono (m := 10) (by decide)) (by ring)
    eps8_lt

/-- the same for the in-sphere filter: 16 and 19 roundings (`eps16_lt`) -/
theorem insphereCore_sign {aet bet cet det : V3 (Rnd fl)} {ae be ce de : V3 ℝ}
    (ha : VAppr 1 aet ae) (hb : VAppr 1 bet be) (hc : VAppr 1 cet ce) (hd : VAppr 1 det de) :
    Decides (insphereCore aet bet cet det) (insphereCombine (insphereParts ae be ce de)) := by
  obtain ⟨ab1, ab2, ab⟩ := prod2_appr hfl ha hb
  obtain ⟨bc1, bc2, bc⟩ := prod2_appr hfl hb hc
  obtain ⟨cd1, cd2, cd⟩ := prod2_appr hfl hc hd
  obtain ⟨da1, da2, da⟩ := prod2_appr hfl hd ha
  obtain ⟨ac1, ac2, ac⟩ := prod2_appr hfl ha hc
  obtain ⟨bd1, bd2, bd⟩ := prod2_appr hfl hb hd
  have na := nrm2_appr hfl ha
  have nb := nrm2_appr hfl hb
  have nc := nrm2_appr hfl hc
  have nd := nrm2_appr hfl hd
  have abc := Appr.add hfl (Appr.sub hfl (Appr.mul hfl ha.z bc) (Appr.mul hfl hb.z ac))
    (Appr.mul hfl hc.z ab)
  have bcd := Appr.add hfl (Appr.sub hfl (Appr.mul hfl hb.z cd) (Appr.mul hfl hc.z bd))
    (Appr.mul hfl hd.z bc)
  have cda := Appr.add hfl (Appr.add hfl (Appr.mul hfl hc.z da) (Appr.mul hfl hd.z ac))
    (Appr.mul hfl ha.z cd)
  have dab := Appr.add hfl (Appr.add hfl (Appr.mul hfl hd.z ab) (Appr.mul hfl ha.z bd))
    (Appr.mul hfl hb.z da)
  have hR := Appr.add hfl (Appr.sub hfl (Appr.mul hfl nd abc) (Appr.mul hfl nc dab))
    (Appr.sub hfl (Appr.mul hfl nb cda) (Appr.mul hfl na bcd))
  have g1 := Appr.mul hfl (Appr.add hfl (Appr.add hfl (ebTerm_appr hfl cd1 cd2 hb.z)
    (ebTerm_appr hfl bd2 bd1 hc.z)) (ebTerm_appr hfl bc1 bc2 hd.z)) na
  have g2 := Appr.mul hfl (Appr.add hfl (Appr.add hfl (ebTerm_appr hfl da1 da2 hc.z)
    (ebTerm_appr hfl ac1 ac2 hd.z)) (ebTerm_appr hfl cd1 cd2 ha.z)) nb
  have g3 := Appr.mul hfl (Appr.add hfl (Appr.add hfl (ebTerm_appr hfl ab1 ab2 hd.z)
    (ebTerm_appr hfl bd1 bd2 ha.z)) (ebTerm_appr hfl da1 da2 hb.z)) nc
  have g4 := Appr.mul hfl (Appr.add hfl (Appr.add hfl (ebTerm_appr hfl bc1 bc2 ha.z)
    (ebTerm_appr hfl ac2 ac1 hb.z)) (ebTerm_appr hfl ab1 ab2 hc.z)) nd
  have hE := errFactor_appr hfl (Appr.add hfl (Appr.add hfl (Appr.add hfl g1 g2) g3) g4)
  simp only [abs_mul] at hE
  -- the filter adds the two halves, the exact routine subtracts the last product last
  exact sign_of_filter ((hR.congr (add_sub_assoc _ _ _).symm rfl).mono (m := 16) (by decide))
    (hE.mono (m := 19) (by decide)) (by ring) eps16_lt
end Filters

/-- the real point `p` has the mantissas `m` -/
def Grid (p : V3 ℝ) (m : V3 ℤ) : Prop :=
  p.x = 1 + (m.x : ℝ) / 2 ^ 52 ∧ p.y = 1 + (m.y : ℝ) / 2 ^ 52 ∧ p.z = 1 + (m.z : ℝ) / 2 ^ 52

structure Scaled (P : V3 ℝ) (p : V3 ℤ) : Prop where
  x : P.x = (p.x : ℝ) / 2 ^ 52
  y : P.y = (p.y : ℝ) / 2 ^ 52
  z : P.z = (p.z : ℝ) / 2 ^ 52

theorem Grid.vsub {a e : V3 ℝ} {ma me : V3 ℤ} (ha : Grid a ma) (he : Grid e me) :
    Scaled (vsub a e) (vsub ma me) := by
  have key : ∀ {x y : ℝ} {m n : ℤ}, x = 1 + (m : ℝ) / 2 ^ 52 → y = 1 + (n : ℝ) / 2 ^ 52 →
      x - y = ((m - n : ℤ) : ℝ) / 2 ^ 52 := by
    rintro _ _ m n rfl rfl
    push_cast
    ring
  obtain ⟨ax, ay, az⟩ := ha
  obtain ⟨ex, ey, ez⟩ := he
  exact ⟨key ax ex, key ay ey, key az ez⟩

theorem minor2_scaled {P Q : V3 ℝ} {p q : V3 ℤ} (hp : Scaled P p) (hq : Scaled Q q) :
    minor2 P Q = ((minor2 p q : ℤ) : ℝ) / 2 ^ 104 := by
  simp only [minor2, hp.x, hp.y, hq.x, hq.y]
  push_cast
  ring

theorem orientVec_scaled {P Q R : V3 ℝ} {p q r : V3 ℤ} (hp : Scaled P p) (hq : Scaled Q q)
    (hr : Scaled R r) : orientVec P Q R = ((orientVec p q r : ℤ) : ℝ) / 2 ^ 156 := by
  simp only [orientVec, minor2_scaled hq hr, minor2_scaled hr hp, minor2_scaled hp hq, hp.z, hq.z,
    hr.z]
  push_cast
  ring

theorem insphereCombine_scaled {P Q R S : V3 ℝ} {p q r s : V3 ℤ} (hp : Scaled P p) (hq : Scaled Q q)
    (hr : Scaled R r) (hs : Scaled S s) :
    insphereCombine (insphereParts P Q R S) =
      ((insphereCombine (insphereParts p q r s) : ℤ) : ℝ) / 2 ^ 260 := by
  -- squared norms and 2x2 minors first; in terms of them the identity has degree 3 only
  have hn : ∀ {V : V3 ℝ} {v : V3 ℤ}, Scaled V v → nrm2 V = ((nrm2 v : ℤ) : ℝ) / 2 ^ 104 := by
    rintro V v ⟨h1, h2, h3⟩
    simp only [nrm2, h1, h2, h3]
    push_cast
    ring
  simp only [insphereCombine, insphereParts, hn hp, hn hq, hn hr, hn hs, minor2_scaled hp hq,
    minor2_scaled hq hr, minor2_scaled hr hs, minor2_scaled hs hp, minor2_scaled hp hr,
    minor2_scaled hq hs, hp.z, hq.z, hr.z, hs.z]
  push_cast
  ring

theorem sgn_eq_sign (r : ℤ) : sgn r = r.sign := by
  unfold sgn
  split_ifs with h1 h2
  · exact (Int.sign_eq_one_of_pos h1).symm
  · exact (Int.sign_eq_neg_one_of_neg h2).symm
  · rw [show r = 0 by omega]; rfl
theorem sgn_zero : sgn 0 = 0 := by simp [sgn]
theorem sgn_neg_eq (r : ℤ) : sgn (-r) = - sgn r := by rw [sgn_eq_sign, sgn_eq_sign, Int.sign_neg]

theorem sgn_unit_mul (ε : ℤˣ) (r : ℤ) : sgn ((ε : ℤ) * r) = (ε : ℤ) * sgn r := by
  rcases Int.units_eq_one_or ε with h | h <;> subst h
  · simp
  · simp [sgn_neg_eq]

theorem filterSign_eq_sgn {fl : ℝ → ℝ} {f : FiltOut (Rnd fl)} {D : ℝ} {r : ℤ} {k : ℕ} (h : Decides f D)
    (hD : D = (r : ℝ) / 2 ^ k) (hne : filterSign f ≠ 0) : filterSign f = sgn r := by
  have hk : (0 : ℝ) < 2 ^ k := by positivity
  unfold Decides at h
  rw [hD, div_pos_iff_of_pos_right hk, div_lt_iff₀ hk, zero_mul, Int.cast_pos,
    Int.cast_lt_zero] at h
  unfold filterSign at hne ⊢
  rw [sgn_eq_sign]
  split_ifs at hne ⊢ with h1 h2
  · exact (Int.sign_eq_neg_one_of_neg (h.2 h1)).symm
  · exact (Int.sign_eq_one_of_pos (h.1 h2)).symm
  · exact absurd rfl hne

theorem u_lt_one : u < 1 := by unfold u; norm_num

theorem RndOK.bounds {fl : ℝ → ℝ} (h : RndOK fl) {x : ℝ} (hx : 0 ≤ x) :
    x * (1 - u) ≤ fl x ∧ fl x ≤ x * (1 + u) := by
  have := abs_le.mp (h x)
  rw [abs_of_nonneg hx] at this
  constructor <;> linarith
theorem RndOK.nonneg {fl : ℝ → ℝ} (h : RndOK fl) {x : ℝ} (hx : 0 ≤ x) : 0 ≤ fl x :=
  (mul_nonneg hx (sub_nonneg.2 u_lt_one.le)).trans (h.bounds hx).1
theorem RndOK.fl_le_mul_of_le {fl : ℝ → ℝ} (h : RndOK fl) {x y : ℝ} (hx : 0 ≤ x) (hxy : x ≤ y) :
    fl x ≤ y * (1 + u) :=
  (h.bounds hx).2.trans (mul_le_mul_of_nonneg_right hxy (add_nonneg zero_le_one u_pos.le))
theorem RndOK.mul_le_fl_of_le {fl : ℝ → ℝ} (h : RndOK fl) {x y : ℝ} (hy : 0 ≤ y) (hyx : y ≤ x) :
    y * (1 - u) ≤ fl x :=
  (mul_le_mul_of_nonneg_right hyx (sub_nonneg.2 u_lt_one.le)).trans (h.bounds (hy.trans hyx)).1

theorem side_le_amax (sides : V3 ℝ) : sides.x ≤ amax (amax sides.x sides.y) sides.z := by
  rw [amax_real, amax_real]; exact le_trans (le_max_left _ _) (le_max_left _ _)

/-- numeric core: with the padding `1 + 8u = 1 + 4 DBL_EPSILON` the rounded quotient of the largest
coordinate stays far enough below 1 -/
theorem pad_const :
    (1 + (1 + u) / ((1 - u) * (1 + 8 * u) * (1 - u)) * (1 + u)) * (1 + u) < 2 := by
  unfold u; norm_num

/-- the ROUNDED rescaling of one coordinate lands in [1,2): `mn ≤ x ≤ mx` are the (already
computed) minimum, coordinate and maximum of the axis, `k = 1 + 4 DBL_EPSILON`, extent
`ext = fl (fl (mx - mn) * k)`, result `fl (1 + fl (fl (x - mn) / ext))` -/
theorem rescale1_rounded {fl : ℝ → ℝ} (hfl : RndOK fl) (hmono : Monotone fl) (h1 : fl 1 = 1)
    (x mn mx k : Rnd fl) (hk : k.val = 1 + 8 * u) (hlo : mn.val ≤ x.val) (hhi : x.val ≤ mx.val)
    (hpos : mn.val < mx.val) :
    1 ≤ (rescale1 x mn ((mx - mn) * k)).val ∧ (rescale1 x mn ((mx - mn) * k)).val < 2 := by
  simp only [rescale1, Rnd.add_val, Rnd.sub_val, Rnd.mul_val, Rnd.div_val, Rnd.sci_val, hk]
  rw [lit1, h1]
  have hu := u_pos
  have hu1 : 0 < 1 - u := sub_pos.2 u_lt_one
  have hD : 0 < mx.val - mn.val := sub_pos.2 hpos
  have hc : 0 < (1 - u) * (1 + 8 * u) * (1 - u) := by positivity
  -- numerator: at most `D (1 + u)`; extent: at least `D (1 - u) (1 + 8u) (1 - u)`, `D = mx - mn`
  have hN0 := hfl.nonneg (sub_nonneg.2 hlo)
  have hN : fl (x.val - mn.val) ≤ (mx.val - mn.val) * (1 + u) :=
    hfl.fl_le_mul_of_le (sub_nonneg.2 hlo) (sub_le_sub_right hhi _)
  have hE : (mx.val - mn.val) * ((1 - u) * (1 + 8 * u) * (1 - u)) ≤
      fl (fl (mx.val - mn.val) * (1 + 8 * u)) := by
    rw [← mul_assoc, ← mul_assoc]
    exact hfl.mul_le_fl_of_le (by positivity)
      (mul_le_mul_of_nonneg_right (hfl.bounds hD.le).1 (by linarith))
  have hEpos := (mul_pos hD hc).trans_le hE
  -- so the quotient is at most `(1 + u) / ((1 - u) (1 + 8u) (1 - u))`
  have hq0 := div_nonneg hN0 hEpos.le
  have hq := (div_le_div₀ (mul_nonneg hD.le (by linarith)) hN (mul_pos hD hc) hE).trans_eq
    (mul_div_mul_left _ _ hD.ne')
  have hQ0 := hfl.nonneg hq0
  have hQ := hfl.fl_le_mul_of_le hq0 hq
  constructor
  · exact h1.symm.le.trans (hmono (le_add_of_nonneg_right hQ0))
  · exact (hfl.fl_le_mul_of_le (add_nonneg zero_le_one hQ0) (add_le_add le_rfl hQ)).trans_lt pad_const

end CMacVerif.Predicates
