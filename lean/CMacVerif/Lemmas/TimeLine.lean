import CMacVerif.Model.TimeLine
/-! The two halving loops `roundDown` and `fit` ("halve while the test holds"): from a power of two
the result is a power of two, it is a halving `ts / 2^j`, and it is the largest admissible one.
`fit left` is `roundDown` with the test `left % t > 0`; `roundDown` may end at 0 and `fit` from a
power of two does not, hence an induction each.  Core Lean only. -/
namespace CMacVerif.TimeLine

def IsPow2 (n : Nat) : Prop := ∃ k, n = 2 ^ k

theorem isPow2_pos {n : Nat} (h : IsPow2 n) : 0 < n := by
  obtain ⟨k, rfl⟩ := h; exact Nat.pow_pos (by decide)

theorem isPow2_half {n : Nat} (h : IsPow2 n) : n / 2 = 0 ∨ IsPow2 (n / 2) := by
  obtain ⟨k, rfl⟩ := h
  cases k with
  | zero => left; decide
  | succ k => right; exact ⟨k, by rw [Nat.pow_succ]; omega⟩

theorem isPow2_le_dvd {a b : Nat} (ha : IsPow2 a) (hb : IsPow2 b) (h : a ≤ b) : a ∣ b := by
  obtain ⟨i, rfl⟩ := ha; obtain ⟨j, rfl⟩ := hb
  have : i ≤ j := (Nat.pow_le_pow_iff_right (by decide)).mp h
  exact Nat.pow_dvd_pow 2 this

theorem div_pow_succ (n k : Nat) : n / 2 ^ (k + 1) = n / 2 / 2 ^ k := by
  rw [Nat.pow_succ, Nat.mul_comm, Nat.div_div_eq_div_mul]

theorem roundDown_spec (gt : Nat → Bool) (ts : Nat) (h : ts = 0 ∨ IsPow2 ts) :
    (roundDown gt ts ≠ 0 → IsPow2 (roundDown gt ts) ∧ gt (roundDown gt ts) = false)
    ∧ roundDown gt ts ≤ ts := by
  fun_induction roundDown gt ts with
  | case1 => exact ⟨fun h => absurd rfl h, Nat.le_refl _⟩
  | case2 ts h0 hg ih =>
    have := ih (isPow2_half (h.resolve_left h0))
    exact ⟨this.1, by omega⟩
  | case3 ts h0 hg => exact ⟨fun _ => ⟨h.resolve_left h0, by simpa using hg⟩, Nat.le_refl _⟩

/-- every value the loop looked at and rejected was too large: maximality of the result -/
theorem roundDown_maximal (gt : Nat → Bool) (ts : Nat) :
    ∀ k, roundDown gt ts < ts / 2 ^ k → ts / 2 ^ k ≠ 0 → gt (ts / 2 ^ k) = true := by
  fun_induction roundDown gt ts with
  | case1 => intro k _ hne; exact absurd (Nat.zero_div _) hne
  | case2 ts h0 hg ih =>
    intro k hk hne
    cases k with
    | zero => rw [Nat.pow_zero, Nat.div_one]; exact hg
    | succ k => rw [div_pow_succ] at hk hne ⊢; exact ih k hk hne
  | case3 ts h0 hg =>
    intro k hk
    have := Nat.div_le_self ts (2 ^ k)
    omega

theorem roundDown_is_halving (gt : Nat → Bool) (ts : Nat) : ∃ j, roundDown gt ts = ts / 2 ^ j := by
  fun_induction roundDown gt ts with
  | case1 => exact ⟨0, rfl⟩
  | case2 ts h0 hg ih =>
    obtain ⟨j, hj⟩ := ih
    exact ⟨j + 1, by rw [hj, div_pow_succ]⟩
  | case3 ts h0 hg => exact ⟨0, by rw [Nat.pow_zero, Nat.div_one]⟩

theorem div_pow_sub (n : Nat) {k j : Nat} (h : k ≤ j) : n / 2 ^ j = n / 2 ^ k / 2 ^ (j - k) := by
  rw [Nat.div_div_eq_div_mul, ← Nat.pow_add, Nat.add_sub_cancel' h]

theorem div_pow_lt {n k j : Nat} (hkj : k < j) (hpos : 0 < n / 2 ^ k) : n / 2 ^ j < n / 2 ^ k := by
  rw [div_pow_sub n (Nat.le_of_lt hkj)]
  apply Nat.div_lt_self hpos
  have : 2 ^ 1 ≤ 2 ^ (j - k) := Nat.pow_le_pow_right (by decide) (by omega)
  omega

theorem length_mul_le_sum (l : List Nat) (m : Nat) (h : ∀ t ∈ l, m ≤ t) : l.length * m ≤ l.sum := by
  induction l with
  | nil => exact Nat.le_of_eq (Nat.zero_mul m)
  | cons a l ih =>
    have h1 := h a List.mem_cons_self
    have h2 := ih fun t ht => h t (List.mem_cons_of_mem _ ht)
    rw [List.length_cons, List.sum_cons, Nat.add_mul, Nat.one_mul]
    omega

theorem fit_spec (left ts : Nat) (h : IsPow2 ts) :
    IsPow2 (fit left ts) ∧ fit left ts ∣ left ∧ fit left ts ≤ ts := by
  fun_induction fit left ts with
  | case1 ts h1 =>
    have : ts = 1 := by have := isPow2_pos h; omega
    exact ⟨h, this ▸ Nat.one_dvd _, Nat.le_refl _⟩
  | case2 ts h1 hm ih =>
    have := ih ((isPow2_half h).resolve_left (by omega))
    exact ⟨this.1, this.2.1, by omega⟩
  | case3 ts h1 hm => exact ⟨h, Nat.dvd_of_mod_eq_zero (by omega), Nat.le_refl _⟩

/-- `fit` returns the *largest* admissible halving: anything it skipped did not divide. -/
theorem fit_maximal (left ts : Nat) :
    ∀ k, fit left ts < ts / 2 ^ k → ¬ (ts / 2 ^ k ∣ left) := by
  fun_induction fit left ts with
  | case1 ts h1 | case3 ts h1 hm =>
    intro k hk
    have := Nat.div_le_self ts (2 ^ k)
    omega
  | case2 ts h1 hm ih =>
    intro k hk
    cases k with
    | zero =>
      rw [Nat.pow_zero, Nat.div_one]
      intro hd
      have := Nat.mod_eq_zero_of_dvd hd
      omega
    | succ k => rw [div_pow_succ] at hk ⊢; exact ih k hk

end CMacVerif.TimeLine
