import CMacVerif.Lemmas.AMRGeom
import CMacVerif.Lemmas.ListSum
import Mathlib.Data.List.Nodup
/-! Leaves ↔ keys, refinement, and the block level of the AMR grid (C16). -/
namespace CMacVerif.AMR
open CMacVerif.GridNum

theorem nodup_flatMap_range {β : Type} (f : Nat → List β) (n : Nat) (tag : β → Nat)
    (h1 : ∀ i, i < n → (f i).Nodup) (h2 : ∀ i, i < n → ∀ k ∈ f i, tag k = i) :
    ((List.range n).flatMap f).Nodup := by
  rw [List.nodup_flatMap]
  refine ⟨fun i hi => h1 i (List.mem_range.1 hi), ?_⟩
  refine List.pairwise_lt_range.imp_of_mem ?_
  intro a b ha hb hab k hka hkb
  have e1 := h2 a (List.mem_range.1 ha) k hka
  have e2 := h2 b (List.mem_range.1 hb) k hkb
  omega

theorem leafPaths_nodup (t : Tree) : (leafPaths t).Nodup := by
  induction t using Tree.kid_induction with
  | leaf => simp [leafPaths]
  | node c ih =>
    rw [leafPaths_node]
    refine nodup_flatMap_range _ 8 (fun π => π.headD 0) (fun i _ => (ih i).map List.cons_injective) ?_
    intro i _ π hπ
    obtain ⟨r, _, rfl⟩ := List.mem_map.1 hπ
    rfl

theorem leafPaths_length (t : Tree) : (leafPaths t).length = numLeaves t := by
  induction t with
  | leaf => rfl
  | node c ih => simp only [leafPaths, List.length_append, List.length_map, ih, numLeaves]

theorem leafKeys_block (t : Tree) : leafKeys t 0 0 = (leafPaths t).map encodeKey := by
  rw [leafKeys_eq_map]; apply List.map_congr_left; intro π _; simp

theorem leafKeys_nodup (t : Tree) : (leafKeys t 0 0).Nodup := by
  rw [leafKeys_block]
  refine (List.nodup_map_iff_inj_on (leafPaths_nodup t)).2 ?_
  intro π hπ π' hπ' h
  rw [← decode_encode π (leafPaths_digits t π hπ), ← decode_encode π' (leafPaths_digits t π' hπ'), h]

theorem leafKeys_length (t : Tree) : (leafKeys t 0 0).length = numLeaves t := by
  rw [leafKeys_block, List.length_map, leafPaths_length]

theorem numLeaves_update (c : Fin 8 → Tree) (i : Nat) (hi : i < 8) (x : Tree) :
    numLeaves (.node fun j => if j.val = i then x else c j) + numLeaves (kid c i)
      = numLeaves (.node c) + numLeaves x := by
  have hk : ∀ j, j < 8 → kid (fun j : Fin 8 => if j.val = i then x else c j) j = if j = i then x else kid c j :=
    fun j hj => by unfold kid; simp only [Nat.mod_eq_of_lt hj]
  have := ListSum.sum_map_update List.nodup_range (List.mem_range.2 hi) (f := fun j => numLeaves (kid c j))
    (f' := fun j => numLeaves (kid (fun j : Fin 8 => if j.val = i then x else c j) j))
    fun j hj hne => by rw [hk j (List.mem_range.1 hj), if_neg hne]
  rw [numLeaves_node, numLeaves_node]
  rwa [hk i hi, if_pos rfl] at this

theorem refine_spec : ∀ t, ∀ π ∈ leafPaths t,
    (refine t (encodeKey π)).2 = encodeKey (π ++ [0]) ∧
    subtree (refine t (encodeKey π)).1 (encodeKey π) = some (.node fun _ => .leaf) ∧
    numLeaves (refine t (encodeKey π)).1 = numLeaves t + 7 := by
  refine leaf_induction (by simp [refine, encodeKey, subtree, numLeaves]) ?_
  intro c i r hi _ ⟨h1, h2, h3⟩
  have hpos := encodeKey_pos r
  have hne : ¬ (i + 8 * encodeKey r = 1) := by omega
  have hmod : (i + 8 * encodeKey r) % 8 = i := by omega
  have hdiv : (i + 8 * encodeKey r) / 8 = encodeKey r := by omega
  have hkid : c ⟨i, hi⟩ = kid c i := by unfold kid; simp only [Nat.mod_eq_of_lt hi]
  refine ⟨?_, ?_, ?_⟩
  · simp only [encodeKey, refine, if_neg hne, hdiv, hmod, hkid, List.cons_append, h1]; ring
  · simp only [encodeKey, refine, if_neg hne, hdiv, hmod, hkid, subtree]
    simpa using h2
  · simp only [encodeKey, refine, if_neg hne, hdiv, hmod, hkid]
    have := numLeaves_update c i hi (refine (kid c i) (encodeKey r)).1
    omega

theorem gridKey_roundtrip (ix iy iz cell : Nat) (hx : ix < 1024) (hy : iy < 1024) (hz : iz < 1024)
    (hc : cell < 2 ^ 32) :
    blockOfKey (gridKey ix iy iz cell) = (ix, iy, iz) ∧ cellOfKey (gridKey ix iy iz cell) = cell ∧
      gridKey ix iy iz cell < 2 ^ 62 := by
  unfold blockOfKey cellOfKey gridKey
  simp only [Prod.mk.injEq]
  omega

/-- keys of one block, as 64-bit keys -/
def blockKeys (g : Grid) (ix iy iz : Nat) : List Nat :=
  (leafKeys (g.block ix iy iz) 0 0).map (gridKey ix iy iz)
def rowKeys (g : Grid) (ix iy : Nat) : List Nat := (List.range g.nz).flatMap (blockKeys g ix iy)
def slabKeys (g : Grid) (ix : Nat) : List Nat := (List.range g.ny).flatMap (rowKeys g ix)
/-- all leaf keys of the grid: blocks in the order x, y, z (z fastest), leaves in Morton order -/
def gridKeys (g : Grid) : List Nat := (List.range g.nx).flatMap (slabKeys g)

/-- well-formed grid: at most 1024 blocks per axis (10 bits each), blocks at most 10 levels deep -/
structure Grid.WF (g : Grid) : Prop where
  nx_pos : 0 < g.nx
  ny_pos : 0 < g.ny
  nz_pos : 0 < g.nz
  nx_le : g.nx ≤ 1024
  ny_le : g.ny ≤ 1024
  nz_le : g.nz ≤ 1024
  depth_le : ∀ ix iy iz, depth (g.block ix iy iz) ≤ 10

def blockFirst (g : Grid) (ix iy iz : Nat) : Nat := gridKey ix iy iz (firstKey (g.block ix iy iz) 0)

theorem blockLeaf_lt (g : Grid) (hg : g.WF) (ix iy iz c : Nat) (hc : c ∈ leafKeys (g.block ix iy iz) 0 0) :
    c < 2 ^ 31 :=
  leafKeys_lt _ 0 0 c hc (by norm_num) (by have := hg.depth_le ix iy iz; omega)

theorem blockLeaf_roundtrip (g : Grid) (hg : g.WF) (ix iy iz : Nat) (hx : ix < g.nx) (hy : iy < g.ny)
    (hz : iz < g.nz) (c : Nat) (hc : c ∈ leafKeys (g.block ix iy iz) 0 0) :
    blockOfKey (gridKey ix iy iz c) = (ix, iy, iz) ∧ cellOfKey (gridKey ix iy iz c) = c ∧
      gridKey ix iy iz c < 2 ^ 62 :=
  gridKey_roundtrip ix iy iz c (by have := hg.nx_le; omega) (by have := hg.ny_le; omega)
    (by have := hg.nz_le; omega) (lt_trans (blockLeaf_lt g hg ix iy iz c hc) (by norm_num))

/-- where `get_next_key` goes after the last leaf of a slab / row of blocks / block: to the first leaf of the next
one, to the sentinel after the last slab -/
def slabTgt (g : Grid) (ix : Nat) : Nat := if ix + 1 = g.nx then maxKey64 else blockFirst g (ix + 1) 0 0
def rowTgt (g : Grid) (ix iy : Nat) : Nat := if iy + 1 = g.ny then slabTgt g ix else blockFirst g ix (iy + 1) 0
def blockTgt (g : Grid) (ix iy iz : Nat) : Nat :=
  if iz + 1 = g.nz then rowTgt g ix iy else blockFirst g ix iy (iz + 1)

theorem blockKeys_chain (g : Grid) (hg : g.WF) (ix iy iz : Nat) (hx : ix < g.nx) (hy : iy < g.ny)
    (hz : iz < g.nz) : (blockKeys g ix iy iz).head? = some (blockFirst g ix iy iz) ∧
      ChainTo (gridNextKey g) (blockKeys g ix iy iz) (blockTgt g ix iy iz) := by
  obtain ⟨hhd, hch⟩ := nextKey_chain (g.block ix iy iz) 0 0 (by norm_num)
    (by have := hg.depth_le ix iy iz; omega)
  refine ⟨by unfold blockKeys blockFirst; rw [List.head?_map, hhd]; simp, ?_⟩
  refine ChainTo.map_retarget (gridKey ix iy iz) hch ?_ ?_
  · intro k hk; have := blockLeaf_lt g hg ix iy iz k hk; unfold maxKey; omega
  · intro k hk
    obtain ⟨hb, hc, _⟩ := blockLeaf_roundtrip g hg ix iy iz hx hy hz k hk
    unfold gridNextKey
    rw [hb, hc]
    by_cases hm : nextKey (g.block ix iy iz) k 0 = maxKey
    · simp only [hm, if_true]
      rfl
    · simp only [hm, if_false]

theorem rowKeys_chain (g : Grid) (hg : g.WF) (ix iy : Nat) (hx : ix < g.nx) (hy : iy < g.ny) :
    (rowKeys g ix iy).head? = some (blockFirst g ix iy 0) ∧
      ChainTo (gridNextKey g) (rowKeys g ix iy) (rowTgt g ix iy) :=
  chain_flatMap_range _ _ (blockFirst g ix iy) g.nz _ hg.nz_pos fun iz hz => blockKeys_chain g hg ix iy iz hx hy hz

theorem slabKeys_chain (g : Grid) (hg : g.WF) (ix : Nat) (hx : ix < g.nx) :
    (slabKeys g ix).head? = some (blockFirst g ix 0 0) ∧
      ChainTo (gridNextKey g) (slabKeys g ix) (slabTgt g ix) :=
  chain_flatMap_range _ _ (fun iy => blockFirst g ix iy 0) g.ny _ hg.ny_pos fun iy hy =>
    rowKeys_chain g hg ix iy hx hy

theorem gridKeys_chain (g : Grid) (hg : g.WF) :
    ChainTo (gridNextKey g) (gridKeys g) maxKey64 ∧ (gridKeys g).head? = some (gridFirstKey g) := by
  obtain ⟨hh, hc⟩ := chain_flatMap_range (gridNextKey g) (slabKeys g) (fun ix => blockFirst g ix 0 0) g.nx
    maxKey64 hg.nx_pos fun ix hx => slabKeys_chain g hg ix hx
  exact ⟨hc, by rw [show (gridKeys g).head? = _ from hh]; unfold blockFirst gridFirstKey gridKey; simp⟩

theorem mem_gridKeys {g : Grid} {k : Nat} : k ∈ gridKeys g ↔
    ∃ ix, ix < g.nx ∧ ∃ iy, iy < g.ny ∧ ∃ iz, iz < g.nz ∧ ∃ c ∈ leafKeys (g.block ix iy iz) 0 0,
      gridKey ix iy iz c = k := by
  simp only [gridKeys, slabKeys, rowKeys, blockKeys, List.mem_flatMap, List.mem_range, List.mem_map]

/-- so no key of the grid is the sentinel `maxKey64` -/
theorem gridKeys_lt (g : Grid) (hg : g.WF) : ∀ k ∈ gridKeys g, k < 2 ^ 62 := by
  intro k hk
  obtain ⟨ix, hx, iy, hy, iz, hz, c, hc, rfl⟩ := mem_gridKeys.1 hk
  exact (blockLeaf_roundtrip g hg ix iy iz hx hy hz c hc).2.2

theorem mem_blockKeys_block (g : Grid) (hg : g.WF) (ix iy iz : Nat) (hx : ix < g.nx) (hy : iy < g.ny)
    (hz : iz < g.nz) (k : Nat) (hk : k ∈ blockKeys g ix iy iz) : blockOfKey k = (ix, iy, iz) := by
  obtain ⟨c, hc, rfl⟩ := List.mem_map.1 hk
  exact (blockLeaf_roundtrip g hg ix iy iz hx hy hz c hc).1

theorem gridKeys_nodup (g : Grid) (hg : g.WF) : (gridKeys g).Nodup := by
  have hb : ∀ ix iy iz, ix < g.nx → iy < g.ny → iz < g.nz → (blockKeys g ix iy iz).Nodup := by
    intro ix iy iz hx hy hz
    refine (List.nodup_map_iff_inj_on (leafKeys_nodup _)).2 ?_
    intro a ha b hbb hab
    obtain ⟨_, ea, _⟩ := blockLeaf_roundtrip g hg ix iy iz hx hy hz a ha
    obtain ⟨_, eb, _⟩ := blockLeaf_roundtrip g hg ix iy iz hx hy hz b hbb
    rw [← ea, hab, eb]
  have hrow : ∀ ix iy, ix < g.nx → iy < g.ny → ∀ k ∈ rowKeys g ix iy, (blockOfKey k).1 = ix ∧ (blockOfKey k).2.1 = iy := by
    intro ix iy hx hy k hk
    obtain ⟨iz, hz, hk⟩ := List.mem_flatMap.1 hk
    rw [mem_blockKeys_block g hg ix iy iz hx hy (List.mem_range.1 hz) k hk]; exact ⟨rfl, rfl⟩
  refine nodup_flatMap_range _ _ (fun k => (blockOfKey k).1) ?_ ?_
  · intro ix hx
    refine nodup_flatMap_range _ _ (fun k => (blockOfKey k).2.1) ?_ ?_
    · intro iy hy
      refine nodup_flatMap_range _ _ (fun k => (blockOfKey k).2.2) (fun iz hz => hb ix iy iz hx hy hz) ?_
      intro iz hz k hk
      rw [mem_blockKeys_block g hg ix iy iz hx hy hz k hk]
    · intro iy hy k hk; exact (hrow ix iy hx hy k hk).2
  · intro ix hx k hk
    obtain ⟨iy, hy, hk⟩ := List.mem_flatMap.1 hk
    exact (hrow ix iy hx (List.mem_range.1 hy) k hk).1

theorem blockBox_pos (g : Grid) (b : Box3 ℝ) (hx : 0 < g.nx) (hy : 0 < g.ny) (hz : 0 < g.nz) (hb : PosBox b)
    (ix iy iz : Nat) : PosBox (blockBox g b ix iy iz) := by
  unfold PosBox blockBox; simp only [ofNat_real]
  exact ⟨div_pos hb.1 (by exact_mod_cast hx), div_pos hb.2.1 (by exact_mod_cast hy),
    div_pos hb.2.2 (by exact_mod_cast hz)⟩

theorem inBox_blockBox_iff (g : Grid) (b : Box3 ℝ) (p : V3 ℝ) (hx : 0 < g.nx) (hy : 0 < g.ny) (hz : 0 < g.nz)
    (hb : PosBox b) (hp : InBox b p) (jx jy jz : Nat) :
    InBox (blockBox g b jx jy jz) p ↔
      blockIndex g.nx p.x b.ax b.sx = jx ∧ blockIndex g.ny p.y b.ay b.sy = jy ∧
        blockIndex g.nz p.z b.az b.sz = jz := by
  obtain ⟨hx1, hx2, hy1, hy2, hz1, hz2⟩ := hp
  rw [blockIndex_eq_iff g.nx hx p.x b.ax b.sx hb.1 hx1 hx2, blockIndex_eq_iff g.ny hy p.y b.ay b.sy hb.2.1 hy1 hy2,
    blockIndex_eq_iff g.nz hz p.z b.az b.sz hb.2.2 hz1 hz2, and_assoc, and_assoc]
  exact Iff.rfl

/-- volumes of all leaves of all blocks -/
noncomputable def gridVolSum (g : Grid) (b : Box3 ℝ) : ℝ :=
  ((List.range g.nx).map fun ix => ((List.range g.ny).map fun iy =>
    ((List.range g.nz).map fun iz => volSum (g.block ix iy iz) (blockBox g b ix iy iz)).sum).sum).sum

theorem gridVolSum_eq (g : Grid) (b : Box3 ℝ) (hx : 0 < g.nx) (hy : 0 < g.ny) (hz : 0 < g.nz) :
    gridVolSum g b = volume b := by
  have hx' : (g.nx : ℝ) ≠ 0 := by exact_mod_cast hx.ne'
  have hy' : (g.ny : ℝ) ≠ 0 := by exact_mod_cast hy.ne'
  have hz' : (g.nz : ℝ) ≠ 0 := by exact_mod_cast hz.ne'
  unfold gridVolSum
  simp only [volSum_eq, volume, blockBox, ofNat_real, List.map_const', List.sum_replicate,
    List.length_range, nsmul_eq_mul]
  field_simp

section total
variable {α : Type} [Add α] [Sub α] [Mul α] [Div α] [OfScientific α] [GridNum.Trunc α] [OfInt α]

theorem gridLocate_path (g : Grid) (b : Box3 α) (p : V3 α) :
    let ix := blockIndex g.nx p.x b.ax b.sx
    let iy := blockIndex g.ny p.y b.ay b.sy
    let iz := blockIndex g.nz p.z b.az b.sz
    ∃ π ∈ leafPaths (g.block ix iy iz),
      gridLocate g b p = (gridKey ix iy iz (encodeKey π), boxOfPath (blockBox g b ix iy iz) π) := by
  intro ix iy iz
  obtain ⟨π, hπ, h⟩ := descend_path (g.block ix iy iz) 0 p (blockBox g b ix iy iz)
  exact ⟨π, hπ, by show (gridKey ix iy iz _, _) = _; rw [h]; simp⟩

theorem gridLocate_mem (g : Grid) (hx : 0 < g.nx) (hy : 0 < g.ny) (hz : 0 < g.nz) (b : Box3 α) (p : V3 α) :
    (gridLocate g b p).1 ∈ gridKeys g := by
  obtain ⟨π, hπ, h⟩ := gridLocate_path g b p
  exact mem_gridKeys.2 ⟨_, blockIndex_lt g.nx hx p.x b.ax b.sx, _, blockIndex_lt g.ny hy p.y b.ay b.sy, _,
    blockIndex_lt g.nz hz p.z b.az b.sz, _, by rw [leafKeys_block]; exact List.mem_map_of_mem hπ, by rw [h]⟩
end total

/-- `get_key(position)` in exact arithmetic (`amr_contains` of `Props/C16.lean`) -/
theorem amr_contains_aux (g : Grid) (b : Box3 ℝ) (p : V3 ℝ) (hx : 0 < g.nx) (hy : 0 < g.ny) (hz : 0 < g.nz)
    (hb : PosBox b) (hp : InBox b p) :
    let ix := blockIndex g.nx p.x b.ax b.sx
    let iy := blockIndex g.ny p.y b.ay b.sy
    let iz := blockIndex g.nz p.z b.az b.sz
    ix < g.nx ∧ iy < g.ny ∧ iz < g.nz ∧
    InBox (gridLocate g b p).2 p ∧
    (∃ π ∈ leafPaths (g.block ix iy iz), (gridLocate g b p).1 = gridKey ix iy iz (encodeKey π) ∧
      (gridLocate g b p).2 = boxOfPath (blockBox g b ix iy iz) π) ∧
    (∀ jx jy jz : Nat, ∀ π ∈ leafPaths (g.block jx jy jz), InBox (boxOfPath (blockBox g b jx jy jz) π) p →
      (gridLocate g b p).1 = gridKey jx jy jz (encodeKey π)) := by
  intro ix iy iz
  have hblk := inBox_blockBox_iff g b p hx hy hz hb hp
  have hpos := blockBox_pos g b hx hy hz hb
  have hin : InBox (blockBox g b ix iy iz) p := (hblk _ _ _).2 ⟨rfl, rfl, rfl⟩
  obtain ⟨π, hπ, h⟩ := gridLocate_path g b p
  have hbox : InBox (gridLocate g b p).2 p := descend_inBox _ 0 _ p (hpos ix iy iz) hin
  refine ⟨blockIndex_lt _ hx _ _ _, blockIndex_lt _ hy _ _ _, blockIndex_lt _ hz _ _ _, hbox,
    ⟨π, hπ, by rw [h], by rw [h]⟩, ?_⟩
  intro jx jy jz π' hπ' hin'
  obtain ⟨rfl, rfl, rfl⟩ := (hblk jx jy jz).1 (boxOfPath_sub π' _ p (hpos jx jy jz) hin')
  -- the leaf found and `π'` both contain `p`
  rw [h] at hbox ⊢
  rw [leafBox_unique _ _ p (hpos ix iy iz) hin π' hπ' π hπ hin' hbox]

end CMacVerif.AMR
