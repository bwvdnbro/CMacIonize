import CMacVerif.Model.AMRTraverse
import CMacVerif.Lemmas.AMRGrid
import CMacVerif.Inst.Real
import CMacVerif.Lemmas.RealArith
import CMacVerif.Lemmas.AxisTravel
/-! Invariants of the `AMRDensityGrid::interact` loop over `ℝ` (C16): the induction that carries them through the
loop (`loop_inv`), and the optical depth accounting (no geometry needed). -/
namespace CMacVerif.AMRT
open CMacVerif.GridNum CMacVerif.AMR

/-- opacity of a cell for this photon -/
def kappa (m : Medium ℝ) (k : Nat) : ℝ := m.dens k * (m.sigH * m.xH k)

theorem opticalDepth_eq (m : Medium ℝ) (k : Nat) (ds : ℝ) : opticalDepth m k ds = kappa m k * ds := by
  unfold opticalDepth kappa; rw [lit0]; ring

/-- optical depth used up along the recorded segments -/
def tauSum (m : Medium ℝ) (l : List (Ref × ℝ)) : ℝ := (l.map fun e => kappa m (keyOf e.1) * e.2).sum

theorem tauSum_cons (m : Medium ℝ) (r : Ref) (len : ℝ) (l : List (Ref × ℝ)) :
    tauSum m ((r, len) :: l) = kappa m (keyOf r) * len + tauSum m l := rfl

/-- depth used up so far is `tau0 - od` while `od ≥ 0`, exactly `tau0` once absorbed (`od < 0`) -/
structure TauInv (m : Medium ℝ) (tau0 : ℝ) (st : St ℝ) : Prop where
  nonneg : 0 ≤ st.od → tau0 - st.od = tauSum m st.path
  neg : st.od < 0 → tauSum m st.path = tau0 ∧ st.cur.isSome
  last : st.last = none ↔ st.path = []

theorem body_tauInv (big : ℝ) (G : AGrid ℝ) (m : Medium ℝ) (tau0 : ℝ) (d : V3 ℝ) (st : St ℝ) (r : Ref)
    (hod : 0 < st.od) (h : TauInv m tau0 st) : TauInv m tau0 (body big G m d st r) := by
  have hsum := h.nonneg hod.le
  unfold body
  simp only [lit0, opticalDepth_eq]
  set w := wallIntersection big G st.pos d r
  by_cases hc : st.od - kappa m (keyOf r) * w.ds < 0
  · rw [if_pos hc]
    obtain ⟨hk, hds, -, -, hκ⟩ := Axis.absorb_frac hod (sub_neg.mp hc).le
    refine ⟨fun hn => absurd hc (not_lt.mpr hn), fun _ => ⟨?_, rfl⟩, by simp⟩
    rw [tauSum_cons, ← hsum, Axis.absorb_path_add hk hds, hκ]; ring
  · rw [if_neg hc]
    refine ⟨fun _ => ?_, fun hn => absurd hn hc, by simp⟩
    rw [tauSum_cons, ← hsum]; ring

/-- `(loop …).2 = true`: the loop has ended by itself, not for lack of fuel -/
theorem loop_inv (big : ℝ) (G : AGrid ℝ) (m : Medium ℝ) (d : V3 ℝ) {P : St ℝ → Prop}
    (hbody : ∀ st r, st.cur = some r → 0 < st.od → P st → P (body big G m d st r)) (fuel : Nat) :
    ∀ st : St ℝ, P st → P (loop big G m d fuel st).1 ∧
      ((loop big G m d fuel st).2 = true →
        (loop big G m d fuel st).1.cur = none ∨ (loop big G m d fuel st).1.od ≤ 0) := by
  induction fuel with
  | zero => intro st h; exact ⟨h, fun hf => by simp [loop] at hf⟩
  | succ fuel ih =>
    intro st h
    simp only [loop]
    cases hcur : st.cur with
    | none => exact ⟨h, fun _ => Or.inl hcur⟩
    | some r =>
      simp only [lit0]
      by_cases hod : 0 < st.od
      · rw [if_pos hod]; exact ih _ (hbody st r hcur hod h)
      · rw [if_neg hod]; exact ⟨h, fun _ => Or.inr (not_lt.mp hod)⟩

theorem loop_tau (big : ℝ) (G : AGrid ℝ) (m : Medium ℝ) (tau0 : ℝ) (d : V3 ℝ) (fuel : Nat) :
    ∀ st : St ℝ, TauInv m tau0 st → (loop big G m d fuel st).2 = true →
      TauInv m tau0 (loop big G m d fuel st).1 ∧
      ((loop big G m d fuel st).1.cur = none ∨ (loop big G m d fuel st).1.od ≤ 0) := fun st h hfin =>
  have ⟨hinv, hexit⟩ := loop_inv big G m d (fun st r _ hod h => body_tauInv big G m tau0 d st r hod h) fuel st h
  ⟨hinv, hexit hfin⟩

end CMacVerif.AMRT
