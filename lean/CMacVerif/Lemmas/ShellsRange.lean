import CMacVerif.Lemmas.Shells
/-! `set_max_range` returns the last block and `increase_range` finds the next block (C16). -/
namespace CMacVerif.Shells

/-- `Shells.max_range_is_last` (Props/C16), here because `Lemmas/Buckets` needs it -/
theorem setMaxRange_isLast (ax ay az s : Int)
    (hx : 0 ≤ ax ∧ ax < s) (hy : 0 ≤ ay ∧ ay < s) (hz : 0 ≤ az ∧ az < s) :
    Inside ax ay az s s s (setMaxRange ax ay az s s s) ∧
    ∃ N : Nat, iter N = setMaxRange ax ay az s s s ∧
      ∀ n : Nat, Inside ax ay az s s s (iter n) → n ≤ N := by
  obtain ⟨hin, hg, hlast⟩ := maxRange_last ax ay az s hx hy hz
  obtain ⟨N, hN⟩ := iter_surjective _ hg
  refine ⟨hin, N, hN, fun n hn => ?_⟩
  by_contra hlt
  have := iter_strictMono (Nat.lt_of_not_le hlt)
  rw [hN] at this
  exact hlast (iter n) (good_iter n) hn this

/-- `Shells.increase_range_next` (Props/C16), here because `Lemmas/Buckets` needs it -/
theorem increaseRange_next (ax ay az s : Int)
    (hx : 0 ≤ ax ∧ ax < s) (hy : 0 ≤ ay ∧ ay < s) (hz : 0 ≤ az ∧ az < s) (k : Nat)
    (hne : ¬ ((iter k).rx = (setMaxRange ax ay az s s s).rx ∧ (iter k).ry = (setMaxRange ax ay az s s s).ry
      ∧ (iter k).rz = (setMaxRange ax ay az s s s).rz))
    (hk : Inside ax ay az s s s (iter k)) :
    ∃ k' : Nat, k < k' ∧ Inside ax ay az s s s (iter k') ∧
      (∀ j, k < j → j < k' → ¬ Inside ax ay az s s s (iter j)) ∧
      (iter k').level ≤ (iter k).level + 1 ∧
      ∀ fuel, k' - k ≤ fuel →
        increaseRange ax ay az s s s (setMaxRange ax ay az s s s) fuel (iter k) = .next (iter k') := by
  classical
  obtain ⟨hinN, N, hN, hlast⟩ := setMaxRange_isLast ax ay az s hx hy hz
  have hkN : k < N := by
    rcases Nat.lt_or_ge k N with h | h
    · exact h
    · have : k = N := le_antisymm (hlast k hk) h
      subst this; rw [hN] at hne; exact absurd ⟨rfl, rfl, rfl⟩ hne
  have hex : ∃ d, Inside ax ay az s s s (iter (k + 1 + d)) :=
    ⟨N - (k + 1), by rw [show k + 1 + (N - (k + 1)) = N by omega, hN]; exact hinN⟩
  let d := Nat.find hex
  have hd : Inside ax ay az s s s (iter (k + 1 + d)) := Nat.find_spec hex
  have hout : ∀ j, k + 1 ≤ j → j < k + 1 + d → ¬ Inside ax ay az s s s (iter j) := by
    intro j h1 h2 hj
    have := Nat.find_min hex (m := j - (k + 1)) (by omega)
    rw [show k + 1 + (j - (k + 1)) = j by omega] at this
    exact this hj
  refine ⟨k + 1 + d, by omega, hd, fun j h1 h2 => hout j (by omega) h2, ?_, ?_⟩
  · -- no level is skipped: below the block found, level `(iter k).level + 1` has a block inside the grid
    by_contra hcon
    have h0 := level_nonneg k
    obtain ⟨c, hcg, hcin, hcl⟩ := inside_shrink hx hy hz (good_iter (k + 1 + d)) hd
      (L := (iter k).level + 1) (by omega) (by omega)
    obtain ⟨j, hj⟩ := iter_surjective c hcg
    have key : ∀ a b, (iter a).level < (iter b).level → a < b := fun a b h =>
      Nat.lt_of_not_le fun hh => absurd (level_mono hh) (not_le.2 h)
    exact hout j (key k j (by rw [hj, hcl]; omega)) (key j _ (by rw [hj, hcl]; omega)) (hj ▸ hcin)
  · intro fuel hf
    exact increaseRange_of_skip hne (skipOutside_reaches ax ay az s s s d (k + 1) fuel hout hd (by omega))


end CMacVerif.Shells
