import CMacVerif.Lemmas.AMRTraverse
/-! Geometry of one step of the AMR traversal over `ℝ` (C16): the wall hit by
`get_wall_intersection`, axis by axis. -/
namespace CMacVerif.AMRT
open CMacVerif.GridNum CMacVerif.AMR
open CMacVerif.Axis (forall_lt_three)

/-! At a literal axis the axis-indexed accessors reduce to the fields, so `forall_lt_three` takes instances stated
with `p.x`, `b.ax`, …. -/
def vget (p : V3 ℝ) (a : Nat) : ℝ := if a = 0 then p.x else if a = 1 then p.y else p.z
def blo (b : Box3 ℝ) (a : Nat) : ℝ := if a = 0 then b.ax else if a = 1 then b.ay else b.az
def bsd (b : Box3 ℝ) (a : Nat) : ℝ := if a = 0 then b.sx else if a = 1 then b.sy else b.sz

def Closed (b : Box3 ℝ) (p : V3 ℝ) : Prop := ∀ a, a < 3 → blo b a ≤ vget p a ∧ vget p a ≤ blo b a + bsd b a

def PosB (b : Box3 ℝ) : Prop := ∀ a, a < 3 → 0 < bsd b a

def dnorm2 (d : V3 ℝ) : ℝ := d.x * d.x + d.y * d.y + d.z * d.z

theorem vget_along (o d : V3 ℝ) (l : ℝ) (a : Nat) : vget (along o d l) a = vget o a + vget d a * l := by
  unfold vget along; split_ifs <;> rfl

theorem norm2_along (o d : V3 ℝ) (l : ℝ) : norm2Diff (along o d l) o = l * l * dnorm2 d := by
  unfold norm2Diff along dnorm2; ring

/-- parameter to the wall of axis `a` -/
noncomputable def wp (big : ℝ) (b : Box3 ℝ) (o d : V3 ℝ) (a : Nat) : ℝ :=
  wallParam big (vget o a) (vget d a) (blo b a) (blo b a + bsd b a)

theorem wp_spec (big : ℝ) (b : Box3 ℝ) (o d : V3 ℝ) (a : Nat) (h1 : blo b a ≤ vget o a)
    (h2 : vget o a ≤ blo b a + bsd b a) :
    (0 < vget d a → 0 ≤ wp big b o d a ∧ vget o a + vget d a * wp big b o d a = blo b a + bsd b a) ∧
    (vget d a < 0 → 0 ≤ wp big b o d a ∧ vget o a + vget d a * wp big b o d a = blo b a) ∧
    (vget d a = 0 → wp big b o d a = big) := by
  unfold wp wallParam
  simp only [lit0]
  refine ⟨fun hd => ?_, fun hd => ?_, fun hd => ?_⟩
  · rw [if_pos hd, mul_comm]; exact Axis.wallParam_up hd h2
  · rw [if_neg (not_lt.mpr hd.le), if_pos hd, mul_comm]; exact Axis.wallParam_down hd h1
  · rw [hd]; simp

theorem closed_along (big : ℝ) (b : Box3 ℝ) (o d : V3 ℝ) (h : Closed b o) {l : ℝ} (h0 : 0 ≤ l)
    (hle : ∀ a, a < 3 → l ≤ wp big b o d a) : Closed b (along o d l) := by
  intro a ha
  obtain ⟨ap, an, -⟩ := wp_spec big b o d a (h a ha).1 (h a ha).2
  rw [vget_along, mul_comm]
  exact Axis.travel_mem (h a ha).1 (h a ha).2 (fun hd => mul_comm (vget d a) _ ▸ (ap hd).2)
    (fun hd => mul_comm (vget d a) _ ▸ (an hd).2) h0 fun _ => hle a ha

theorem chooseAxis_min (w : Nat → ℝ) :
    chooseAxis (w 0) (w 1) (w 2) < 3 ∧ ∀ a, a < 3 → w (chooseAxis (w 0) (w 1) (w 2)) ≤ w a := by
  generalize hc : chooseAxis (w 0) (w 1) (w 2) = c
  unfold chooseAxis at hc
  split_ifs at hc with h1 h2 h3 h4 <;> subst hc
  · exact ⟨by decide, forall_lt_three le_rfl h1.1.le h1.2.le⟩
  · exact ⟨by decide, forall_lt_three h2.1.le le_rfl h2.2.le⟩
  · exact ⟨by decide, forall_lt_three h3.1.le h3.2.le le_rfl⟩
  · -- `w 0` ties with `w 1` or `w 2`: a smaller third value would be a strict minimum
    rw [not_and, not_lt] at h2 h3
    refine ⟨by decide, forall_lt_three le_rfl ?_ ?_⟩
    · by_contra hc
      rw [not_le] at hc
      rcases h4 with ⟨_, b⟩ | ⟨_, b⟩
      · exact b hc
      · exact b (lt_of_le_of_lt (h2 hc) hc)
    · by_contra hc
      rw [not_le] at hc
      rcases h4 with ⟨_, b⟩ | ⟨_, b⟩
      · exact b (lt_of_le_of_lt (h3 hc) hc)
      · exact b hc
  · -- `w 0` differs from both: it is the largest and `w 1 = w 2`
    rw [not_and, not_lt] at h1 h2 h3
    rw [not_or, not_and, not_and, not_not, not_not] at h4
    refine ⟨by decide, forall_lt_three ?_ le_rfl ?_⟩
    · by_contra hc
      rw [not_le] at hc
      have hz := h4.2 (not_lt.2 (h1 hc))
      exact lt_irrefl _ (lt_of_le_of_lt (h3 hz) (lt_trans hz hc))
    · by_contra hc
      rw [not_le] at hc
      rcases lt_or_ge (w 0) (w 1) with hxy | hxy
      · exact absurd (h3 (h4.2 (not_lt.2 (h1 hxy)))) (not_le.2 hc)
      · exact absurd (h3 (lt_trans hc (h4.1 (not_lt.2 hxy)))) (not_le.2 hc)

/-- squared distance to the wall of axis `a` as the code computes it -/
noncomputable def wd (big : ℝ) (b : Box3 ℝ) (o d : V3 ℝ) (a : Nat) : ℝ :=
  norm2Diff (along o d (wp big b o d a)) o

noncomputable def hitAxis (big : ℝ) (b : Box3 ℝ) (o d : V3 ℝ) : Nat :=
  chooseAxis (wd big b o d 0) (wd big b o d 1) (wd big b o d 2)

theorem hitAxis_lt (big : ℝ) (b : Box3 ℝ) (o d : V3 ℝ) : hitAxis big b o d < 3 :=
  (chooseAxis_min (wd big b o d)).1

theorem hitAxis_min (big : ℝ) (b : Box3 ℝ) (o d : V3 ℝ) :
    ∀ a, a < 3 → wd big b o d (hitAxis big b o d) ≤ wd big b o d a :=
  (chooseAxis_min (wd big b o d)).2

theorem dnorm2_pos (d : V3 ℝ) (h : ∃ a, a < 3 ∧ vget d a ≠ 0) : 0 < dnorm2 d := by
  obtain ⟨a, ha, hne⟩ := h
  have hx := mul_self_nonneg d.x
  have hy := mul_self_nonneg d.y
  have hz := mul_self_nonneg d.z
  revert hne
  exact forall_lt_three (P := fun a => vget d a ≠ 0 → 0 < dnorm2 d)
    (fun hne => add_pos_of_pos_of_nonneg (add_pos_of_pos_of_nonneg (mul_self_pos.2 hne) hy) hz)
    (fun hne => add_pos_of_pos_of_nonneg (add_pos_of_nonneg_of_pos hx (mul_self_pos.2 hne)) hz)
    (fun hne => add_pos_of_nonneg_of_pos (add_nonneg hx hy) (mul_self_pos.2 hne)) a ha

/-- hypotheses on the ray: the direction is not zero and `DBL_MAX` exceeds the wall distances -/
structure HitOK (big : ℝ) (b : Box3 ℝ) (o d : V3 ℝ) : Prop where
  inside : Closed b o
  nonzero : ∃ a, a < 3 ∧ vget d a ≠ 0
  big : ∀ a, a < 3 → vget d a ≠ 0 → wp big b o d a < big

theorem wp_nonneg (big : ℝ) (b : Box3 ℝ) (o d : V3 ℝ) (h : HitOK big b o d) (a : Nat) (ha : a < 3) :
    0 ≤ wp big b o d a := by
  obtain ⟨hp, hn, hz⟩ := wp_spec big b o d a (h.inside a ha).1 (h.inside a ha).2
  have big0 : 0 ≤ big := by
    obtain ⟨m, hm, hne⟩ := h.nonzero
    obtain ⟨mp, mn, _⟩ := wp_spec big b o d m (h.inside m hm).1 (h.inside m hm).2
    rcases lt_or_gt_of_ne hne with h' | h'
    · exact le_trans (mn h').1 (h.big m hm hne).le
    · exact le_trans (mp h').1 (h.big m hm hne).le
  rcases lt_trichotomy (vget d a) 0 with h' | h' | h'
  · exact (hn h').1
  · rw [hz h']; exact big0
  · exact (hp h').1

/-- third conjunct: the parameter of the chosen axis is the smallest one, so the wall point lies in the closed cell
(`closed_along`) -/
theorem hit_geom (big : ℝ) (b : Box3 ℝ) (o d : V3 ℝ) (h : HitOK big b o d) :
    let c := hitAxis big b o d
    vget d c ≠ 0 ∧ 0 ≤ wp big b o d c ∧ (∀ a, a < 3 → wp big b o d c ≤ wp big b o d a) ∧
    (0 < vget d c → vget (along o d (wp big b o d c)) c = blo b c + bsd b c) ∧
    (vget d c < 0 → vget (along o d (wp big b o d c)) c = blo b c) ∧
    Real.sqrt (wd big b o d c) = wp big b o d c * Real.sqrt (dnorm2 d) := by
  intro c
  have hc : c < 3 := hitAxis_lt big b o d
  have hN := dnorm2_pos d h.nonzero
  have hle : ∀ a, a < 3 → wp big b o d c ≤ wp big b o d a := by
    intro a ha
    have := hitAxis_min big b o d a ha
    unfold wd at this
    rw [norm2_along, norm2_along] at this
    have h2 : wp big b o d c * wp big b o d c ≤ wp big b o d a * wp big b o d a :=
      le_of_mul_le_mul_right this hN
    exact (mul_self_le_mul_self_iff (wp_nonneg big b o d h c hc) (wp_nonneg big b o d h a ha)).mpr h2
  have hmove : vget d c ≠ 0 := by
    intro h0
    obtain ⟨m, hm, hne⟩ := h.nonzero
    have e := (wp_spec big b o d c (h.inside c hc).1 (h.inside c hc).2).2.2 h0
    have := hle m hm
    have := h.big m hm hne
    linarith
  have h0 := wp_nonneg big b o d h c hc
  obtain ⟨cp, cn, _⟩ := wp_spec big b o d c (h.inside c hc).1 (h.inside c hc).2
  refine ⟨hmove, h0, hle, ?_, ?_, ?_⟩
  · intro hp; rw [vget_along]; exact (cp hp).2
  · intro hn; rw [vget_along]; exact (cn hn).2
  · unfold wd
    rw [norm2_along, Real.sqrt_mul (mul_self_nonneg _), Real.sqrt_mul_self h0]

end CMacVerif.AMRT
