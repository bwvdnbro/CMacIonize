import CMacVerif.Lemmas.SplitInvariance
import CMacVerif.Lemmas.SubgridCopies
set_option linter.unusedSectionVars false
/-!
# Split invariance through duplicated subgrids (C03)

The chained run over the neighbour tables `create_copies` builds (originals and copies) projects, step by step and with
identical deposits, onto the run over the originals alone: relabel every copy by its original (`copies_square`).  The
totals are keyed by the cell of the original, i.e. they are the estimators after `update_original_counters`.
-/
namespace CMacVerif.Split
open CMacVerif.RayMarch
open CMacVerif.SubgridLayout (Layout ngb StepCommutes runSum Halts sim_totals Copies createCopies originalOf member nCopies)
variable {K : Type} [Field K] [LinearOrder K] [IsStrictOrderedRing K]

/-- `_subgrids[i]->get_neighbour(d)` after `create_copies` -/
def nbC (C : Copies) (i d : Nat) : Option Nat := (C.rows.getD i []).getD d none

/-- the chained run over originals and copies: a copy has the geometry and (after `update_copy_properties`)
the cell contents of its original; its deposits are counted for the cell of the original -/
def aStepC (g : Geom K) (field : Int × Int × Int → Cell K) (L : Layout) (C : Copies) :
    AState K → Option ((Int × Int × Int → K) × AState K) :=
  SubgridLayout.splitStepN (nbC C) (fun i => localStep g field L (originalOf C i))
    (fun t => enterStep g L (originalOf C t)) (fun i => valOf L (originalOf C i))

/-- relabel every subgrid index by its original -/
def proj (C : Copies) : AState K → AState K
  | .inGrid i x => .inGrid (originalOf C i) x
  | .absorbedIn i x => .absorbedIn (originalOf C i) x
  | .escaped i d x => .escaped (originalOf C i) d x

theorem proj_eq_relabel (C : Copies) (a : AState K) : proj C a = SubgridLayout.relabel (originalOf C) a := by
  cases a <;> rfl

/-- `i` is a member of the family of an original: the original itself or one of its copies -/
def IsMember (L : Layout) (levels : List Nat) (C : Copies) (i : Nat) : Prop :=
  ∃ s k, s < L.size ∧ k < nCopies (levels.getD s 0) ∧ i = member C.copies s k

theorem localStep_exit_dir (g : Geom K) (field : Int × Int × Int → Cell K) (L : Layout)
    (hx : 0 < L.mx) (hy : 0 < L.my) (hz : 0 < L.mz) (s : Nat) (x : Photon K × St K)
    (dep : Visit K) (d : Nat) (st' : Photon K × St K) (h : localStep g field L s x = .exit dep d st') : d < 27 := by
  simp only [localStep] at h
  split_ifs at h
  injection h with _ hd _
  rw [← hd]
  exact (exit_dir_facts L hx hy hz _).1

/-- the neighbour of a family member is a member of the family of the neighbour of its original -/
theorem nbC_member_of_ngb (L : Layout) (hx : 0 < L.mx) (hy : 0 < L.my) (hz : 0 < L.mz) (prev levels : List Nat)
    (hlen : levels.length = L.size) (C : Copies) (hC : C = createCopies L prev levels) (i d : Nat) (hd : d < 27)
    (hi : IsMember L levels C i) :
    match ngb L (originalOf C i) d with
    | none => nbC C i d = none
    | some t => ∃ j, nbC C i d = some j ∧ IsMember L levels C j ∧ originalOf C j = t := by
  subst hC
  obtain ⟨s, k, hs, hk, rfl⟩ := hi
  rw [SubgridLayout.originalOf_member L prev levels hlen s k hs hk, nbC, SubgridLayout.entry_member L prev levels hlen s k d hs hk hd]
  obtain ⟨hnone, hsome⟩ := SubgridLayout.familyNgb_spec L hx hy hz levels (createCopies L prev levels).copies s k d hs hk
  cases hn : ngb L s d with
  | none => exact hnone hn
  | some t =>
    obtain ⟨c, hc, he⟩ := hsome t hn
    have htl := SubgridLayout.ngb_lt L hx hy hz s d t hd hn
    exact ⟨_, he, ⟨t, c, htl, hc, rfl⟩, SubgridLayout.originalOf_member L prev levels hlen t c htl hc⟩

/-- **one step of the run through originals and copies = one step of the run through the originals**, after
relabelling every copy by its original: same deposit (counted for the cell of the original), corresponding
successor; and the successor is again a family member -/
theorem copies_square (g : Geom K) (field : Int × Int × Int → Cell K) (L : Layout)
    (hx : 0 < L.mx) (hy : 0 < L.my) (hz : 0 < L.mz) (prev levels : List Nat) (hlen : levels.length = L.size) :
    StepCommutes (aStepC g field L (createCopies L prev levels)) (aStep g field L)
      (fun a b => (∀ i x, a = .inGrid i x → IsMember L levels (createCopies L prev levels) i)
        ∧ b = proj (createCopies L prev levels) a) := by
  unfold aStep; rw [SubgridLayout.splitStep_eq_splitStepN]; simp only [proj_eq_relabel]
  exact SubgridLayout.splitStepN_relabel _ _ _ _ (· < 27) _ _ _
    (fun s x dep d st' h => localStep_exit_dir g field L hx hy hz s x dep d st' h)
    (fun i d hi hd => nbC_member_of_ngb L hx hy hz prev levels hlen _ rfl i d hd hi)

/-- start of a run through copies: the packet starts in member `k0` of the family of its start subgrid (as
`DistributedPhotonSource` distributes the packets of a source over the copies) -/
def startOfC (g : Geom K) (L : Layout) (C : Copies) (pk : Photon K) (k0 : Nat) : AState K :=
  .inGrid (member C.copies (subgridOf g L pk.pos) k0) (pk, initSt (blockOf g L (subgridOf g L pk.pos)) pk 0)

/-- `C03.split_invariance_copies` for any second layout `L'` of the same grid (there: the grid as one block).  That every
copy holds the cell contents of its original (what `push_cells` establishes) is not a hypothesis: it is how `aStepC` is
defined. -/
theorem split_invariance_copies {g : Geom K} {L L' : Layout} {field : Int × Int × Int → Cell K} {pk : Photon K}
    (hok : Ok g L field pk) (hok' : Ok g L' field pk) (hN : NV L' = NV L) (hp : pV L' = pV L) (hs : StartInside g L pk)
    (prev levels : List Nat) (hlen : levels.length = L.size) (k0 : Nat)
    (hk0 : k0 < 2 ^ levels.getD (subgridOf g L pk.pos) 0) (f : Nat)
    (hA : Halts (aStepC g field L (createCopies L prev levels)) f (startOfC g L (createCopies L prev levels) pk k0)) :
    ∃ f', Halts (aStep g field L') f' (startOf g L' pk)
      ∧ (runSum (aStepC g field L (createCopies L prev levels)) f (startOfC g L (createCopies L prev levels) pk k0)).1
          = (runSum (aStep g field L') f' (startOf g L' pk)).1
      ∧ FinalAgree (envOf g L field pk)
          (proj (createCopies L prev levels)
            (runSum (aStepC g field L (createCopies L prev levels)) f (startOfC g L (createCopies L prev levels) pk k0)).2)
          (runSum (aStep g field L') f' (startOf g L' pk)).2 := by
  obtain ⟨hx, hy, hz⟩ := hok.m_pos3
  obtain ⟨sh, hR0⟩ : Rel g (envOf g L field pk) L (subgridOf g L pk.pos) pk
      (initSt (blockOf g L (subgridOf g L pk.pos)) pk 0) _ := start_rel hok hs
  obtain ⟨r1, ⟨_, r2⟩, hA'⟩ := sim_totals _ _ _ (copies_square g field L hx hy hz prev levels hlen) f _ (startOf g L pk)
    ⟨fun i x e => by cases e; exact ⟨_, k0, hR0.slt, hk0, rfl⟩, by
      simp only [startOfC, proj, startOf]
      rw [SubgridLayout.originalOf_member L prev levels hlen _ k0 hR0.slt hk0]⟩ hA
  obtain ⟨f', h1, h2, h3⟩ := split_invariance_halts hok hok' hN hp hs f hA'
  exact ⟨f', h1, r1.trans h2, r2 ▸ h3⟩

end CMacVerif.Split
