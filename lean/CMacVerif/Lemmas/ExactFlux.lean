import CMacVerif.Model.ExactFlux
import CMacVerif.Lemmas.ExactRiemannBasic
/-!
Symmetries of the *complete* exact Riemann solver (`Model/ExactFlux.lean` around C11's
`ExactRiemann.solve`) at `ℝ` (`ovf = 0`), for every fuel of the two root-finding loops: Galilean
covariance at every sampling speed, mirror symmetry off the ties (`MirrorTieFree`), identical states,
and what follows for `ExactRiemannSolver::solve_for_flux`.
-/
namespace CMacVerif.ExactFlux
open CMacVerif CMacVerif.RiemannVacuum CMacVerif.ExactRiemann

@[simp] theorem _root_.CMacVerif.ExactRiemann.pow_real_eq (x y : ℝ) : ArithFns.pow x y = x ^ y := rfl
@[simp] theorem _root_.CMacVerif.ExactRiemann.sqrt_real_eq (x : ℝ) : ArithFns.sqrt x = Real.sqrt x := rfl

/-! ### flux assembly around an arbitrary 1D solver -/

/-- every 1D solver gives a Galilean covariant flux: the solver only sees face-frame velocities -/
theorem fluxWith_boost (G : ℝ) (S : ℝ → ℝ → ℝ → ℝ → ℝ → ℝ → Sample ℝ) (rhoL PL rhoR PR : ℝ)
    (uL uR n vf w : V3 ℝ) :
    fluxWith G S rhoL (uL.add w) PL rhoR (uR.add w) PR n (vf.add w)
      = (fluxWith G S rhoL uL PL rhoR uR PR n vf).boost w := by
  unfold fluxWith
  simp only [faceFrame_boost]
  exact fluxFromSample_boost ..

/-- a mirror-symmetric 1D solver gives a mirror-antisymmetric flux -/
theorem fluxWith_mirror {G : ℝ} {S : ℝ → ℝ → ℝ → ℝ → ℝ → ℝ → Sample ℝ} {rhoL PL rhoR PR : ℝ}
    {uL uR n vf : V3 ℝ}
    (hm : (S rhoR (-(faceFrame uL uR n vf).vR) PR rhoL (-(faceFrame uL uR n vf).vL) PL).MirrorOf
      (S rhoL (faceFrame uL uR n vf).vL PL rhoR (faceFrame uL uR n vf).vR PR))
    (hf : (S rhoL (faceFrame uL uR n vf).vL PL rhoR (faceFrame uL uR n vf).vR PR).FlagOk) :
    (fluxWith G S rhoR uR PR rhoL uL PL n.neg vf).NegOf (fluxWith G S rhoL uL PL rhoR uR PR n vf) := by
  unfold fluxWith
  simp only [faceFrame_mirror]
  exact fluxFromSample_mirror G _ _ _ n vf hm hf

/-! ### the constants of C11's model are the ones of `RiemannVacuum` -/

theorem c_tdgm1 (g : ℝ) : (mkConsts g).tdgm1 = tdgm1 (effGamma g) := rfl
theorem c_gm1dgp1 (g : ℝ) : (mkConsts g).gm1dgp1 = gm1dgp1 (effGamma g) := rfl

theorem mkConsts_tdgp1_mul_gm1d2 (g : ℝ) : (mkConsts g).tdgp1 * ((mkConsts g).gm1d2 + 1) = 1 :=
  tdgp1_mul_gm1d2 (effGamma_gt_one g)

/-! ### Galilean covariance of the iterative path -/

/-- the pressure function, its derivative, the initial guess and hence the whole root finding
only see `u_R - u_L`: a common boost changes nothing but the star velocity -/
theorem star_galilean (c : Consts ℝ) (nf bf : ℕ) (rhoL uL PL rhoR uR PR w : ℝ) :
    ExactRiemann.star c nf bf rhoL (uL + w) PL rhoR (uR + w) PR
      = { ExactRiemann.star c nf bf rhoL uL PL rhoR uR PR with
          ustar := (ExactRiemann.star c nf bf rhoL uL PL rhoR uR PR).ustar + w } := by
  have hd : uR + w - (uL + w) = uR - uL := by ring
  unfold ExactRiemann.star
  simp only [hd]
  congr 1
  unfold ustarOf
  rw [lit05]
  ring

section samplers
variable (c : Consts ℝ)

theorem sampleRightShock_galilean (rho u P a Pi us p d w : ℝ) :
    sampleRightShock c rho (u + w) P a Pi (us + w) p (d + w)
      = (sampleRightShock c rho u P a Pi us p d).boost w := by
  unfold sampleRightShock shockSpeedR
  simp only [add_right_comm _ w, add_lt_add_iff_right]
  split_ifs <;> rfl

theorem sampleLeftShock_galilean (rho u P a Pi us p d w : ℝ) :
    sampleLeftShock c rho (u + w) P a Pi (us + w) p (d + w)
      = (sampleLeftShock c rho u P a Pi us p d).boost w := by
  unfold sampleLeftShock shockSpeedL
  simp only [add_sub_right_comm _ w, add_lt_add_iff_right]
  split_ifs <;> rfl

theorem fanL_galilean (hc : c.tdgp1 * (c.gm1d2 + 1) = 1) (rho u P a d w : ℝ) (br : ℕ) :
    fanL c rho (u + w) P a (d + w) br = (fanL c rho u P a d br).boost w := by
  have hb : u + w - (d + w) = u - d := by ring
  unfold fanL Sol.boost
  simp only [hb]
  congr 1
  linear_combination w * hc

theorem fanR_galilean (hc : c.tdgp1 * (c.gm1d2 + 1) = 1) (rho u P a d w : ℝ) (br : ℕ) :
    fanR c rho (u + w) P a (d + w) br = (fanR c rho u P a d br).boost w := by
  have h := fanL_galilean c hc rho (-u) P a (-d) (-w) br
  rw [← neg_add, ← neg_add] at h
  rw [fanR_eq_fanL_neg, fanR_eq_fanL_neg, h]
  simp only [Sol.boost, neg_add, neg_neg]

theorem sampleRightRarefaction_galilean (hc : c.tdgp1 * (c.gm1d2 + 1) = 1)
    (rho u P a Pi us p d w : ℝ) :
    sampleRightRarefaction c rho (u + w) P a Pi (us + w) p (d + w)
      = (sampleRightRarefaction c rho u P a Pi us p d).boost w := by
  unfold sampleRightRarefaction headR tailR
  simp only [add_right_comm _ w, add_lt_add_iff_right]
  split_ifs
  · rfl
  · exact fanR_galilean c hc ..
  · rfl

theorem sampleLeftRarefaction_galilean (hc : c.tdgp1 * (c.gm1d2 + 1) = 1)
    (rho u P a Pi us p d w : ℝ) :
    sampleLeftRarefaction c rho (u + w) P a Pi (us + w) p (d + w)
      = (sampleLeftRarefaction c rho u P a Pi us p d).boost w := by
  unfold sampleLeftRarefaction headL tailL
  simp only [add_sub_right_comm _ w, add_lt_add_iff_right]
  split_ifs
  · exact fanL_galilean c hc ..
  · rfl
  · rfl

/-- every test compares `d` with a speed that is boosted with the gas, and every state returned is
the boosted one -/
theorem sampleRightState_galilean (hc : c.tdgp1 * (c.gm1d2 + 1) = 1) (rho u P a Pi us p d w : ℝ) :
    sampleRightState c rho (u + w) P a Pi (us + w) p (d + w)
      = (sampleRightState c rho u P a Pi us p d).boost w := by
  unfold sampleRightState
  split_ifs
  · exact sampleRightShock_galilean c ..
  · exact sampleRightRarefaction_galilean c hc ..

theorem sampleLeftState_galilean (hc : c.tdgp1 * (c.gm1d2 + 1) = 1) (rho u P a Pi us p d w : ℝ) :
    sampleLeftState c rho (u + w) P a Pi (us + w) p (d + w)
      = (sampleLeftState c rho u P a Pi us p d).boost w := by
  unfold sampleLeftState
  split_ifs
  · exact sampleLeftShock_galilean c ..
  · exact sampleLeftRarefaction_galilean c hc ..

end samplers

theorem sampleStar_galilean (c : Consts ℝ) (hc : c.tdgp1 * (c.gm1d2 + 1) = 1) (s : ExactRiemann.Star ℝ)
    (rhoL uL PL rhoR uR PR d w : ℝ) :
    sampleStar c { s with ustar := s.ustar + w } rhoL (uL + w) PL rhoR (uR + w) PR (d + w)
      = ((sampleStar c s rhoL uL PL rhoR uR PR d).1,
         (sampleStar c s rhoL uL PL rhoR uR PR d).2.boost w) := by
  simp only [sampleStar_eq, add_lt_add_iff_right]
  split_ifs
  · simp only [sampleRightState_galilean c hc]
  · simp only [sampleLeftState_galilean c hc]

theorem flag_ne_zero {z : Int} (h : z = 1 ∨ z = -1) : z ≠ 0 := by
  rcases h with rfl | rfl <;> decide

theorem sampleStar_flag (c : Consts ℝ) (s : ExactRiemann.Star ℝ) (rhoL uL PL rhoR uR PR d : ℝ) :
    (sampleStar c s rhoL uL PL rhoR uR PR d).1 = 1 ∨ (sampleStar c s rhoL uL PL rhoR uR PR d).1 = -1 := by
  rw [sampleStar_eq]
  split_ifs
  · exact Or.inl rfl
  · exact Or.inr rfl

/-! ### identical states -/

theorem starRarefaction_identical (c : Consts ℝ) {rho P : ℝ} (u : ℝ) (br : ℕ) (hP : 0 < P) :
    starRarefaction c rho (1.0 / P) u P br = ⟨rho, u, P, br⟩ := by
  unfold starRarefaction
  simp only [mul_one_div_lit hP.ne', pow_real_eq, Real.one_rpow, mul_one]

theorem sampleRightState_identical (c : Consts ℝ) {rho P : ℝ} (a u d : ℝ) (hP : 0 < P) :
    (sampleRightState c rho u P a (1.0 / P) u P d).rho = rho ∧
    (sampleRightState c rho u P a (1.0 / P) u P d).u = u ∧
    (sampleRightState c rho u P a (1.0 / P) u P d).P = P := by
  -- the fan has no width: tail = head
  have ht : tailR c a (1.0 / P) u P = headR u a := by
    unfold tailR headR; simp only [mul_one_div_lit hP.ne', pow_real_eq, Real.one_rpow, mul_one]
  unfold sampleRightState sampleRightRarefaction
  rw [if_neg (lt_irrefl P), ht, starRarefaction_identical c u 4 hP]
  split_ifs <;> exact ⟨rfl, rfl, rfl⟩

theorem sampleLeftState_identical (c : Consts ℝ) {rho P : ℝ} (a u d : ℝ) (hP : 0 < P) :
    (sampleLeftState c rho u P a (1.0 / P) u P d).rho = rho ∧
    (sampleLeftState c rho u P a (1.0 / P) u P d).u = u ∧
    (sampleLeftState c rho u P a (1.0 / P) u P d).P = P := by
  have ht : tailL c a (1.0 / P) u P = headL u a := by
    unfold tailL headL; simp only [mul_one_div_lit hP.ne', pow_real_eq, Real.one_rpow, mul_one]
  unfold sampleLeftState sampleLeftRarefaction
  rw [if_neg (lt_irrefl P), ht, starRarefaction_identical c u 10 hP]
  split_ifs with ha hb
  · exact absurd ha (not_lt.mpr hb.le)
  · exact ⟨rfl, rfl, rfl⟩
  · exact ⟨rfl, rfl, rfl⟩

/-- **identical states**: `ExactRiemannSolver::solve` returns that state (flag ±1) at every
sampling speed, for every fuel -/
theorem solve1D_identical (g : ℝ) (nf bf : ℕ) {rho P : ℝ} (u d : ℝ) (hr : 0 < rho) (hP : 0 < P) :
    (solve1D 0 g nf bf rho u P rho u P d).rho = rho ∧
    (solve1D 0 g nf bf rho u P rho u P d).u = u ∧
    (solve1D 0 g nf bf rho u P rho u P d).P = P ∧
    ((solve1D 0 g nf bf rho u P rho u P d).flag = 1 ∨
      (solve1D 0 g nf bf rho u P rho u P d).flag = -1) := by
  have hnone : solveIfVacuum 0 g rho u P rho u P d = none := by
    have := mul_pos (tdgm1_pos (effGamma_gt_one g)) (soundSpeed_pos (effGamma_gt_one g) hr hP)
    rw [solveIfVacuum_eq_none_iff, not_vacuumExit_iff hr.le hP.le hr.le hP.le, sub_self, not_le]
    exact ⟨⟨hr, hP⟩, ⟨hr, hP⟩, by linarith⟩
  obtain ⟨_, hp, hu⟩ := star_identical (mkConsts g) nf bf (rho := rho) u hP
  unfold solve1D ExactRiemann.solve
  simp only [hnone]
  simp only [sampleStar_eq, hp, hu]
  split_ifs
  · obtain ⟨a1, a2, a3⟩ := sampleRightState_identical (mkConsts g) (rho := rho) _ u d hP
    exact ⟨a1, a2, a3, Or.inl rfl⟩
  · obtain ⟨a1, a2, a3⟩ := sampleLeftState_identical (mkConsts g) (rho := rho) _ u d hP
    exact ⟨a1, a2, a3, Or.inr rfl⟩

/-! ### mirror symmetry of the iterative path -/

section mirrorSamplers
variable (c : Consts ℝ)

theorem sampleLeftShock_mirror (rho u P a Pi us p d : ℝ) :
    (sampleLeftShock c rho (-u) P a Pi (-us) p (-d)).MirrorOf
      (sampleRightShock c rho u P a Pi us p d) := by
  have c1 : (shockSpeedL c (-u) a Pi p < -d) ↔ (d < shockSpeedR c u a Pi p) := by
    unfold shockSpeedL shockSpeedR; constructor <;> intro h <;> linarith
  unfold sampleLeftShock sampleRightShock
  simp only [c1]
  split_ifs <;> exact ⟨rfl, rfl, rfl⟩

/-- mirror symmetry of the rarefaction samplers, except exactly at the tail of the fan (there one
orientation evaluates the fan formula, the other the star state; they agree only as far as the
root finder has converged) -/
theorem sampleLeftRarefaction_mirror {rho u P a Pi us p d : ℝ} (hne : d ≠ tailR c a Pi us p) :
    (sampleLeftRarefaction c rho (-u) P a Pi (-us) p (-d)).MirrorOf
      (sampleRightRarefaction c rho u P a Pi us p d) := by
  have c1 : (headL (-u) a < -d) ↔ (d < headR u a) := by
    unfold headL headR; constructor <;> intro h <;> linarith
  have c2 : (-d < tailL c a Pi (-us) p) ↔ (tailR c a Pi us p < d) := by
    unfold tailL tailR; constructor <;> intro h <;> linarith
  unfold sampleLeftRarefaction sampleRightRarefaction
  simp only [c1, c2]
  split_ifs with h1 h2 h3 h3
  · exact absurd h2 (not_lt.mpr h3.le)
  · rw [fanR_eq_fanL_neg]; exact ⟨rfl, (neg_neg _).symm, rfl⟩
  · exact ⟨rfl, rfl, rfl⟩
  · exact absurd (le_antisymm (not_lt.mp h2) (not_lt.mp h3)) hne
  · exact ⟨rfl, rfl, rfl⟩

end mirrorSamplers

theorem sampleLeftState_mirror {c : Consts ℝ} {rho u P a Pi us p d : ℝ}
    (hne : d ≠ tailR c a Pi us p) :
    (sampleLeftState c rho (-u) P a Pi (-us) p (-d)).MirrorOf
      (sampleRightState c rho u P a Pi us p d) := by
  unfold sampleLeftState sampleRightState
  split_ifs
  · exact sampleLeftShock_mirror c ..
  · exact sampleLeftRarefaction_mirror c hne

theorem sampleRightState_mirror {c : Consts ℝ} {rho u P a Pi us p d : ℝ}
    (hne : d ≠ tailL c a Pi us p) :
    (sampleRightState c rho (-u) P a Pi (-us) p (-d)).MirrorOf
      (sampleLeftState c rho u P a Pi us p d) := by
  have := (@sampleLeftState_mirror c rho (-u) P a Pi (-us) p (-d)
    fun h => hne (by unfold tailR at h; unfold tailL; linarith)).symm
  rwa [neg_neg, neg_neg, neg_neg] at this

theorem f_swap (c : Consts ℝ) (PL AL BL PLi aLf PR AR BR PRi aRf ud : ℝ) :
    f c PR AR BR PRi aRf PL AL BL PLi aLf ud = f c PL AL BL PLi aLf PR AR BR PRi aRf ud := by
  funext p; unfold f; ring

theorem fprime_swap (c : Consts ℝ) (PL AL BL PLi rL PR AR BR PRi rR : ℝ) :
    fprime c PR AR BR PRi rR PL AL BL PLi rL = fprime c PL AL BL PLi rL PR AR BR PRi rR := by
  funext p; unfold fprime; ring

theorem guessPT_swap (c : Consts ℝ) (PL aL AL BL PR aR AR BR ud : ℝ) :
    (guessPT c PR aR AR BR PL aL AL BL ud).1 = (guessPT c PL aL AL BL PR aR AR BR ud).1 := by
  have h1 : ppv PR aR PL aL ud = ppv PL aL PR aR ud := by
    unfold ppv smallP; simp only [add_comm PR PL, add_comm aR aL]
  have h2 : smallP PR PL = smallP PL PR := by unfold smallP; rw [add_comm]
  have h3 : guessTR c PR aR PL aL ud = guessTR c PL aL PR aR ud := by
    unfold guessTR
    rw [add_comm aR aL, add_comm (aR * ArithFns.pow PR (-c.gm1d2g))]
  unfold guessPT
  simp only [h1, h2, h3, amin_real, amax_real, min_comm PR PL, max_comm PR PL, not_isInf, or_self,
    if_false]
  rw [add_comm (gb AR BR _ * PR), add_comm (gb AR BR _)]

/-- exchanging the states and reversing the velocities: same `P*`, reversed `u*`, the sound
speeds and the two branches of the pressure function exchanged -/
theorem star_mirror (c : Consts ℝ) (nf bf : ℕ) (rhoL uL PL rhoR uR PR : ℝ) :
    let s' := ExactRiemann.star c nf bf rhoR (-uR) PR rhoL (-uL) PL
    let s := ExactRiemann.star c nf bf rhoL uL PL rhoR uR PR
    s'.pstar = s.pstar ∧ s'.ustar = -s.ustar ∧ s'.aL = s.aR ∧ s'.aR = s.aL := by
  intro s' s
  have hp : s'.pstar = s.pstar := by
    have hd : -uL - -uR = uR - uL := by ring
    simp only [s', s, ExactRiemann.star, hd, f_swap, fprime_swap, guessPT_swap]
  have hfL : s'.fL = s.fR := by
    show fb c PR _ _ _ _ s'.pstar = fb c PR _ _ _ _ s.pstar
    rw [hp]
  have hfR : s'.fR = s.fL := by
    show fb c PL _ _ _ _ s'.pstar = fb c PL _ _ _ _ s.pstar
    rw [hp]
  refine ⟨hp, ?_, rfl, rfl⟩
  show ustarOf (-uR) (-uL) s'.fL s'.fR = -ustarOf uL uR s.fL s.fR
  rw [hfL, hfR, ustarOf, ustarOf, lit05]; ring

theorem sampleStar_mirror (c : Consts ℝ) (s s' : ExactRiemann.Star ℝ) (rhoL uL PL rhoR uR PR d : ℝ)
    (hp : s'.pstar = s.pstar) (hu : s'.ustar = -s.ustar) (haL : s'.aL = s.aR) (haR : s'.aR = s.aL)
    (h1 : d ≠ s.ustar) (h2 : d ≠ tailR c s.aR (1.0 / PR) s.ustar s.pstar)
    (h3 : d ≠ tailL c s.aL (1.0 / PL) s.ustar s.pstar) :
    (sampleStar c s' rhoR (-uR) PR rhoL (-uL) PL (-d)).1
      = -(sampleStar c s rhoL uL PL rhoR uR PR d).1 ∧
    (sampleStar c s' rhoR (-uR) PR rhoL (-uL) PL (-d)).2.MirrorOf
      (sampleStar c s rhoL uL PL rhoR uR PR d).2 := by
  have c1 : (-s.ustar < -d) ↔ (d < s.ustar) := by constructor <;> intro h <;> linarith
  simp only [sampleStar_eq, hp, hu, haL, haR, c1]
  by_cases hlt : s.ustar < d
  · rw [if_pos hlt, if_neg (by linarith)]
    exact ⟨rfl, sampleLeftState_mirror h2⟩
  · have : d < s.ustar := lt_of_le_of_ne (not_lt.mp hlt) h1
    rw [if_neg hlt, if_pos this]
    exact ⟨rfl, sampleRightState_mirror h3⟩

def OptMirror : Option (Sample ℝ) → Option (Sample ℝ) → Prop
  | none, none => True
  | some a, some b => a.MirrorOf b
  | _, _ => False

/-- mirror symmetry of the vacuum exits of `solve` (the only excluded point: both fan tails of a
generated vacuum exactly on `x/t`) -/
theorem solveIfVacuum_mirror (g rhoL uL PL rhoR uR PR d : ℝ)
    (hne : tdgm1 (effGamma g) * soundSpeed (effGamma g) (1.0 / rhoL) PL
        + tdgm1 (effGamma g) * soundSpeed (effGamma g) (1.0 / rhoR) PR ≤ uR - uL →
      (d < uR - tdgm1 (effGamma g) * soundSpeed (effGamma g) (1.0 / rhoR) PR ∨
        uL + tdgm1 (effGamma g) * soundSpeed (effGamma g) (1.0 / rhoL) PL < d)) :
    OptMirror (solveIfVacuum 0 g rhoR (-uR) PR rhoL (-uL) PL (-d))
      (solveIfVacuum 0 g rhoL uL PL rhoR uR PR d) := by
  simp only [solveIfVacuum_eq, VacuumExit_swap]
  split_ifs with he
  · exact solveVacuum_mirror _ _ fun hL hR => hne ((vacuumExit_iff_of_gas hL hR).mp he)
  · trivial

/-- The sampling speed `d` does not sit *exactly* on one of the three points where the two
orientations of the problem evaluate different (adjoining) formulas: the contact `u*`, the tail of
a rarefaction fan next to the star region, or — in the vacuum-generation regime — both vacuum
fronts at once.  (At the contact the two sides have different densities: the 1D state is
genuinely two-valued there; at a fan tail fan formula and star state agree as far as the root
finder has converged.) -/
def MirrorTieFree (g : ℝ) (nf bf : ℕ) (rhoL uL PL rhoR uR PR d : ℝ) : Prop :=
  (tdgm1 (effGamma g) * soundSpeed (effGamma g) (1.0 / rhoL) PL
        + tdgm1 (effGamma g) * soundSpeed (effGamma g) (1.0 / rhoR) PR ≤ uR - uL →
      (d < uR - tdgm1 (effGamma g) * soundSpeed (effGamma g) (1.0 / rhoR) PR ∨
        uL + tdgm1 (effGamma g) * soundSpeed (effGamma g) (1.0 / rhoL) PL < d)) ∧
  d ≠ (ExactRiemann.star (mkConsts g) nf bf rhoL uL PL rhoR uR PR).ustar ∧
  d ≠ tailR (mkConsts g) (ExactRiemann.star (mkConsts g) nf bf rhoL uL PL rhoR uR PR).aR (1.0 / PR)
        (ExactRiemann.star (mkConsts g) nf bf rhoL uL PL rhoR uR PR).ustar
        (ExactRiemann.star (mkConsts g) nf bf rhoL uL PL rhoR uR PR).pstar ∧
  d ≠ tailL (mkConsts g) (ExactRiemann.star (mkConsts g) nf bf rhoL uL PL rhoR uR PR).aL (1.0 / PL)
        (ExactRiemann.star (mkConsts g) nf bf rhoL uL PL rhoR uR PR).ustar
        (ExactRiemann.star (mkConsts g) nf bf rhoL uL PL rhoR uR PR).pstar

theorem solve1D_flag (g : ℝ) (nf bf : ℕ) (rhoL uL PL rhoR uR PR d : ℝ) :
    (solve1D 0 g nf bf rhoL uL PL rhoR uR PR d).FlagOk := by
  unfold solve1D ExactRiemann.solve Sample.FlagOk
  rw [solveIfVacuum_eq]
  split_ifs
  · exact (solveVacuum_region ..).flagOk
  · rcases sampleStar_flag (mkConsts g) (ExactRiemann.star (mkConsts g) nf bf rhoL uL PL rhoR uR PR)
      rhoL uL PL rhoR uR PR d with h | h
    · exact Or.inr (Or.inr h)
    · exact Or.inl h

/-! ### flux level -/

/-- on the inputs for which `solve` takes a vacuum exit the complete model is the vacuum model -/
theorem solveForFlux_vacuum (g : ℝ) (nf bf : ℕ) (rhoL PL rhoR PR : ℝ) (uL uR n vf : V3 ℝ)
    (F : Flux ℝ) (h : solveForFluxIfVacuum 0 g rhoL uL PL rhoR uR PR n vf = some F) :
    (solveForFlux 0 g nf bf rhoL uL PL rhoR uR PR n vf).Same F := by
  unfold solveForFluxIfVacuum at h
  unfold solveForFlux fluxWith solve1D ExactRiemann.solve
  simp only at h ⊢
  cases hv : solveIfVacuum 0 g rhoL (faceFrame uL uR n vf).vL PL rhoR (faceFrame uL uR n vf).vR PR 0.0 with
  | none => rw [hv] at h; exact absurd h (by simp)
  | some v =>
    rw [hv] at h
    simp only [Option.some.injEq] at h
    rw [← h]
    unfold fluxFromSample
    by_cases hf : v.flag ≠ 0
    · simp only [if_pos hf]; exact ⟨rfl, rfl, rfl⟩
    · simp only [if_neg hf]; exact ⟨rfl, rfl, rfl⟩

/-- the driver's entry point is the model -/
theorem solveForFluxS_snd (ovf g : ℝ) (nf bf : ℕ) (rhoL PL rhoR PR : ℝ) (uL uR n vf : V3 ℝ) :
    (solveForFluxS ovf g nf bf rhoL uL PL rhoR uR PR n vf).2
      = solveForFlux ovf g nf bf rhoL uL PL rhoR uR PR n vf := rfl

/-! ### a contact at rest on the face -/

/-- a sampled state whose normal velocity vanishes in the frame of the face carries no mass, and
only the work of the pressure on the moving face as energy (unit normal) -/
theorem fluxFromSample_at_rest (G : ℝ) (s : Sample ℝ) (f : FaceFrame ℝ) (n vf : V3 ℝ)
    (hn : n.norm2 = 1) (hu : s.u = 0) (hfl : s.flag ≠ 0)
    (hvL : f.vL = f.uLface.dot n) (hvR : f.vR = f.uRface.dot n) :
    (fluxFromSample G s f n vf).NoExchange vf := by
  have key : ∀ (uf : V3 ℝ) (v : ℝ), v = uf.dot n → (uf.add (n.smul (s.u - v))).dot n = 0 := by
    intro uf v hv
    rw [hu, hv]
    simp only [V3.dot, V3.add, V3.smul, V3.norm2] at hn ⊢
    linear_combination (-(uf.x * n.x + uf.y * n.y + uf.z * n.z)) * hn
  unfold fluxFromSample
  rw [if_pos hfl]
  have hdot : (if s.flag = -1 then f.uLface.add (n.smul (s.u - f.vL))
      else f.uRface.add (n.smul (s.u - f.vR))).dot n = 0 := by
    split_ifs
    · exact key f.uLface f.vL hvL
    · exact key f.uRface f.vR hvR
  simp only [hdot, mul_zero]
  exact deboost_noExchange ..

/-- mirror-image states: the star velocity the exact solver computes is exactly 0, whatever
pressure the root finder returns -/
theorem star_mirror_states (c : Consts ℝ) (nf bf : ℕ) (rho v P : ℝ) :
    (ExactRiemann.star c nf bf rho v P rho (-v) P).ustar = 0 := by
  obtain ⟨_, h, _, _⟩ := star_mirror c nf bf rho v P rho (-v) P
  rw [neg_neg] at h
  linarith

end CMacVerif.ExactFlux
