import CMacVerif.Model.HLLC
import CMacVerif.Lemmas.RiemannVacuum
/-!
The HLLC model (`Model/HLLC.lean`) at `ℝ` with `tiny = 0`, `ovf = 0`: its vacuum samplers are the
exact solver's at `x/t = 0`; boost and mirror of every stage of the HLLC path; Toro's textbook HLLC
(namespace `Toro`, the specification) and the comparison with it; mirror-image states.
-/
namespace CMacVerif.HLLC
open CMacVerif CMacVerif.RiemannVacuum

/-! ### the solver's own samplers are the exact solver's samplers at `x/t = 0` -/

theorem sampleRightVacuum_eq (G r u P a : ℝ) :
    HLLC.sampleRightVacuum G r u P a = RiemannVacuum.sampleRightVacuum G r u P a 0 := by
  unfold HLLC.sampleRightVacuum RiemannVacuum.sampleRightVacuum HLLC.leftFan RiemannVacuum.leftFan
  simp only [lit0, sub_zero, add_zero, sub_neg]

theorem sampleLeftVacuum_eq (G r u P a : ℝ) :
    HLLC.sampleLeftVacuum G r u P a = RiemannVacuum.sampleLeftVacuum G r u P a 0 := by
  unfold HLLC.sampleLeftVacuum RiemannVacuum.sampleLeftVacuum HLLC.rightFan RiemannVacuum.rightFan
  simp only [lit0, sub_zero, add_zero, neg_lt_iff_pos_add]

theorem sampleVacuumGeneration_eq (G rL uL PL aL rR uR PR aR : ℝ) :
    HLLC.sampleVacuumGeneration G rL uL PL aL rR uR PR aR
      = RiemannVacuum.sampleVacuumGeneration G rL uL PL aL rR uR PR aR 0 := by
  unfold HLLC.sampleVacuumGeneration RiemannVacuum.sampleVacuumGeneration HLLC.rightFan
    RiemannVacuum.rightFan HLLC.leftFan RiemannVacuum.leftFan
  simp only [lit0, sub_zero, add_zero, neg_lt_iff_pos_add, sub_neg]

/-- `solve_vacuum_flux`'s sampler selection = the exact solver's `solve_vacuum` at `x/t = 0`
(when not both states are vacuum; that case returns earlier in both solvers) -/
theorem vacuumSample_eq {G rL vL PL aL rR vR PR aR : ℝ} (vacL vacR : Bool)
    (h : (vacL && vacR) = false) :
    vacuumSample G rL vL PL aL vacL rR vR PR aR vacR
      = solveVacuum G rL vL PL aL vacL rR vR PR aR vacR 0 := by
  unfold vacuumSample solveVacuum
  rw [h]
  simp only [Bool.false_eq_true, if_false, sampleRightVacuum_eq, sampleLeftVacuum_eq,
    sampleVacuumGeneration_eq]

/-! ### which path `solve_for_flux` takes -/

/-- two gases: `solve_for_flux` tests vacuum generation only -/
theorem solveForFlux_of_pos (g : ℝ) {rL PL rR PR : ℝ} (uL uR n vf : V3 ℝ) (hrL : 0 < rL)
    (hPL : 0 < PL) (hrR : 0 < rR) (hPR : 0 < PR) :
    solveForFlux 0 0 g rL uL PL rR uR PR n vf =
      let G := effGamma g
      let f := faceFrame uL uR n vf
      let aL := Real.sqrt (G * PL * (1.0 / (rL + 0)))
      let aR := Real.sqrt (G * PR * (1.0 / (rR + 0)))
      if tdgm1 G * (aL + aR) ≤ f.vR - f.vL then
        vacuumFlux G rL PL aL false rR PR aR false f n vf
      else
        mainFlux 0 G rL PL (1.0 / (rL + 0)) (1.0 / (PL + 0)) aL rR PR (1.0 / (rR + 0))
          (1.0 / (PR + 0)) aR (f.vR - f.vL) (aL + aR) f n vf := by
  unfold solveForFlux
  simp only [add_zero, isVacuum_eq_false hrL hPL, isVacuum_eq_false hrR hPR, Bool.and_self,
    Bool.false_eq_true, if_false, Bool.or_self, Bool.false_or, decide_eq_true_eq, sqrt_real]

/-- `solve_for_flux` takes its vacuum path exactly on the exact solver's vacuum exits (in the frame
of the face), with the exact solver's sample at `x/t = 0` -/
theorem solveForFlux_eq (g rL PL rR PR : ℝ) (uL uR n vf : V3 ℝ) :
    solveForFlux 0 0 g rL uL PL rR uR PR n vf =
      let G := effGamma g
      let f := faceFrame uL uR n vf
      let aL := soundSpeed G (1.0 / rL) PL
      let aR := soundSpeed G (1.0 / rR) PR
      if (isVacuum 0 rL rL PL PL && isVacuum 0 rR rR PR PR) = true then ⟨0.0, V3.zero, 0.0, 0⟩
      else if VacuumExit g rL f.vL PL rR f.vR PR then
        fluxFromSample G (vacuumExitSample g rL f.vL PL rR f.vR PR 0) f n vf
      else
        mainFlux 0 G rL PL (1.0 / (rL + 0)) (1.0 / (PL + 0)) aL rR PR (1.0 / (rR + 0))
          (1.0 / (PR + 0)) aR (f.vR - f.vL) (aL + aR) f n vf := by
  unfold solveForFlux VacuumExit vacuumExitSample vacuumFlux soundSpeed
  simp only [add_zero, Bool.or_eq_true, decide_eq_true_eq, mul_add, or_assoc]
  split_ifs with hb
  · rfl
  · rw [vacuumSample_eq _ _ (Bool.eq_false_iff.mpr hb)]
  · rfl

theorem mul_inv_tiny0 {x : ℝ} (hx : x ≠ 0) : x * (1.0 / (x + 0)) = 1 := by
  rw [add_zero]; exact mul_one_div_lit hx

/-! ### boost of the two paths (everything happens in the frame of the face) -/

theorem vacuumFlux_boost (G rL PL aL rR PR aR : ℝ) (vacL vacR : Bool) (f : FaceFrame ℝ)
    (n vf w : V3 ℝ) :
    vacuumFlux G rL PL aL vacL rR PR aR vacR f n (vf.add w)
      = (vacuumFlux G rL PL aL vacL rR PR aR vacR f n vf).boost w := by
  unfold vacuumFlux; exact fluxFromSample_boost ..

theorem mainFlux_boost (G rL PL rLi PLi aL rR PR rRi PRi aR vdiff abar : ℝ) (f : FaceFrame ℝ)
    (n vf w : V3 ℝ) :
    mainFlux 0 G rL PL rLi PLi aL rR PR rRi PRi aR vdiff abar f n (vf.add w)
      = (mainFlux 0 G rL PL rLi PLi aL rR PR rRi PRi aR vdiff abar f n vf).boost w := by
  unfold mainFlux
  simp only
  split_ifs <;> exact deboost_add ..

/-! ### mirror symmetry of the wave-speed estimates -/

theorem pstarEst_comm (rL PL rR PR vdiff abar : ℝ) :
    pstarEst rR PR rL PL vdiff abar = pstarEst rL PL rR PR vdiff abar := by
  unfold pstarEst; simp only [add_comm]

theorem sStar_mirror (rL vL PL SL rR vR PR SR : ℝ) :
    sStar 0 rR (-vR) PR (-SR) rL (-vL) PL (-SL) = -sStar 0 rL vL PL SL rR vR PR SR := by
  unfold sStar
  have hd : rR * -SR - rL * -SL + 0 = rL * SL - rR * SR + 0 := by ring
  have hn : PL - PR + (rR * -vR * -SR - rL * -vL * -SL) = -(PR - PL + (rL * vL * SL - rR * vR * SR)) := by
    ring
  simp only [hd, hn, neg_div]

theorem waves_mirror (G rL vL PL PLi aL rR vR PR PRi aR vdiff abar : ℝ) :
    let w' := waves 0 G rR (-vR) PR PRi aR rL (-vL) PL PLi aL vdiff abar
    let w := waves 0 G rL vL PL PLi aL rR vR PR PRi aR vdiff abar
    w'.SLmvL = -w.SRmvR ∧ w'.SRmvR = -w.SLmvL ∧ w'.Sstar = -w.Sstar := by
  unfold waves
  simp only [pstarEst_comm rL PL rR PR]
  refine ⟨neg_mul _ _, by rw [neg_mul, neg_neg], ?_⟩
  have h := sStar_mirror rL vL PL (-aL * qFac G PL PLi (pstarEst rL PL rR PR vdiff abar).1) rR vR PR
    (aR * qFac G PR PRi (pstarEst rL PL rR PR vdiff abar).1)
  simp only [neg_mul, neg_neg] at h ⊢
  exact h

/-! ### mirror symmetry of one side's flux -/

/-- the triples are (mass, momentum, energy) -/
def NegOf3 (a b : ℝ × V3 ℝ × ℝ) : Prop := a.1 = -b.1 ∧ a.2.1 = b.2.1.neg ∧ a.2.2 = -b.2.2

theorem deboost_negOf3 {a b : ℝ × V3 ℝ × ℝ} (h : NegOf3 a b) (vf : V3 ℝ) (b1 b2 : Nat) :
    (deboost a.1 a.2.1 a.2.2 vf b1).NegOf (deboost b.1 b.2.1 b.2.2 vf b2) := by
  obtain ⟨e1, e2, e3⟩ := h
  rw [e1, e2, e3]; exact deboost_neg ..

theorem plainFlux_mirror (G rho : ℝ) (uf : V3 ℝ) (v P ri : ℝ) (n : V3 ℝ) :
    NegOf3 (plainFlux G rho uf (-v) P ri n.neg) (plainFlux G rho uf v P ri n) := by
  unfold plainFlux NegOf3
  simp only [lit05]
  refine ⟨by ring, ?_, by ring⟩
  ext <;> simp only [V3.add, V3.smul, V3.neg] <;> ring

theorem starCorrection_mirror (G rho : ℝ) (uf : V3 ℝ) (v P ri SK Sstar : ℝ) (n : V3 ℝ) :
    NegOf3 (starCorrection 0 G rho uf (-v) P ri (-SK) (-Sstar) n.neg)
      (starCorrection 0 G rho uf v P ri SK Sstar n) := by
  have h1 : -SK / (-SK + -v - -Sstar) = SK / (SK + v - Sstar) := by
    rw [show -SK + -v - -Sstar = -(SK + v - Sstar) by ring, neg_div_neg_eq]
  have h2 : (1.0 : ℝ) / (-SK + 0) = -(1.0 / (SK + 0)) := by
    rw [show -SK + (0:ℝ) = -(SK + 0) by ring, div_neg]
  unfold starCorrection NegOf3
  simp only [h1, h2]
  simp only [lit05, lit1]
  refine ⟨by ring, ?_, by ring⟩
  ext <;> simp only [V3.add, V3.smul, V3.neg] <;> ring

/-! ### the star flux: what `sideFlux` returns, its mirror, the two sides at `S* = 0` -/

/-- `F_K + S_K (U*_K - U_K)` in the face frame -/
noncomputable def starFlux (G rho : ℝ) (uf : V3 ℝ) (v P ri SK Sstar : ℝ) (n : V3 ℝ) : ℝ × V3 ℝ × ℝ :=
  let F := plainFlux G rho uf v P ri n
  let C := starCorrection 0 G rho uf v P ri SK Sstar n
  (F.1 + C.1, F.2.1.add C.2.1, F.2.2 + C.2.2)

/-- With `S* = 0` the star flux of side `K` carries no mass and no energy, and its momentum is
the star pressure `P_K + ρ_K (S_K - v_K)(S* - v_K)` along the normal. -/
theorem starFlux_at_zero (G rho : ℝ) (uf : V3 ℝ) (v P ri SK : ℝ) (n : V3 ℝ)
    (hr : rho * ri = 1) (hS : SK + v ≠ 0) (hK : SK ≠ 0) :
    starFlux G rho uf v P ri SK 0 n = (0, n.smul (P - rho * v * SK), 0) := by
  unfold starFlux plainFlux starCorrection
  simp only [lit05, lit1, sub_zero, add_zero, zero_sub, zero_add]
  have hrho : rho ≠ 0 := by intro h; rw [h, zero_mul] at hr; exact zero_ne_one hr
  have hri : ri = 1 / rho := by field_simp; linarith
  refine Prod.ext ?_ (Prod.ext ?_ ?_)
  · simp only; field_simp; ring
  · simp only
    ext <;> simp only [V3.add, V3.smul] <;> field_simp <;> ring
  · simp only; rw [hri]; field_simp; ring

theorem sideFlux_star {G rho : ℝ} {uf : V3 ℝ} {v P ri SK Sstar : ℝ} {n : V3 ℝ} (left : Bool)
    (h : if left then SK + v < 0 else 0 < SK + v) :
    (sideFlux 0 G rho uf v P ri SK Sstar n left).1 = starFlux G rho uf v P ri SK Sstar n := by
  unfold sideFlux starFlux
  cases left
  · simp only [Bool.false_eq_true, if_false, lit0] at h ⊢; rw [if_pos h]
  · simp only [if_true, lit0] at h ⊢; rw [if_pos h]

theorem sideFlux_plain {G rho : ℝ} {uf : V3 ℝ} {v P ri SK Sstar : ℝ} {n : V3 ℝ} (left : Bool)
    (h : ¬ (if left then SK + v < 0 else 0 < SK + v)) :
    (sideFlux 0 G rho uf v P ri SK Sstar n left).1 = plainFlux G rho uf v P ri n := by
  unfold sideFlux
  cases left
  · simp only [Bool.false_eq_true, if_false, lit0] at h ⊢; rw [if_neg h]
  · simp only [if_true, lit0] at h ⊢; rw [if_neg h]

theorem starFlux_mirror (G rho : ℝ) (uf : V3 ℝ) (v P ri SK Sstar : ℝ) (n : V3 ℝ) :
    NegOf3 (starFlux G rho uf (-v) P ri (-SK) (-Sstar) n.neg) (starFlux G rho uf v P ri SK Sstar n) := by
  obtain ⟨p1, p2, p3⟩ := plainFlux_mirror G rho uf v P ri n
  obtain ⟨s1, s2, s3⟩ := starCorrection_mirror G rho uf v P ri SK Sstar n
  unfold starFlux
  refine ⟨by simp only [p1, s1]; ring, ?_, by simp only [p3, s3]; ring⟩
  simp only [p2, s2]; ext <;> simp only [V3.add, V3.neg] <;> ring

theorem sideFlux_mirror (G rho : ℝ) (uf : V3 ℝ) (v P ri SK Sstar : ℝ) (n : V3 ℝ) (left : Bool) :
    NegOf3 (sideFlux 0 G rho uf (-v) P ri (-SK) (-Sstar) n.neg (!left)).1
      (sideFlux 0 G rho uf v P ri SK Sstar n left).1 := by
  -- the mirrored side tests the mirrored condition
  have c : (if (!left) = true then -SK + -v < 0 else 0 < -SK + -v) ↔
      (if left = true then SK + v < 0 else 0 < SK + v) := by
    cases left <;> simp only [Bool.not_true, Bool.not_false, if_true, Bool.false_eq_true, if_false] <;>
      constructor <;> intro h <;> linarith
  by_cases h : if left then SK + v < 0 else 0 < SK + v
  · rw [sideFlux_star left h, sideFlux_star (!left) (c.mpr h)]; exact starFlux_mirror ..
  · rw [sideFlux_plain left h, sideFlux_plain (!left) (fun h' => h (c.mp h'))]; exact plainFlux_mirror ..

/-- the two star fluxes agree when the contact estimate is exactly zero (outer waves not at rest):
the flux does not jump where the upwind side switches -/
theorem starFlux_agree_at_zero (G rL : ℝ) (ufL : V3 ℝ) (vL PL rLi SL rR : ℝ) (ufR : V3 ℝ)
    (vR PR rRi SR : ℝ) (n : V3 ℝ) (hrL : rL * rLi = 1) (hrR : rR * rRi = 1)
    (hSL : SL + vL ≠ 0) (hSR : SR + vR ≠ 0) (hrLp : 0 < rL) (hrRp : 0 < rR) (hKL : SL < 0)
    (hKR : 0 < SR) (h0 : sStar 0 rL vL PL SL rR vR PR SR = 0) :
    starFlux G rL ufL vL PL rLi SL 0 n = starFlux G rR ufR vR PR rRi SR 0 n := by
  have hden : rL * SL - rR * SR ≠ 0 := by
    have := mul_neg_of_pos_of_neg hrLp hKL
    have := mul_pos hrRp hKR
    exact (by linarith : rL * SL - rR * SR < 0).ne
  rw [starFlux_at_zero G rL ufL vL PL rLi SL n hrL hSL hKL.ne,
    starFlux_at_zero G rR ufR vR PR rRi SR n hrR hSR hKR.ne']
  unfold sStar at h0
  simp only [add_zero] at h0
  rw [div_eq_zero_iff] at h0
  rcases h0 with h0 | h0
  · have : PL - rL * vL * SL = PR - rR * vR * SR := by linarith
    rw [this]
  · exact absurd h0 hden

/-! ### mirror symmetry of the HLLC path -/

theorem mainFlux_mirror {G rL PL rLi PLi aL rR PR rRi PRi aR vdiff abar : ℝ} {f : FaceFrame ℝ}
    {n vf : V3 ℝ} (hrL : rL * rLi = 1) (hrR : rR * rRi = 1) (hrLp : 0 < rL) (hrRp : 0 < rR) :
    let w := waves 0 G rL f.vL PL PLi aL rR f.vR PR PRi aR vdiff abar
    w.SLmvL < 0 → 0 < w.SRmvR → (w.Sstar = 0 → w.SLmvL + f.vL < 0 ∧ 0 < w.SRmvR + f.vR) →
    (mainFlux 0 G rR PR rRi PRi aR rL PL rLi PLi aL vdiff abar f.mirror n.neg vf).NegOf
      (mainFlux 0 G rL PL rLi PLi aL rR PR rRi PRi aR vdiff abar f n vf) := by
  dsimp only
  intro hSL hSR h0
  obtain ⟨m1, m2, m3⟩ := waves_mirror G rL f.vL PL PLi aL rR f.vR PR PRi aR vdiff abar
  -- kept as an equation: `waves` is generalised below
  have hS : (waves 0 G rL f.vL PL PLi aL rR f.vR PR PRi aR vdiff abar).Sstar
      = sStar 0 rL f.vL PL (waves 0 G rL f.vL PL PLi aL rR f.vR PR PRi aR vdiff abar).SLmvL
          rR f.vR PR (waves 0 G rL f.vL PL PLi aL rR f.vR PR PRi aR vdiff abar).SRmvR := rfl
  unfold mainFlux
  simp only [FaceFrame.mirror, lit0]
  generalize waves 0 G rR (-f.vR) PR PRi aR rL (-f.vL) PL PLi aL vdiff abar = w' at *
  generalize waves 0 G rL f.vL PL PLi aL rR f.vR PR PRi aR vdiff abar = w at *
  rw [m1, m2, m3]
  rcases lt_trichotomy w.Sstar 0 with hneg | hz | hpos
  · rw [if_neg (not_le.mpr hneg), if_pos (by linarith)]
    exact deboost_negOf3 (sideFlux_mirror G rR f.uRface f.vR PR rRi w.SRmvR w.Sstar n false) ..
  · -- both sides would apply their correction: the right star flux is the left one
    obtain ⟨k1, k2⟩ := h0 hz
    simp only [hz, neg_zero, le_refl, if_true]
    have ag := starFlux_agree_at_zero G rL f.uLface f.vL PL rLi w.SLmvL rR f.uRface f.vR PR rRi
      w.SRmvR n hrL hrR k1.ne k2.ne' hrLp hrRp hSL hSR (by rw [← hS]; exact hz)
    have e := sideFlux_mirror G rR f.uRface f.vR PR rRi w.SRmvR 0 n false
    simp only [Bool.not_false, neg_zero] at e
    rw [sideFlux_star false k2, ← ag, ← sideFlux_star true k1] at e
    exact deboost_negOf3 e ..
  · rw [if_pos hpos.le, if_neg (by linarith)]
    exact deboost_negOf3 (sideFlux_mirror G rL f.uLface f.vL PL rLi w.SLmvL w.Sstar n true) ..

/-! ### signs of the wave-speed estimates -/

theorem sqrt_sound_pos {G rho P : ℝ} (hG : 1 < G) (hr : 0 < rho) (hP : 0 < P) :
    0 < Real.sqrt (G * P * (1.0 / (rho + 0))) := by
  rw [add_zero]; exact soundSpeed_pos hG hr hP

theorem one_le_qFac {G P pstar : ℝ} (hG : 1 < G) (hP : 0 < P) :
    1 ≤ qFac G P (1.0 / (P + 0)) pstar := by
  unfold qFac
  split_ifs with h
  · rw [sqrt_real, lit1, add_zero]
    have h1 : 1 < pstar * (1 / P) := by
      rw [mul_one_div, lt_div_iff₀ hP]; linarith
    exact Real.one_le_sqrt.mpr
      (le_add_of_nonneg_right (mul_nonneg (gp1d2g_pos hG).le (by linarith)))
  · rw [lit1]

theorem qFac_pos {G P pstar : ℝ} (hG : 1 < G) (hP : 0 < P) : 0 < qFac G P (1.0 / (P + 0)) pstar :=
  one_pos.trans_le (one_le_qFac hG hP)

theorem waves_SLmvL_neg {G rL vL PL aL rR vR PR PRi aR vdiff abar : ℝ} (hG : 1 < G)
    (hP : 0 < PL) (ha : 0 < aL) :
    (waves 0 G rL vL PL (1.0 / (PL + 0)) aL rR vR PR PRi aR vdiff abar).SLmvL < 0 :=
  mul_neg_of_neg_of_pos (neg_neg_of_pos ha) (qFac_pos hG hP)

theorem waves_SRmvR_pos {G rL vL PL PLi aL rR vR PR aR vdiff abar : ℝ} (hG : 1 < G)
    (hP : 0 < PR) (ha : 0 < aR) :
    0 < (waves 0 G rL vL PL PLi aL rR vR PR (1.0 / (PR + 0)) aR vdiff abar).SRmvR :=
  mul_pos ha (qFac_pos hG hP)

/-! ### identical states -/

theorem starCorrection_identical (G rho : ℝ) (uf : V3 ℝ) (v P ri SK : ℝ) (n : V3 ℝ) (hK : SK ≠ 0) :
    starCorrection 0 G rho uf v P ri SK v n = (0, ⟨0, 0, 0⟩, 0) := by
  unfold starCorrection
  have h1 : SK / (SK + v - v) - 1.0 = 0 := by
    rw [lit1, add_sub_cancel_right, div_self hK, sub_self]
  simp only [h1, sub_self, mul_zero, zero_mul, zero_add, add_zero, V3.smul_zero, V3.add_zero]

theorem sideFlux_identical {G rho : ℝ} {uf : V3 ℝ} {v P ri SK : ℝ} {n : V3 ℝ} (left : Bool)
    (hK : SK ≠ 0) :
    (sideFlux 0 G rho uf v P ri SK v n left).1 = plainFlux G rho uf v P ri n := by
  by_cases h : if left then SK + v < 0 else 0 < SK + v
  · rw [sideFlux_star _ h, starFlux, starCorrection_identical G rho uf v P ri SK n hK]
    exact Prod.ext (add_zero _) (Prod.ext (V3.add_zero _) (add_zero _))
  · exact sideFlux_plain _ h

theorem waves_identical {G rho v P a : ℝ} (Pi : ℝ) (hr : 0 < rho) (hP : 0 < P) (ha : 0 < a) :
    let w := waves 0 G rho v P Pi a rho v P Pi a (v - v) (a + a)
    w.SLmvL = -a ∧ w.SRmvR = a ∧ w.Sstar = v := by
  have hp : (pstarEst rho P rho P (v - v) (a + a)).1 = P := by
    unfold pstarEst amax
    simp only [lit05, lit025, lit0, sub_self, mul_zero, zero_mul, sub_zero]
    have : 1 / 2 * (P + P) = P := by ring
    rw [this, if_pos hP]
  have hq : qFac G P Pi P = 1 := by
    unfold qFac; rw [if_neg (lt_irrefl P), lit1]
  unfold waves sStar
  simp only [hp, hq, mul_one, add_zero]
  refine ⟨trivial, trivial, ?_⟩
  -- `field_simp` below needs the denominator of `S*`
  have hne : rho * -a - rho * a ≠ 0 := by
    have := mul_pos hr ha
    exact (by linarith : rho * -a - rho * a < 0).ne
  field_simp
  ring

theorem mainFlux_identical {G rho P a : ℝ} (ri Pi : ℝ) (uf : V3 ℝ) (v : ℝ) (n vf : V3 ℝ)
    (hr : 0 < rho) (hP : 0 < P) (ha : 0 < a) :
    (mainFlux 0 G rho P ri Pi a rho P ri Pi a (v - v) (a + a) ⟨uf, uf, v, v⟩ n vf).Same
      (deboost (plainFlux G rho uf v P ri n).1 (plainFlux G rho uf v P ri n).2.1
        (plainFlux G rho uf v P ri n).2.2 vf 0) := by
  obtain ⟨w1, w2, w3⟩ := waves_identical (G := G) (v := v) Pi hr hP ha
  unfold mainFlux
  simp only [w1, w2, w3]
  split_ifs
  · rw [sideFlux_identical _ (neg_ne_zero.mpr ha.ne')]; exact ⟨rfl, rfl, rfl⟩
  · rw [sideFlux_identical _ ha.ne']; exact ⟨rfl, rfl, rfl⟩

/-! ### Textbook HLLC (specification, written independently of the model)

E. F. Toro, *Riemann Solvers and Numerical Methods for Fluid Dynamics*, 3rd ed., §10.4-10.6:
HLLC flux (10.26), star states (10.39) with the normal velocity along a unit vector `n`,
contact speed (10.37), pressure-based wave speed estimates (10.59)-(10.61) with the PVRS
pressure (10.67).  Everything in the frame of the face. -/
namespace Toro

/-- sound speed -/
noncomputable def a (γ ρ P : ℝ) : ℝ := Real.sqrt (γ * P / ρ)

/-- `p* = max(0, p_pvrs)`, `p_pvrs = ½(p_L+p_R) - ½(u_R-u_L) ρ̄ ā`, `ρ̄ = ½(ρ_L+ρ_R)`, `ā = ½(a_L+a_R)` -/
noncomputable def pstar (ρL vL PL aL ρR vR PR aR : ℝ) : ℝ :=
  max 0 (1 / 2 * (PL + PR) - 1 / 8 * (vR - vL) * (ρL + ρR) * (aL + aR))

/-- `q_K = 1` if `p* ≤ p_K`, else `√(1 + (γ+1)/(2γ) (p*/p_K - 1))` -/
noncomputable def q (γ P ps : ℝ) : ℝ :=
  if ps ≤ P then 1 else Real.sqrt (1 + (γ + 1) / (2 * γ) * (ps / P - 1))

/-- contact speed (10.37) -/
noncomputable def contact (ρL vL PL SL ρR vR PR SR : ℝ) : ℝ :=
  (PR - PL + ρL * vL * (SL - vL) - ρR * vR * (SR - vR)) / (ρL * (SL - vL) - ρR * (SR - vR))

/-- the three wave speeds `S_L = v_L - a_L q_L`, `S*`, `S_R = v_R + a_R q_R` -/
structure Speeds where
  SL : ℝ
  Sstar : ℝ
  SR : ℝ

noncomputable def speeds (γ ρL vL PL ρR vR PR : ℝ) : Speeds :=
  let aL := a γ ρL PL
  let aR := a γ ρR PR
  let ps := pstar ρL vL PL aL ρR vR PR aR
  let SL := vL - aL * q γ PL ps
  let SR := vR + aR * q γ PR ps
  ⟨SL, contact ρL vL PL SL ρR vR PR SR, SR⟩

/-- total energy density `E = P/(γ-1) + ½ρ|u|²` -/
noncomputable def energy (γ ρ : ℝ) (u : V3 ℝ) (P : ℝ) : ℝ := P / (γ - 1) + 1 / 2 * ρ * u.norm2

/-- conserved variables `U = (ρ, ρu, E)` -/
noncomputable def U (γ ρ : ℝ) (u : V3 ℝ) (P : ℝ) : ℝ × V3 ℝ × ℝ := (ρ, u.smul ρ, energy γ ρ u P)

/-- physical flux `F = (ρv, ρv u + P n, v(E+P))`, `v = u·n` -/
noncomputable def F (γ ρ : ℝ) (u : V3 ℝ) (P : ℝ) (n : V3 ℝ) : ℝ × V3 ℝ × ℝ :=
  let v := u.dot n
  (ρ * v, (u.smul (ρ * v)).add (n.smul P), v * (energy γ ρ u P + P))

/-- star state (10.39): `U*_K = ρ_K (S_K-v_K)/(S_K-S*) · (1, u_K + (S*-v_K) n,
E_K/ρ_K + (S*-v_K)(S* + p_K/(ρ_K(S_K-v_K))))` -/
noncomputable def Ustar (γ ρ : ℝ) (u : V3 ℝ) (P : ℝ) (n : V3 ℝ) (S Ss : ℝ) : ℝ × V3 ℝ × ℝ :=
  let v := u.dot n
  let fac := ρ * (S - v) / (S - Ss)
  (fac, (u.add (n.smul (Ss - v))).smul fac,
    fac * (energy γ ρ u P / ρ + (Ss - v) * (Ss + P / (ρ * (S - v)))))

/-- `F*_K = F_K + S_K (U*_K - U_K)` -/
noncomputable def Fstar (γ ρ : ℝ) (u : V3 ℝ) (P : ℝ) (n : V3 ℝ) (S Ss : ℝ) : ℝ × V3 ℝ × ℝ :=
  let f := F γ ρ u P n
  let us := Ustar γ ρ u P n S Ss
  let uc := U γ ρ u P
  (f.1 + S * (us.1 - uc.1), f.2.1.add ((us.2.1.sub uc.2.1).smul S), f.2.2 + S * (us.2.2 - uc.2.2))

/-- the HLLC flux (10.26) for the states `(ρ_L, u_L, P_L)`, `(ρ_R, u_R, P_R)` (velocities in the
frame of the face) and unit normal `n` -/
noncomputable def flux (γ ρL : ℝ) (uL : V3 ℝ) (PL ρR : ℝ) (uR : V3 ℝ) (PR : ℝ) (n : V3 ℝ) :
    ℝ × V3 ℝ × ℝ :=
  let s := speeds γ ρL (uL.dot n) PL ρR (uR.dot n) PR
  if 0 ≤ s.SL then F γ ρL uL PL n
  else if 0 ≤ s.Sstar then Fstar γ ρL uL PL n s.SL s.Sstar
  else if 0 ≤ s.SR then Fstar γ ρR uR PR n s.SR s.Sstar
  else F γ ρR uR PR n

end Toro

/-- the code's upwind flux is the physical flux `F_K` -/
theorem plainFlux_eq_toro {G rho : ℝ} {uf : V3 ℝ} {P : ℝ} {n : V3 ℝ} (hr : rho ≠ 0) :
    plainFlux G rho uf (uf.dot n) P (1.0 / (rho + 0)) n = Toro.F G rho uf P n := by
  unfold plainFlux Toro.F Toro.energy gm1inv
  simp only [lit1, lit05, add_zero]
  refine Prod.ext rfl (Prod.ext rfl ?_)
  field_simp

/-- the code's corrected flux (with the `(starfac + 1)` factor of fix ed44d42) is Toro's
`F_K + S_K (U*_K - U_K)` -/
theorem starFlux_eq_toro {G rho : ℝ} {uf : V3 ℝ} {P : ℝ} {n : V3 ℝ} {SK Ss : ℝ} (hr : rho ≠ 0) :
    starFlux G rho uf (uf.dot n) P (1.0 / (rho + 0)) SK Ss n
      = Toro.Fstar G rho uf P n (SK + uf.dot n) Ss := by
  unfold starFlux Toro.Fstar
  rw [plainFlux_eq_toro hr]
  unfold starCorrection Toro.F Toro.Ustar Toro.U Toro.energy gm1inv
  simp only [lit1, lit05, add_zero, add_sub_cancel_right]
  refine Prod.ext ?_ (Prod.ext ?_ ?_)
  · simp only; ring
  · simp only
    ext <;> simp only [V3.add, V3.smul, V3.sub] <;> ring
  · simp only
    field_simp
    ring

theorem sqrt_sound_eq_toro (G rho P : ℝ) :
    Real.sqrt (G * P * (1.0 / (rho + 0))) = Toro.a G rho P := by
  unfold Toro.a; rw [lit1, add_zero, mul_one_div]

theorem pstarEst_eq_toro (rL vL PL aL rR vR PR aR : ℝ) :
    (pstarEst rL PL rR PR (vR - vL) (aL + aR)).1 = Toro.pstar rL vL PL aL rR vR PR aR := by
  unfold pstarEst Toro.pstar
  simp only [amax_real, lit0, lit05, lit025]
  congr 1; ring

theorem qFac_eq_toro {G P : ℝ} (ps : ℝ) (hG : 1 < G) :
    qFac G P (1.0 / (P + 0)) ps = Toro.q G P ps := by
  unfold qFac Toro.q gp1d2g
  simp only [lit1, lit05, add_zero, sqrt_real]
  have hG0 : G ≠ 0 := by intro h; linarith
  by_cases h : P < ps
  · rw [if_pos h, if_neg (not_le.mpr h)]
    congr 1
    field_simp
  · rw [if_neg h, if_pos (not_lt.mp h)]

/-- the code's wave-speed estimates are Toro's pressure-based estimates -/
theorem waves_eq_toro {G : ℝ} (rL vL PL rR vR PR : ℝ) (hG : 1 < G) :
    let aL := Real.sqrt (G * PL * (1.0 / (rL + 0)))
    let aR := Real.sqrt (G * PR * (1.0 / (rR + 0)))
    let w := waves 0 G rL vL PL (1.0 / (PL + 0)) aL rR vR PR (1.0 / (PR + 0)) aR (vR - vL) (aL + aR)
    let s := Toro.speeds G rL vL PL rR vR PR
    w.SLmvL = s.SL - vL ∧ w.SRmvR = s.SR - vR ∧ w.Sstar = s.Sstar := by
  simp only [sqrt_sound_eq_toro]
  unfold waves Toro.speeds
  simp only [pstarEst_eq_toro, qFac_eq_toro _ hG]
  refine ⟨by ring, by ring, ?_⟩
  unfold sStar Toro.contact
  simp only [add_zero]
  congr 1 <;> ring

theorem starFlux_wave_at_rest (G rho : ℝ) (uf : V3 ℝ) (v P ri SK Ss : ℝ) (n : V3 ℝ) (h : SK + v = 0) :
    starFlux G rho uf v P ri SK Ss n = plainFlux G rho uf v P ri n := by
  unfold starFlux starCorrection
  simp only [h, zero_mul, add_zero, V3.smul_zero, V3.add_zero]

theorem Toro.Fstar_zero_speed (γ ρ : ℝ) (u : V3 ℝ) (P : ℝ) (n : V3 ℝ) (Ss : ℝ) :
    Toro.Fstar γ ρ u P n 0 Ss = Toro.F γ ρ u P n := by
  unfold Toro.Fstar
  simp only [zero_mul, add_zero, V3.smul_zero, V3.add_zero]

/-- **the HLLC path is textbook HLLC** whenever `S_L ≤ S*` -/
theorem mainFlux_eq_toro {G : ℝ} (rL PL rR PR : ℝ) (uLf uRf n vf : V3 ℝ) (hG : 1 < G)
    (hrL : rL ≠ 0) (hrR : rR ≠ 0) :
    let s := Toro.speeds G rL (uLf.dot n) PL rR (uRf.dot n) PR
    let aL := Real.sqrt (G * PL * (1.0 / (rL + 0)))
    let aR := Real.sqrt (G * PR * (1.0 / (rR + 0)))
    let T := Toro.flux G rL uLf PL rR uRf PR n
    s.SL ≤ s.Sstar →
      (mainFlux 0 G rL PL (1.0 / (rL + 0)) (1.0 / (PL + 0)) aL rR PR (1.0 / (rR + 0))
        (1.0 / (PR + 0)) aR (uRf.dot n - uLf.dot n) (aL + aR) ⟨uLf, uRf, uLf.dot n, uRf.dot n⟩
        n vf).Same (deboost T.1 T.2.1 T.2.2 vf 0) := by
  dsimp only
  intro h1
  obtain ⟨w1, w2, w3⟩ := waves_eq_toro (G := G) rL (uLf.dot n) PL rR (uRf.dot n) PR hG
  unfold mainFlux Toro.flux
  simp only [w1, w2, w3, lit0]
  generalize Toro.speeds G rL (uLf.dot n) PL rR (uRf.dot n) PR = s at *
  have same : ∀ {a b : ℝ × V3 ℝ × ℝ} {b1 b2 : Nat}, a = b →
      (deboost a.1 a.2.1 a.2.2 vf b1).Same (deboost b.1 b.2.1 b.2.2 vf b2) :=
    fun h => h ▸ ⟨rfl, rfl, rfl⟩
  by_cases hs : 0 ≤ s.Sstar
  · rw [if_pos hs]
    by_cases hl : 0 ≤ s.SL
    · rw [if_pos hl]
      apply same
      rw [sideFlux_plain true (by simpa using hl), plainFlux_eq_toro hrL]
    · rw [if_neg hl, if_pos hs]
      apply same
      rw [sideFlux_star true (by simpa using hl), starFlux_eq_toro hrL,
        sub_add_cancel]
  · rw [if_neg hs, if_neg (by intro h; exact hs (le_trans h h1)), if_neg hs]
    by_cases hr : 0 < s.SR
    · rw [if_pos hr.le]
      apply same
      rw [sideFlux_star false (by simpa using hr), starFlux_eq_toro hrR,
        sub_add_cancel]
    · apply same
      rw [sideFlux_plain false (by simpa using hr), plainFlux_eq_toro hrR]
      split_ifs with h0
      · have : s.SR = 0 := le_antisymm (not_lt.mp hr) h0
        rw [this, Toro.Fstar_zero_speed]
      · rfl

/-! ### a contact at rest; mirror-image states -/

theorem pstarEst_mirror_closing {rho P a v : ℝ} (hr : 0 < rho) (hP : 0 < P) (ha : 0 < a) (hv : 0 ≤ v) :
    (pstarEst rho P rho P (-v - v) (a + a)).1 = P + rho * v * a := by
  unfold pstarEst amax
  simp only [lit05, lit025, lit0]
  have e : 1 / 2 * (P + P - 1 / 4 * (-v - v) * (rho + rho) * (a + a)) = P + rho * v * a := by ring
  rw [e, if_pos (by positivity)]

theorem sq_lt_of_lt_three_halves {G M : ℝ} (hG : 1 < G) (h0 : 0 ≤ M) (h1 : M < 3 / 2) :
    M ^ 2 < 1 + (G + 1) / 2 * M := by
  -- `M² < M + 3/4 ≤ 1 + (γ+1)/2·M`; `3/2` is a rational below the bound `(1+√5)/2` at `γ → 1`
  have a1 : 0 < (3 / 2 - M) * (M + 1 / 2) := mul_pos (by linarith) (by linarith)
  have a2 : 0 ≤ (G - 1) * M := mul_nonneg (by linarith) h0
  linarith

/-- the left wave estimate of two mirror-image states, each moving towards the face with less than
1.5 sound speeds, still moves to the left -/
theorem mirror_speed_bound {G rho P a v : ℝ} (hG : 1 < G) (hr : 0 < rho) (hP : 0 < P) (ha : 0 < a)
    (ha2 : a * a = G * P * (1 / rho)) (hv : v < 3 / 2 * a) :
    v < a * qFac G P (1.0 / (P + 0)) (pstarEst rho P rho P (-v - v) (a + a)).1 := by
  rcases le_or_gt v 0 with hv0 | hv0
  · exact hv0.trans_lt (mul_pos ha (qFac_pos hG hP))
  · rw [pstarEst_mirror_closing hr hP ha hv0.le]
    have hlt : P < P + rho * v * a := by linarith [mul_pos (mul_pos hr hv0) ha]
    unfold qFac gp1d2g
    rw [if_pos hlt]
    simp only [sqrt_real, lit1, lit05, add_zero]
    -- with `ρ a² = γ P` the argument of the root is `1 + (γ+1)/2 · M`, `M = v/a`
    have e : 1 + 1 / 2 * (G + 1) / G * ((P + rho * v * a) * (1 / P) - 1)
        = 1 + (G + 1) / 2 * (v / a) := by
      have hρ : rho * (a * a) = G * P := by rw [ha2]; field_simp
      have hG0 : G ≠ 0 := by linarith
      field_simp
      linear_combination (v * (G + 1)) * hρ
    rw [e]
    have hM := sq_lt_of_lt_three_halves hG (div_nonneg hv0.le ha.le) ((div_lt_iff₀ ha).mpr hv)
    have := (Real.lt_sqrt (div_nonneg hv0.le ha.le)).mpr hM
    rwa [div_lt_iff₀ ha, mul_comm] at this

/-- wave estimates of two mirror-image states: symmetric outer waves, contact exactly at rest -/
theorem waves_mirror_states (G rho P a v Pi : ℝ) :
    let w := waves 0 G rho v P Pi a rho (-v) P Pi a (-v - v) (a + a)
    w.SLmvL = -a * qFac G P Pi (pstarEst rho P rho P (-v - v) (a + a)).1 ∧
    w.SRmvR = a * qFac G P Pi (pstarEst rho P rho P (-v - v) (a + a)).1 ∧ w.Sstar = 0 := by
  unfold waves
  refine ⟨rfl, rfl, ?_⟩
  unfold sStar
  simp only
  have : P - P + (rho * v * (-a * qFac G P Pi (pstarEst rho P rho P (-v - v) (a + a)).1)
      - rho * -v * (a * qFac G P Pi (pstarEst rho P rho P (-v - v) (a + a)).1)) = 0 := by ring
  rw [this, zero_div]

/-- HLLC path with the contact estimate exactly at rest and the left wave estimate moving to the left
of the face: no mass flux, and the energy flux is the work of the momentum flux on the moving face
(zero for a face at rest) -/
theorem mainFlux_contact_at_rest {G rL PL rLi PLi aL rR PR rRi PRi aR vdiff abar : ℝ}
    {f : FaceFrame ℝ} {n vf : V3 ℝ} (hrL : rL * rLi = 1) :
    let w := waves 0 G rL f.vL PL PLi aL rR f.vR PR PRi aR vdiff abar
    w.Sstar = 0 → w.SLmvL ≠ 0 → w.SLmvL + f.vL < 0 →
    (mainFlux 0 G rL PL rLi PLi aL rR PR rRi PRi aR vdiff abar f n vf).NoExchange vf := by
  dsimp only
  intro hS hK hSL
  unfold mainFlux
  simp only
  generalize waves 0 G rL f.vL PL PLi aL rR f.vR PR PRi aR vdiff abar = w at *
  rw [hS, lit0, if_pos (le_refl _), sideFlux_star true hSL,
    starFlux_at_zero G rL f.uLface f.vL PL rLi w.SLmvL n hrL hSL.ne hK]
  exact deboost_noExchange ..

theorem mainFlux_mirror_states {G rho P a v : ℝ} (ufL ufR n vf : V3 ℝ) (hG : 1 < G) (hr : 0 < rho)
    (hP : 0 < P) (ha : 0 < a) (ha2 : a * a = G * P * (1 / rho)) (hv : v < 3 / 2 * a) :
    (mainFlux 0 G rho P (1.0 / (rho + 0)) (1.0 / (P + 0)) a rho P (1.0 / (rho + 0)) (1.0 / (P + 0)) a
        (-v - v) (a + a) ⟨ufL, ufR, v, -v⟩ n vf).NoExchange vf := by
  obtain ⟨w1, _, w3⟩ := waves_mirror_states G rho P a v (1.0 / (P + 0))
  have hb := mirror_speed_bound hG hr hP ha ha2 hv
  refine mainFlux_contact_at_rest (mul_inv_tiny0 hr.ne') w3 (waves_SLmvL_neg hG hP ha).ne ?_
  rw [w1, neg_mul]; exact neg_add_lt_iff_lt_add.mpr (by rwa [add_zero])

/-- mirror-image states receding fast enough to generate vacuum: the face lies in the gap between
the two fronts, nothing crosses it -/
theorem vacuumFlux_mirror_states {G rho P a v : ℝ} (ufL ufR n vf : V3 ℝ) (hG : 1 < G) (ha : 0 < a)
    (hgen : tdgm1 G * (a + a) ≤ -v - v) :
    (vacuumFlux G rho P a false rho P a false ⟨ufL, ufR, v, -v⟩ n vf).NoExchange vf := by
  unfold vacuumFlux
  rw [vacuumSample_eq false false rfl]
  obtain ⟨h1, h2⟩ : (solveVacuum G rho v P a false rho (-v) P a false 0).rho = 0 ∧
      (solveVacuum G rho v P a false rho (-v) P a false 0).P = 0 :=
    sampleVacuumGeneration_gap hG rho v P rho (-v) P ha ha (by linarith) (by linarith)
  obtain ⟨a1, a2, a3⟩ := fluxFromSample_zero G _ ⟨ufL, ufR, v, -v⟩ n vf h1 h2
  unfold Flux.NoExchange
  rw [a1, a2, a3]; simp [V3.dot]

/-- mirror-image states closing so fast that the left wave estimate does not move to the left
(`v ≥ a q`): the code returns the plain upwind flux of the *left* state, mass flux `ρ v ≠ 0` -/
theorem mainFlux_mirror_fast {G rho P a v : ℝ} (ri Pi : ℝ) (ufL ufR n vf : V3 ℝ)
    (hfast : a * qFac G P Pi (pstarEst rho P rho P (-v - v) (a + a)).1 ≤ v) :
    (mainFlux 0 G rho P ri Pi a rho P ri Pi a (-v - v) (a + a) ⟨ufL, ufR, v, -v⟩ n vf).m
      = rho * v := by
  obtain ⟨w1, _, w3⟩ := waves_mirror_states G rho P a v Pi
  unfold mainFlux
  simp only [w3, lit0, le_refl, if_true]
  rw [sideFlux_plain true (by rw [w1]; simp only [if_true]; linarith)]
  rfl

end CMacVerif.HLLC
