/-
Helper lemmas for C09: little-endian round trip, exact reads, strings, std::map insertion,
primitive round trip, the limiter array.
-/
import CMacVerif.Model.RestartCodec

namespace CMacVerif.RestartCodec

theorem length_leBytes (w n : Nat) : (leBytes w n).length = w := by
  induction w generalizing n with
  | zero => rfl
  | succ w ih => simp [leBytes, ih]

theorem ofLE_leBytes (w n : Nat) (h : n < 256 ^ w) : ofLE (leBytes w n) = n := by
  induction w generalizing n with
  | zero => simp [leBytes, ofLE]; omega
  | succ w ih =>
    have h2 : n / 256 < 256 ^ w := by
      rw [Nat.div_lt_iff_lt_mul (by decide)]
      rw [Nat.pow_succ] at h; exact h
    simp only [leBytes, ofLE, ih _ h2]
    omega

theorem leBytes_lt (w n : Nat) : ∀ b ∈ leBytes w n, b < 256 := by
  induction w generalizing n with
  | zero => simp [leBytes]
  | succ w ih =>
    intro b hb
    simp only [leBytes, List.mem_cons] at hb
    rcases hb with rfl | hb
    · exact Nat.mod_lt _ (by decide)
    · exact ih _ b hb

theorem takeN_append (a t : Bytes) : takeN a.length (a ++ t) = some (a, t) := by
  induction a with
  | nil => simp [takeN]
  | cons b a ih => simp [takeN, ih]

theorem takeN_leBytes (w n : Nat) (t : Bytes) : takeN w (leBytes w n ++ t) = some (leBytes w n, t) := by
  have := takeN_append (leBytes w n) t
  rwa [length_leBytes] at this

theorem takeWhile_all {α : Type} (p : α → Bool) (l : List α) (h : l.all p = true) : l.takeWhile p = l := by
  induction l with
  | nil => rfl
  | cons a l ih =>
    simp only [List.all_cons, Bool.and_eq_true] at h
    simp [List.takeWhile, h.1, ih h.2]

theorem decStr_encStr (b t : Bytes) (h : validStr b = true) : decStr (encStr b ++ t) = some (b, t) := by
  simp only [validStr, Bool.and_eq_true, decide_eq_true_eq] at h
  unfold decStr encStr
  rw [List.append_assoc, takeN_leBytes]
  simp only
  have h64 : (2 : Nat) ^ 64 = 256 ^ 8 := by decide
  rw [ofLE_leBytes 8 b.length (by rw [← h64]; exact h.1), takeN_append]
  simp only
  rw [takeWhile_all _ _ h.2]

theorem ltBytes_asymm (a b : Bytes) (h : ltBytes a b = true) : ltBytes b a = false := by
  induction a generalizing b with
  | nil => cases b <;> rfl
  | cons x a ih =>
    cases b with
    | nil => cases h
    | cons y b =>
      simp only [ltBytes] at h ⊢
      rcases Nat.lt_trichotomy x y with hxy | rfl | hxy
      · rw [if_neg (Nat.lt_asymm hxy), if_pos hxy]
      · rw [if_neg (Nat.lt_irrefl x), if_neg (Nat.lt_irrefl x)] at h ⊢; exact ih b h
      · rw [if_neg (Nat.lt_asymm hxy), if_pos hxy] at h; cases h

theorem ltBytes_irrefl (a : Bytes) : ltBytes a a = false :=
  Bool.eq_false_iff.mpr fun h => Bool.false_ne_true ((ltBytes_asymm a a h).symm.trans h)

theorem ne_of_ltBytes (a b : Bytes) (h : ltBytes a b = true) : a ≠ b := by
  intro e; subst e; rw [ltBytes_irrefl] at h; exact Bool.noConfusion h

theorem ltBytes_of_allKeysLt_append {k' k v : Bytes} {a m : List (Bytes × Bytes)}
    (h : allKeysLt k' (a ++ (k, v) :: m) = true) : ltBytes k' k = true := by
  induction a with
  | nil => exact (Bool.and_eq_true _ _ ▸ h : _ ∧ _).1
  | cons p a ih => exact ih (Bool.and_eq_true _ _ ▸ h : _ ∧ _).2

/-- the reader does `map[k] = v` in file order, which is increasing: every insertion appends -/
theorem mapInsert_sorted {k v : Bytes} {acc m : List (Bytes × Bytes)}
    (h : sortedKeys (acc ++ (k, v) :: m) = true) : mapInsert k v acc = acc ++ [(k, v)] := by
  induction acc with
  | nil => rfl
  | cons p acc ih =>
    obtain ⟨k', v'⟩ := p
    simp only [List.cons_append, sortedKeys, Bool.and_eq_true] at h
    have hlt := ltBytes_of_allKeysLt_append h.1
    simp [mapInsert, ltBytes_asymm _ _ hlt, (ne_of_ltBytes _ _ hlt).symm, ih h.2]

/-- `acc` is the map read so far, `m` the pairs still in the file -/
theorem decPairs_encPairs (m acc : List (Bytes × Bytes)) (t : Bytes)
    (hv : validPairs m = true) (hs : sortedKeys (acc ++ m) = true) :
    decPairs m.length (encPairs m ++ t) acc = some (acc ++ m, t) := by
  induction m generalizing acc with
  | nil => simp [decPairs, encPairs]
  | cons p m ih =>
    obtain ⟨k, v⟩ := p
    simp only [validPairs, Bool.and_eq_true] at hv
    simp only [List.length_cons, decPairs, encPairs, List.append_assoc]
    rw [decStr_encStr k _ hv.1.1]
    simp only
    rw [decStr_encStr v _ hv.1.2]
    simp only
    rw [mapInsert_sorted hs, ih _ hv.2 (by rwa [List.append_assoc]), List.append_assoc]
    rfl

theorem decodePV_encodePV (p : Prim) (v : PV) (t : Bytes) (h : confPV p v = true) :
    decodePV p (encodePV p v ++ t) = some (v, t) := by
  cases p <;> cases v <;> simp only [confPV, Bool.false_eq_true] at h
  case int.nat w n =>
    simp only [decide_eq_true_eq] at h
    simp [encodePV, decodePV, takeN_leBytes, ofLE_leBytes w n h]
  case f64.nat n =>
    simp only [decide_eq_true_eq] at h
    simp [encodePV, decodePV, takeN_leBytes, ofLE_leBytes 8 n h]
  case bool.nat n =>
    simp only [decide_eq_true_eq] at h
    have : n = 0 ∨ n = 1 := by omega
    rcases this with rfl | rfl <;> simp [encodePV, decodePV, takeN, ofLE]
  case str.bytes b =>
    simp [encodePV, decodePV, decStr_encStr b t h]
  case raw.bytes w b =>
    simp only [decide_eq_true_eq] at h
    subst h
    simp [encodePV, decodePV, takeN_append]
  case smap.smap m =>
    simp only [Bool.and_eq_true, decide_eq_true_eq] at h
    simp only [encodePV, decodePV, List.append_assoc, takeN_leBytes,
      ofLE_leBytes 8 m.length h.1.1, decPairs_encPairs m [] t h.1.2 h.2, List.nil_append]

theorem resetCells_spec (a : Nat → Lim) (n idx : Nat) :
    resetCells a n idx = if idx < 10 * n then limCtor idx else a idx := by
  induction n with
  | zero => rw [resetCells, if_neg (by omega)]
  | succ n ih =>
    rw [resetCells, resetCell, ih]
    by_cases h1 : 10 * n ≤ idx ∧ idx < 10 * n + 10
    · have e : (idx - 10 * n) % 2 = idx % 2 := by omega
      rw [if_pos h1, e, if_pos (show idx < 10 * (n + 1) by omega)]
      rfl
    · rw [if_neg h1]
      by_cases h2 : idx < 10 * n
      · rw [if_pos h2, if_pos (show idx < 10 * (n + 1) by omega)]
      · rw [if_neg h2, if_neg (show ¬ idx < 10 * (n + 1) by omega)]

theorem resetCells_lt (a : Nat → Lim) {n idx : Nat} (h : idx < 10 * n) : resetCells a n idx = limCtor idx := by
  rw [resetCells_spec, if_pos h]

end CMacVerif.RestartCodec
