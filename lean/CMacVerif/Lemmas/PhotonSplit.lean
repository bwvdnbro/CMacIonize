import CMacVerif.Model.PhotonProtocol
import Mathlib.Tactic.SplitIfs
/-! C01: the split of the requested packet number by `DistributedPhotonSource` (constructor and
`get_photon_batch`) is exact. -/
namespace CMacVerif.Photon

theorem perCopy_prefix_sum (q r n : Nat) : ((List.range n).map fun i => q + if i < r then 1 else 0).sum = n * q + min n r := by
  induction n with
  | zero => rw [Nat.zero_mul, Nat.zero_min]; rfl
  | succ n ih =>
    rw [List.range_succ, List.map_append, List.sum_append, ih, Nat.succ_mul]
    show n * q + min n r + (q + if n < r then 1 else 0) = _
    by_cases h : n < r
    · rw [if_pos h, Nat.min_eq_left (Nat.le_of_lt h), Nat.min_eq_left h]; omega
    · rw [if_neg h, Nat.min_eq_right (Nat.le_of_not_lt h), Nat.min_eq_right (by omega)]; omega

/-- the copies of one source get `number_this_source` packets in total -/
theorem perCopy_sum (nThis ncopy : Nat) (h : 0 < ncopy) : (perCopy nThis ncopy).sum = nThis := by
  rw [perCopy, perCopy_prefix_sum, Nat.min_eq_right (Nat.le_of_lt (Nat.mod_lt _ h))]
  exact Nat.div_add_mod nThis ncopy

theorem perCopy_length (nThis ncopy : Nat) : (perCopy nThis ncopy).length = ncopy := by simp [perCopy]

def sumFst (l : List (Nat × Nat)) : Nat := (l.map (·.1)).sum

theorem splitLoop_spec : ∀ (srcs : List (Nat × Nat)) (tot ovh : List Nat),
    (∀ p ∈ srcs, 0 < p.2) → (∀ o ∈ ovh, o < tot.length) →
    (splitLoop srcs (tot, ovh)).1.sum = tot.sum + sumFst srcs ∧
    (∀ o ∈ (splitLoop srcs (tot, ovh)).2, o < (splitLoop srcs (tot, ovh)).1.length) ∧
    tot.length + srcs.length ≤ (splitLoop srcs (tot, ovh)).1.length := by
  intro srcs
  induction srcs with
  | nil => exact fun tot ovh _ ho => ⟨rfl, ho, Nat.le_refl _⟩
  | cons p rest ih =>
    intro tot ovh hp ho
    obtain ⟨nThis, ncopy⟩ := p
    have hc : 0 < ncopy := hp (nThis, ncopy) List.mem_cons_self
    have happ : (tot ++ perCopy nThis ncopy).length = tot.length + ncopy := by
      rw [List.length_append, perCopy_length]
    obtain ⟨hsum, hovh, hlen⟩ := ih (tot ++ perCopy nThis ncopy) (ovh ++ [tot.length + nThis % ncopy])
      (fun q hq => hp q (List.mem_cons_of_mem _ hq))
      (by
        intro o ho'
        rw [happ]
        rcases List.mem_append.mp ho' with h | h
        · exact Nat.lt_add_right _ (ho o h)
        · rw [List.mem_singleton.mp h]; exact Nat.add_lt_add_left (Nat.mod_lt _ hc) _)
    rw [List.sum_append, perCopy_sum _ _ hc] at hsum
    rw [happ] at hlen
    rw [splitLoop]
    refine ⟨?_, hovh, ?_⟩
    · rw [hsum, Nat.add_assoc]; rfl
    · rw [List.length_cons]; omega

theorem splitLoop_length : ∀ (srcs : List (Nat × Nat)) (tot ovh : List Nat),
    (splitLoop srcs (tot, ovh)).1.length = tot.length + (srcs.map Prod.snd).sum := by
  intro srcs
  induction srcs with
  | nil => intro tot ovh; rfl
  | cons p rest ih =>
    intro tot ovh
    obtain ⟨q, c⟩ := p
    rw [splitLoop, ih, List.length_append, perCopy_length, List.map_cons, List.sum_cons,
      Nat.add_assoc]

theorem bump_sum (l : List Nat) (k : Nat) (h : k < l.length) : (bump l k).sum = l.sum + 1 := by
  rw [bump, List.modify_eq_take_cons_drop h]
  conv => rhs; rw [← List.take_append_drop k l, List.drop_eq_getElem_cons h]
  simp only [List.sum_append, List.sum_cons]
  omega

theorem bump_length (l : List Nat) (k : Nat) : (bump l k).length = l.length := by simp [bump]

theorem applyPicks_length (ovh : List Nat) : ∀ (picks tot : List Nat),
    (applyPicks tot ovh picks).length = tot.length := by
  intro picks
  induction picks with
  | nil => intro tot; rfl
  | cons p ps ih => intro tot; rw [applyPicks, ih, bump_length]

theorem applyPicks_sum (ovh : List Nat) : ∀ (picks tot : List Nat), 0 < tot.length → (∀ o ∈ ovh, o < tot.length) →
    (applyPicks tot ovh picks).sum = tot.sum + picks.length := by
  intro picks
  induction picks with
  | nil => exact fun tot _ _ => rfl
  | cons p ps ih =>
    intro tot ht ho
    have hidx : ovh.getD p 0 < tot.length := by
      rw [List.getD_eq_getElem?_getD]
      cases h : ovh[p]? with
      | none => exact ht
      | some o => exact ho o (List.mem_of_getElem? h)
    rw [applyPicks, ih _ (by rw [bump_length]; exact ht) (by rw [bump_length]; exact ho), bump_sum _ _ hidx, List.length_cons]
    omega

theorem batches_spec (max : Nat) (hmax : 0 < max) : ∀ (fuel left : Nat), left ≤ fuel →
    (batches max fuel left).sum = left ∧ ∀ b ∈ batches max fuel left, 1 ≤ b ∧ b ≤ max := by
  intro fuel
  induction fuel with
  | zero =>
    intro left h
    rw [Nat.le_zero.mp h]
    exact ⟨rfl, fun _ hb => absurd hb List.not_mem_nil⟩
  | succ fuel ih =>
    intro left h
    rw [batches]
    split_ifs with h0
    · rw [h0.resolve_right (Nat.ne_of_gt hmax)]
      exact ⟨rfl, fun _ hb => absurd hb List.not_mem_nil⟩
    · have hl : 0 < left := Nat.pos_of_ne_zero fun e => h0 (Or.inl e)
      have hm1 : 1 ≤ min max left := Nat.le_min.mpr ⟨hmax, hl⟩
      obtain ⟨h1, h2⟩ := ih (left - min max left) (by omega)
      refine ⟨?_, List.forall_mem_cons.mpr ⟨⟨hm1, Nat.min_le_left _ _⟩, h2⟩⟩
      rw [List.sum_cons, h1]
      exact Nat.add_sub_cancel' (Nat.min_le_right _ _)

end CMacVerif.Photon
