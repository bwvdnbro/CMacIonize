import CMacVerif.Lemmas.PhotonTrav
/-! C01: what every state reachable from a start state satisfies (`Reach`), and what is left once all requested packets are
terminated (`AllDone`: nothing but packet-free flush tasks and finishing continuous source tasks).  For the worker loop:
what a label does to the slots of the task table (`Delta`, `commit_tasks`, `create_tasks`). -/
namespace CMacVerif.Photon
open CMacVerif.Worker (sumOver sumOver_congr sumOver_le sumOver_zero sumOver_mono)

theorem step_done_run {cfg : Cfg} {s s' : State} (l : Label) (h : step cfg s l = some s') :
    (∃ x, s'.done = s.done ++ x) ∧ (s'.run = s.run ∨ (s'.run = false ∧ s'.done = s.done ∧ s.done.length = cfg.N)) := by
  have same : ∀ {s1 : State}, s1.done = s.done → s1.run = s.run → (∃ x, s1.done = s.done ++ x) ∧
      (s1.run = s.run ∨ (s1.run = false ∧ s1.done = s.done ∧ s.done.length = cfg.N)) :=
    fun hd hr => ⟨⟨[], by rw [hd, List.append_nil]⟩, Or.inl hr⟩
  cases l with
  | launchBatch src t => obtain ⟨rfl, -⟩ := step_launchBatch h; exact same rfl rfl
  | launchCont t => obtain ⟨rfl, -⟩ := step_launchCont h; exact same rfl rfl
  | acquire t => obtain ⟨_, _, _, rfl⟩ := step_acquire h; exact same rfl rfl
  | enqueue t => obtain ⟨_, _, rfl⟩ := step_enqueue h; exact same rfl rfl
  | execSource t b t' => obtain ⟨_, _, rfl, -⟩ := step_execSource h; exact same rfl rfl
  | contGen t g k => obtain ⟨_, _, _, rfl, -⟩ := step_contGen h; exact same rfl rfl
  | contOverflow t g b t' | flushOne t g b t' => obtain ⟨_, _, rfl, -⟩ := step_sendOff t g b t' (by simp) h; exact same rfl rfl
  | contFinish t fl =>
    obtain ⟨c, n, s2, _, _, _, rfl, hfr, _⟩ := step_contFinish h
    exact same hfr.rest.done hfr.rest.run
  | flushFinish t => obtain ⟨_, _, _, rfl⟩ := step_flushFinish h; exact same rfl rfl
  | execTraverse t fates res =>
    obtain ⟨b0, buf, s1, li, ls, _, _, _, _, hfold, rfl⟩ := step_execTraverse h
    have hr : SameOther s s1 := (travFold_frame _ _ _ hfold).rest
    exact ⟨⟨_, congrArg (· ++ _) hr.done⟩, Or.inl hr.run⟩
  | execReemit t keep t' =>
    obtain ⟨_, _, _, _, _, hcase⟩ := step_execReemit h
    rcases hcase with ⟨_, rfl⟩ | ⟨_, _, _, rfl⟩
    · exact ⟨⟨_, rfl⟩, Or.inl rfl⟩
    · exact ⟨⟨_, rfl⟩, Or.inl rfl⟩
  | premature g t' => obtain ⟨_, rfl, -⟩ := step_premature h; exact same rfl rfl
  | checkTermination =>
    obtain ⟨_, hd, rfl⟩ := step_checkTermination h
    exact ⟨⟨[], (List.append_nil _).symm⟩, Or.inr ⟨rfl, rfl, hd⟩⟩

/-- slot `u` is unchanged, or it was free and now holds a task that is not running; a pending task is only
created by a commit that ends its task (`fin`), so its creator is then in state `post` -/
inductive Delta (s s' : State) (fin : Bool) (u : Nat) : Prop where
  | same (h : s'.tasks u = s.tasks u)
  | new (h0 : s.tasks u = none) (k : Kind) (st : TSt) (h1 : s'.tasks u = some ⟨k, st⟩) (hst : st ≠ .running)
      (hp : st = .pending → fin = true)

theorem kindBuf_flush_none {k : Kind} (h : (kindBuf k).isSome = true) : ∀ c, k ≠ .flush c := by
  intro c e; subst e; simp at h

theorem delta_new {s s' : State} {fin : Bool} {t' u : Nat} {k : Kind} {st : TSt} (hf : s.tasks t' = none)
    (hst : st ≠ .running) (hp : st = .pending → fin = true) (h : s'.tasks u = upd s.tasks t' (some ⟨k, st⟩) u) :
    Delta s s' fin u := by
  by_cases e : u = t'
  · subst e; exact .new hf k st (by rw [h, upd_same]) hst hp
  · exact .same (by rw [h, upd_other _ _ _ e])

theorem commit_tasks {cfg : Cfg} {s s' : State} {l : Label} {t0 : Nat} {fin : Bool}
    (h : step cfg s l = some s') (hw : workInfo l = some (t0, fin)) :
    (fin = true → s'.tasks t0 = none) ∧ (fin = false → ∃ k, s'.tasks t0 = some ⟨k, .running⟩) ∧
    ∀ u, u ≠ t0 → Delta s s' fin u := by
  cases l with
  | execSource t b t' =>
    cases hw
    obtain ⟨src, ids, rfl, _, _, _, _, htt'⟩ := step_execSource h
    exact ⟨fun _ => upd_same _ _ _, nofun,
      fun u hu => delta_new htt' (by decide) (fun _ => rfl) (upd_other _ _ _ hu)⟩
  | contGen t g k =>
    cases hw
    obtain ⟨c, n, ids, rfl, -⟩ := step_contGen h
    exact ⟨nofun, fun _ => ⟨_, upd_same _ _ _⟩, fun u hu => .same (upd_other _ _ _ hu)⟩
  | contOverflow t g b t' | flushOne t g b t' =>
    cases hw
    obtain ⟨c, _, rfl, hk, _, _, _, _, _, htt'⟩ := step_sendOff t0 g b t' (by simp) h
    exact ⟨nofun, fun _ => ⟨_, upd_keep hk (htt' ▸ nofun) _⟩, fun u _ => delta_new (st := .queued) htt' nofun nofun rfl⟩
  | flushFinish t =>
    cases hw
    obtain ⟨c, _, _, rfl⟩ := step_flushFinish h
    exact ⟨fun _ => upd_same _ _ _, nofun, fun u hu => .same (upd_other _ _ _ hu)⟩
  | contFinish t fl =>
    cases hw
    obtain ⟨c, n, s2, _, _, _, rfl, hfr, _⟩ := step_contFinish h
    refine ⟨fun _ => upd_same _ _ _, nofun, fun u hu => ?_⟩
    rcases hfr.tasks u with e | ⟨e0, _, c', _, e1⟩
    · exact .same ((upd_other _ _ _ hu).trans e)
    · exact .new e0 _ _ ((upd_other _ _ _ hu).trans e1) nofun (fun _ => rfl)
  | execReemit t keep t' =>
    cases hw
    obtain ⟨b, buf, _, _, _, hcase⟩ := step_execReemit h
    rcases hcase with ⟨_, rfl⟩ | ⟨_, _, htt', rfl⟩
    · exact ⟨fun _ => upd_same _ _ _, nofun, fun u hu => .same (upd_other _ _ _ hu)⟩
    · exact ⟨fun _ => upd_same _ _ _, nofun,
        fun u hu => delta_new htt' (by decide) (fun _ => rfl) (upd_other _ _ _ hu)⟩
  | execTraverse t fates res =>
    cases hw
    obtain ⟨b0, buf, s1, li, ls, _, _, _, _, hfold, rfl⟩ := step_execTraverse h
    have hft : TravFrame s s1 := travFold_frame _ _ _ hfold
    refine ⟨fun _ => upd_same _ _ _, nofun, fun u hu => ?_⟩
    rcases hft.tasks u with e | ⟨e0, k, e1, _⟩
    · exact .same ((upd_other _ _ _ hu).trans e)
    · exact .new e0 _ _ ((upd_other _ _ _ hu).trans e1) nofun (fun _ => rfl)
  | _ => cases hw

/-- the labels that belong to no task in the table: task creation by the main thread, premature launch -/
def IsCreate : Label → Prop
  | .launchBatch _ _ | .launchCont _ | .premature _ _ => True
  | _ => False

theorem create_tasks {cfg : Cfg} {s s' : State} {l : Label} (h : step cfg s l = some s') (hl : IsCreate l) :
    ∃ t' k, s.tasks t' = none ∧ s'.tasks = upd s.tasks t' (some ⟨k, .queued⟩) ∧ ∀ c, k ≠ .flush c := by
  cases l with
  | launchBatch a b =>
    obtain ⟨rfl, _, _, _, hf⟩ := step_launchBatch h
    exact ⟨_, _, hf, rfl, nofun⟩
  | launchCont a =>
    obtain ⟨rfl, _, _, hf, -⟩ := step_launchCont h
    exact ⟨_, _, hf, rfl, nofun⟩
  | premature a b =>
    obtain ⟨bb, rfl, _, _, _, _, hf, -⟩ := step_premature h
    exact ⟨_, _, hf, rfl, kindBuf_flush_none (by rw [fullKind_buf]; rfl)⟩
  | _ => exact hl.elim

theorem weight_one (cfg : Cfg) (s : State) :
    weight cfg (fun _ => 1) s = s.done.length + sumOver (List.range cfg.nsrc) (fun i => (s.srcLeft i).length)
      + s.contPool.length + sumOver (List.range cfg.taskCap) (fun t => taskW (fun _ => 1) (s.tasks t))
      + sumOver (List.range cfg.bufCap) (fun b => bufLen s.pool b)
      + sumOver (pairsU cfg) (fun k => (s.cont k).length) := by
  simp only [weight, wsum_one, bufW_one]

/-- everything except the terminated packets -/
def restWeight (cfg : Cfg) (w : Nat → Nat) (s : State) : Nat :=
  sumOver (List.range cfg.nsrc) (fun i => wsum w (s.srcLeft i)) + wsum w s.contPool
    + sumOver (List.range cfg.taskCap) (fun t => taskW w (s.tasks t))
    + sumOver (List.range cfg.bufCap) (fun b => bufW w (s.pool b))
    + sumOver (pairsU cfg) (fun k => wsum w (s.cont k))

theorem weight_split (cfg : Cfg) (w : Nat → Nat) (s : State) : weight cfg w s = wsum w s.done + restWeight cfg w s := by
  simp only [weight, restWeight]; omega

theorem restWeight_mono (cfg : Cfg) (w w' : Nat → Nat) (h : ∀ x, w x ≤ w' x) (s : State) :
    restWeight cfg w s ≤ restWeight cfg w' s := by
  unfold restWeight
  refine Nat.add_le_add (Nat.add_le_add (Nat.add_le_add (Nat.add_le_add ?_ (wsum_le h)) ?_) ?_) ?_
  · exact sumOver_mono fun _ _ => wsum_le h
  · refine sumOver_mono fun t _ => ?_
    rw [taskW_ids, taskW_ids]
    exact wsum_le h
  · refine sumOver_mono fun b _ => ?_
    cases s.pool b with
    | none => exact Nat.le_refl 0
    | some buf => exact wsum_le h
  · exact sumOver_mono fun _ _ => wsum_le h

/-- what a state looks like once all requested packets are terminated -/
structure AllDone (cfg : Cfg) (s : State) : Prop where
  pool : ∀ b, s.pool b = none
  active : ∀ g i, s.active g i = none
  cont : ∀ k, s.cont k = []
  src : ∀ i, i < cfg.nsrc → s.srcLeft i = []
  contPool : s.contPool = []
  /-- the only tasks that can still exist carry no packets: flush tasks, and continuous source tasks
  between their last packet and the update of the counter -/
  tasks : ∀ t tk, s.tasks t = some tk → (∃ c, tk.kind = .flush c) ∨ (∃ c n, tk.kind = .contSource c n [] ∧ tk.st = .running)

theorem allDone_of_rest {cfg : Cfg} {s : State} (hi : Inv cfg s) (h0 : restWeight cfg (fun _ => 1) s = 0) : AllDone cfg s := by
  simp only [restWeight, Nat.add_eq_zero_iff] at h0
  obtain ⟨⟨⟨⟨z1, z2⟩, z3⟩, z4⟩, z5⟩ := h0
  have nil : ∀ {l : List Nat}, wsum (fun _ => 1) l = 0 → l = [] := fun h =>
    List.length_eq_zero_iff.mp (wsum_one _ ▸ h)
  have hpool : ∀ b, s.pool b = none := by
    intro b
    cases hb : s.pool b with
    | none => rfl
    | some buf =>
      -- a buffer in use has a reference, which requires it to be non-empty
      obtain ⟨hcap, r, hr⟩ := hi.own.owned b buf hb
      obtain ⟨buf', hb', hok⟩ := hi.own.live r b hr
      have hz := sumOver_zero z4 b (List.mem_range.mpr hcap)
      rw [hb] at hb' hz; injection hb' with hb'; subst hb'
      have hne : buf.ids ≠ [] := by cases r <;> exact hok.1
      exact absurd (nil hz) hne
  have href : ∀ r b, refBuf s r ≠ some b := fun r b hr => by
    obtain ⟨_, hb, _⟩ := hi.own.live r b hr
    rw [hpool b] at hb; cases hb
  refine ⟨hpool, fun g i => ?_, fun k => ?_, fun i hi' => nil (sumOver_zero z1 i (List.mem_range.mpr hi')), nil z2,
    fun t tk ht => ?_⟩
  · exact Option.eq_none_iff_forall_ne_some.mpr (href (.act g i))
  · by_cases hk : s.cont k = []
    · exact hk
    · exact nil (sumOver_zero z5 k (hi.ct.idx k hk))
  · obtain ⟨hcap, hgood⟩ := hi.tk t tk ht
    have hz := sumOver_zero z3 t (List.mem_range.mpr hcap)
    rw [ht] at hz
    obtain ⟨k, st⟩ := tk
    cases k with
    | source a ids => exact absurd (nil hz) hgood.1
    | contSource c n ids =>
      cases nil hz
      exact Or.inr ⟨c, n, rfl, Classical.not_not.mp fun hst => hgood.2.2 hst rfl⟩
    | traverse b | reemit b => exact absurd (refBuf_task_some ht) (href _ b)
    | flush c => exact Or.inl ⟨c, rfl⟩

/-- what every state reachable from `s0` satisfies (`reach_step`) -/
structure Reach (cfg : Cfg) (s0 s : State) : Prop where
  inv : Inv cfg s
  wt : ∀ w, weight cfg w s = weight cfg w s0
  flag : s.run = false → s.done.length = weight cfg (fun _ => 1) s0

theorem Reach.split {cfg : Cfg} {s0 s : State} (hr : Reach cfg s0 s) :
    s.done.length + restWeight cfg (fun _ => 1) s = weight cfg (fun _ => 1) s0 := by
  rw [← hr.wt, weight_split, wsum_one]

theorem reach_step {cfg : Cfg} {s0 s s' : State} (l : Label) (hN : weight cfg (fun _ => 1) s0 = cfg.N)
    (hr : Reach cfg s0 s) (h : step cfg s l = some s') : Reach cfg s0 s' := by
  obtain ⟨hi', hw'⟩ := step_inv l hr.inv h
  refine ⟨hi', fun w => (hw' w).trans (hr.wt w), fun hrun => ?_⟩
  obtain ⟨⟨x, hx⟩, hflag⟩ := step_done_run l h
  have hle : s'.done.length ≤ weight cfg (fun _ => 1) s0 := by
    rw [← hr.wt, ← hw', weight_split, wsum_one]; exact Nat.le_add_right _ _
  rcases hflag with e | ⟨_, e2, e3⟩
  · rw [hrun] at e
    have := hr.flag e.symm
    rw [hx, List.length_append] at hle ⊢
    omega
  · rw [e2, e3, hN]

theorem reach_init (cfg : Cfg) (srcIds : Nat → List Nat) (contIds : List Nat) :
    Reach cfg (init srcIds contIds) (init srcIds contIds) :=
  ⟨init_inv cfg srcIds contIds, fun _ => rfl, fun h => by simp [init] at h⟩

theorem reach_allDone {cfg : Cfg} {s0 s : State} (hr : Reach cfg s0 s)
    (hd : s.done.length = weight cfg (fun _ => 1) s0) : AllDone cfg s := by
  apply allDone_of_rest hr.inv
  have := hr.split
  omega

end CMacVerif.Photon
