import CMacVerif.Lemmas.Atomics
import CMacVerif.Lemmas.AtomicsStep
/-!
C08 lemmas: a transition of a call stays with its container (`PC.part`) until it returns and leaves
the other containers alone (`exec_frame`); `exec_cases` and its two refinements (a transition of a pool
or `ThreadLock` call given by its rule, the latter with its label) are how the one-step lemmas of the
invariants look at a transition, `iter_pool` / `Reach.sched` how a solo run takes one (the pool's on `iter`, because
`slot_released` and `wraparound` bound the number of transitions).
-/
namespace CMacVerif.Atomics

/-- `(m, th)` with what belongs to container `p` (and the program counter and the results) taken from `r` -/
def keep (p : Part) (m : Mem) (th : Thread) (r : Mem × Thread) : Mem × Thread :=
  match p with
  | .pool =>
    ({ m with flags := r.1.flags, cur := r.1.cur, taken := r.1.taken, maxTaken := r.1.maxTaken,
              totalTaken := r.1.totalTaken, count := r.1.count },
     { th with pc := r.2.pc, res := r.2.res, owned := r.2.owned, inj := r.2.inj, disc := r.2.disc,
               lost := r.2.lost })
  | .sched =>
    ({ m with locks := r.1.locks, items := r.1.items, unf := r.1.unf, num := r.1.num },
     { th with pc := r.2.pc, res := r.2.res, held := r.2.held, tasks := r.2.tasks, fin := r.2.fin,
               addLog := r.2.addLog, popLog := r.2.popLog })
  | .max => ({ m with mx := r.1.mx }, { th with pc := r.2.pc, res := r.2.res })
  | .ctr => ({ m with ctr := r.1.ctr }, { th with pc := r.2.pc, res := r.2.res })

theorem PoolStep.frame {cfg : Cfg} {m : Mem} {th : Thread} {pc : PC} {r : Mem × Thread} (hs : PoolStep cfg m th pc r) :
    r = keep .pool m th r ∧ (r.2.pc.part = some .pool ∨ r.2.pc = .idle) := by
  cases hs
  case handOut j r => cases r <;> exact ⟨rfl, by first | exact Or.inr rfl | exact Or.inl rfl⟩
  all_goals exact ⟨rfl, by first | exact Or.inr rfl | exact Or.inl rfl⟩

theorem SchedStep.frame {cfg : Cfg} {m : Mem} {th : Thread} {pc : PC} {l : Option Spec.Label} {r : Mem × Thread}
    (hs : SchedStep cfg m th pc l r) :
    r = keep .sched m th r ∧ (r.2.pc.part = some .sched ∨ r.2.pc = .idle) := by
  -- `tlSucc` and `tlFail` compute once the calling context is known
  cases hs <;> first
    | exact ⟨rfl, by first | exact Or.inr rfl | exact Or.inl rfl⟩
    | (cases ‹Ctx› <;> exact ⟨rfl, by first | exact Or.inr rfl | exact Or.inl rfl⟩)

/-- **frame**: a transition of a call on container `p` changes only what belongs to `p`, and the
call stays with `p` until it returns -/
theorem exec_frame (cfg : Cfg) (m : Mem) (th : Thread) (p : Part) (h : th.pc.part = some p) :
    exec cfg m th = keep p m th (exec cfg m th) ∧
    ((exec cfg m th).2.pc.part = some p ∨ (exec cfg m th).2.pc = .idle) := by
  cases p with
  | pool => exact (exec_poolStep cfg m th h).frame
  | sched => exact (exec_schedStep cfg m th h).frame
  | _ =>
    -- at these program counters every branch of `exec` writes `mx` resp. `ctr`, the program counter and the results only
    obtain ⟨pc⟩ := th
    cases pc <;> cases h <;> simp only [exec] <;> (repeat' split) <;>
      exact ⟨rfl, by first | exact Or.inr rfl | exact Or.inl rfl⟩

theorem PC.part_eq_none (pc : PC) (h : pc.part = none) : pc = .idle := by
  cases pc <;> first | rfl | cases h

theorem exec_part_ne (cfg : Cfg) (m : Mem) (th : Thread) (p q : Part) (h : th.pc.part = some p)
    (hq : p ≠ q) : (exec cfg m th).2.pc.part ≠ some q := by
  rcases (exec_frame cfg m th p h).2 with h' | h' <;> rw [h']
  · exact fun e => hq (Option.some.inj e)
  · nofun

theorem exec_prog (cfg : Cfg) (m : Mem) (th : Thread) (p : Part) (h : th.pc.part = some p) :
    (exec cfg m th).2.prog = th.prog := by
  rw [(exec_frame cfg m th p h).1]; cases p <;> rfl

/-- a call on container `p` leaves what belongs to another container `q` as it was -/
theorem exec_keep_other (cfg : Cfg) (m : Mem) (th : Thread) {p : Part} (q : Part) (h : th.pc.part = some p)
    (hq : p ≠ q) :
    keep q m th (exec cfg m th) = (m, { th with pc := (exec cfg m th).2.pc, res := (exec cfg m th).2.res }) := by
  rw [(exec_frame cfg m th p h).1]; cases p <;> cases q <;> first | rfl | exact absurd rfl hq

theorem exec_mx_frame (cfg : Cfg) (m : Mem) (th : Thread) (p : Part) (h : th.pc.part = some p)
    (hp : p ≠ .max) : (exec cfg m th).1.mx = m.mx :=
  congrArg (·.1.mx) (exec_keep_other cfg m th .max h hp)

theorem exec_ctr_frame (cfg : Cfg) (m : Mem) (th : Thread) (p : Part) (h : th.pc.part = some p)
    (hp : p ≠ .ctr) : (exec cfg m th).1.ctr = m.ctr :=
  congrArg (·.1.ctr) (exec_keep_other cfg m th .ctr h hp)

/-- what a call on another container leaves of the slot pool, as far as the pool invariants look at it -/
structure PoolSame (m : Mem) (th : Thread) (r : Mem × Thread) : Prop where
  flags : r.1.flags = m.flags
  taken : r.1.taken = m.taken
  maxTaken : r.1.maxTaken = m.maxTaken
  count : r.1.count = m.count
  owned : r.2.owned = th.owned
  inj : r.2.inj = th.inj
  disc : r.2.disc = th.disc
  lost : r.2.lost = th.lost
  prog : r.2.prog = th.prog

/-- what a call on another container leaves of the `ThreadLock` container, as far as its invariants look at it -/
structure SchedSame (m : Mem) (th : Thread) (r : Mem × Thread) : Prop where
  locks : r.1.locks = m.locks
  items : r.1.items = m.items
  unf : r.1.unf = m.unf
  num : r.1.num = m.num
  held : r.2.held = th.held
  tasks : r.2.tasks = th.tasks
  fin : r.2.fin = th.fin
  addLog : r.2.addLog = th.addLog
  popLog : r.2.popLog = th.popLog
  prog : r.2.prog = th.prog

theorem exec_pool_frame (cfg : Cfg) (m : Mem) (th : Thread) (p : Part) (h : th.pc.part = some p)
    (hp : p ≠ .pool) : PoolSame m th (exec cfg m th) :=
  have he := exec_keep_other cfg m th .pool h hp
  ⟨congrArg (·.1.flags) he, congrArg (·.1.taken) he, congrArg (·.1.maxTaken) he, congrArg (·.1.count) he,
    congrArg (·.2.owned) he, congrArg (·.2.inj) he, congrArg (·.2.disc) he, congrArg (·.2.lost) he,
    exec_prog cfg m th p h⟩

theorem exec_sched_frame (cfg : Cfg) (m : Mem) (th : Thread) (p : Part) (h : th.pc.part = some p)
    (hp : p ≠ .sched) : SchedSame m th (exec cfg m th) :=
  have he := exec_keep_other cfg m th .sched h hp
  ⟨congrArg (·.1.locks) he, congrArg (·.1.items) he, congrArg (·.1.unf) he, congrArg (·.1.num) he,
    congrArg (·.2.held) he, congrArg (·.2.tasks) he, congrArg (·.2.fin) he, congrArg (·.2.addLog) he,
    congrArg (·.2.popLog) he, exec_prog cfg m th p h⟩

theorem dispatch_frame (cfg : Cfg) (th : Thread) (c : Cmd) :
    dispatch cfg th c = { dispatch cfg th c with prog := th.prog, addLog := th.addLog, popLog := th.popLog,
                                                 inj := th.inj, disc := th.disc, lost := th.lost } := by
  cases c <;> simp only [dispatch] <;> (repeat' split) <;> rfl

@[elab_as_elim]
theorem exec_cases (cfg : Cfg) (m : Mem) (th : Thread) (p : Part) {motive : Mem × Thread → Prop}
    (nil : th.pc = .idle → th.prog = [] → motive (m, th))
    (disp : ∀ c rest, th.pc = .idle → th.prog = c :: rest →
      motive (m, dispatch cfg { th with prog := rest } c))
    (own : th.pc.part = some p → motive (exec cfg m th))
    (other : ∀ q, q ≠ p → th.pc.part = some q → th.pc.part ≠ some p →
      (exec cfg m th).2.pc.part ≠ some p → motive (exec cfg m th)) :
    motive (exec cfg m th) := by
  cases hp : th.pc.part with
  | none =>
    have hpc := PC.part_eq_none _ hp
    unfold exec; rw [hpc]
    cases hprog : th.prog with
    | nil => exact nil hpc hprog
    | cons c rest => exact disp c rest hpc hprog
  | some q =>
    by_cases hq : q = p
    · exact own (hq ▸ hp)
    · exact other q hq hp (by rw [hp]; exact fun e => hq (Option.some.inj e)) (exec_part_ne cfg m th q p hp hq)

@[elab_as_elim]
theorem exec_pool_cases (cfg : Cfg) (m : Mem) (th : Thread) {motive : Mem × Thread → Prop}
    (nil : th.pc = .idle → th.prog = [] → motive (m, th))
    (disp : ∀ c rest, th.pc = .idle → th.prog = c :: rest →
      motive (m, dispatch cfg { th with prog := rest } c))
    (own : ∀ loc pc r, th = { loc with pc := pc } → PoolStep cfg m loc pc r → motive r)
    (other : PoolSame m th (exec cfg m th) → th.pc.part ≠ some .pool →
      (exec cfg m th).2.pc.part ≠ some .pool → motive (exec cfg m th)) :
    motive (exec cfg m th) :=
  exec_cases cfg m th .pool nil disp (fun hp => own th th.pc _ rfl (exec_poolStep cfg m th hp))
    fun q hq hp => other (exec_pool_frame cfg m th q hp hq)

theorem lab_of_part (cfg : Cfg) (m : Mem) (th : Thread) (h : th.pc.part ≠ some .sched) :
    lab cfg m th = none := by
  obtain ⟨pc⟩ := th
  cases pc <;> first | rfl | exact absurd rfl h

@[elab_as_elim]
theorem exec_sched_cases (cfg : Cfg) (m : Mem) (th : Thread) {motive : Option Spec.Label → Mem × Thread → Prop}
    (nil : th.pc = .idle → th.prog = [] → motive none (m, th))
    (disp : ∀ c rest, th.pc = .idle → th.prog = c :: rest →
      motive none (m, dispatch cfg { th with prog := rest } c))
    (own : ∀ loc pc l r, th = { loc with pc := pc } → SchedStep cfg m loc pc l r → motive l r)
    (other : SchedSame m th (exec cfg m th) → th.pc.part ≠ some .sched →
      (exec cfg m th).2.pc.part ≠ some .sched → motive none (exec cfg m th)) :
    motive (lab cfg m th) (exec cfg m th) := by
  have idle : th.pc = .idle → lab cfg m th = none := fun hpc => lab_of_part cfg m th (by rw [hpc]; nofun)
  refine exec_cases cfg m th .sched (fun hpc hp => idle hpc ▸ nil hpc hp)
    (fun c rest hpc hp => idle hpc ▸ disp c rest hpc hp)
    (fun hp => own th th.pc _ _ rfl (exec_schedStep cfg m th hp))
    fun q hq hp hold hnew => lab_of_part cfg m th hold ▸ other (exec_sched_frame cfg m th q hp hq) hold hnew

theorem iter_pool {cfg : Cfg} {m : Mem} {th : Thread} {pc : PC} {r : Mem × Thread} (hs : PoolStep cfg m th pc r)
    (hpc : th.pc = pc) (n : Nat) : iter cfg (n + 1) (m, th) = iter cfg n r :=
  congrArg (iter cfg n) (hs.exec_eq hpc)

theorem Reach.sched {cfg : Cfg} {m : Mem} {th : Thread} {pc : PC} {l : Option Spec.Label} {r y : Mem × Thread}
    (hs : SchedStep cfg m th pc l r) (hpc : th.pc = pc) (h : Reach cfg r y) : Reach cfg (m, th) y :=
  h.elim fun n hn => ⟨n + 1, (congrArg (iter cfg n) (hs.exec_eq hpc)).trans hn⟩

end CMacVerif.Atomics
