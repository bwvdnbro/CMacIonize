import CMacVerif.Lemmas.SubgridLayout
/-!
# Lemmas for C03 (the tables of `create_copies`, `get_neighbours`, the fold)

What the two loops of `create_copies` build and how a family of copies is wired, the fold walk over the copies,
`get_neighbours`, the cell-level fold and push, and the `_copies` table over a history of `create_copies` /
`update_copies`.  Nothing here is needed for the split invariance of the traversal (`Lemmas/SplitInvariance`), only
for its version with copies (`Lemmas/SplitCopies`) and for `Props/C03`.
-/
open CMacVerif.SubgridLayout CMacVerif.Handover CMacVerif.Gen.TravelDirections
namespace CMacVerif.SubgridLayout

/-- number of copies created for the first `t` subgrids -/
def pre (levels : List Nat) (t : Nat) : Nat := ((levels.take t).map (fun l => nCopies l - 1)).sum

theorem pre_zero (ls : List Nat) : pre ls 0 = 0 := by simp [pre]
theorem pre_cons_succ (l : Nat) (ls : List Nat) (t : Nat) : pre (l :: ls) (t + 1) = (nCopies l - 1) + pre ls t := by
  simp [pre]

theorem pre_succ (ls : List Nat) (t : Nat) (ht : t < ls.length) :
    pre ls (t + 1) = pre ls t + (nCopies (ls.getD t 0) - 1) := by
  induction ls generalizing t with
  | nil => simp at ht
  | cons l ls ih =>
    cases t with
    | zero => simp [pre]
    | succ t =>
      rw [pre_cons_succ, pre_cons_succ, ih t (by simpa using ht)]
      simp only [List.getD_cons_succ]; omega

theorem pre_mono (ls : List Nat) (a b : Nat) (h : a ≤ b) : pre ls a ≤ pre ls b := by
  induction ls generalizing a b with
  | nil => simp [pre]
  | cons l ls ih =>
    cases a with
    | zero => simp [pre]
    | succ a =>
      cases b with
      | zero => omega
      | succ b => rw [pre_cons_succ, pre_cons_succ]; have := ih a b (by omega); omega

theorem pre_ge_length (ls : List Nat) (t : Nat) (h : ls.length ≤ t) : pre ls t = pre ls ls.length := by
  unfold pre; rw [List.take_of_length_le h, List.take_of_length_le (Nat.le_refl _)]

theorem buildBlocks_length {β : Type} (g : Nat → Nat → β) (i : Nat) (ls : List Nat) :
    (buildBlocks g i ls).length = pre ls ls.length := by
  induction ls generalizing i with
  | nil => simp [buildBlocks, pre]
  | cons l ls ih =>
    simp only [buildBlocks, List.length_append, List.length_map, List.length_range', ih, List.length_cons, pre_cons_succ]

theorem buildBlocks_getElem? {β : Type} (g : Nat → Nat → β) (i : Nat) (ls : List Nat) (t c : Nat)
    (ht : t < ls.length) (hc : c < nCopies (ls.getD t 0) - 1) :
    (buildBlocks g i ls)[pre ls t + c]? = some (g (i + t) (1 + c)) := by
  induction ls generalizing i t with
  | nil => simp at ht
  | cons l ls ih =>
    cases t with
    | zero =>
      simp only [List.getD_cons_zero] at hc
      simp only [buildBlocks, pre_zero, Nat.zero_add, Nat.add_zero]
      rw [List.getElem?_append_left (by simpa using hc)]
      simp [hc]
    | succ t =>
      simp only [List.getD_cons_succ] at hc
      simp only [buildBlocks, pre_cons_succ]
      rw [List.getElem?_append_right (by simp; omega)]
      have e : nCopies l - 1 + pre ls t + c - (List.map (g i) (List.range' 1 (nCopies l - 1))).length = pre ls t + c := by
        simp; omega
      rw [e, ih (i + 1) t (by simpa using ht) hc]
      congr 2; omega

theorem buildCopies_length (size : Nat) (prev ls : List Nat) : (buildCopies size prev ls).length = ls.length := by
  induction ls generalizing size prev with
  | nil => rfl
  | cons l ls ih => simp [buildCopies, ih]

theorem tail_getD (prev : List Nat) (t d : Nat) : prev.tail.getD t d = prev.getD (t + 1) d := by
  cases prev <;> simp

theorem buildCopies_getD (size : Nat) (prev ls : List Nat) (t : Nat) (ht : t < ls.length) :
    (buildCopies size prev ls).getD t 0 =
      if nCopies (ls.getD t 0) > 1 then size + pre ls t else prev.getD t noCopy := by
  induction ls generalizing size prev t with
  | nil => simp at ht
  | cons l ls ih =>
    cases t with
    | zero =>
      simp only [buildCopies, List.getD_cons_zero, pre_zero, Nat.add_zero]
      cases prev <;> simp
    | succ t =>
      simp only [buildCopies, List.getD_cons_succ, pre_cons_succ]
      rw [ih _ _ t (by simpa using ht), tail_getD]
      split_ifs <;> omega

theorem nCopies_pos (l : Nat) : 0 < nCopies l := Nat.pow_pos (by decide)

theorem nCopies_split {a b : Nat} (h : a ≤ b) : nCopies b = nCopies a * 2 ^ (b - a) := by
  unfold nCopies; rw [← Nat.pow_add, Nat.add_sub_cancel' h]

/-- Second loop of `create_copies`: the member of the family of the neighbour (level `lt`) to which copy `k ≥ 1` of a
subgrid of level `ls` is wired.  Equal levels: the copy with the same number; fewer copies there: `k / 2^(ls-lt)`
(`0` = the original); more copies there: the first of the block of `2^(lt-ls)` copies that belongs to `k`. -/
def wiredTo (ls lt k : Nat) : Nat :=
  if lt = ls then k else if ls > lt then k / 2 ^ (ls - lt) else (k - 1) * 2 ^ (lt - ls) + 1

theorem copyEntry_eq (levels copies : List Nat) (orig : Nat → Nat → Option Nat) (s k d t : Nat)
    (hd : d ≠ 0) (ht : orig s d = some t) (hk1 : 1 ≤ k) :
    copyEntry levels copies orig s k d = some (member copies t (wiredTo (levels.getD s 0) (levels.getD t 0) k)) := by
  unfold copyEntry wiredTo member
  simp only [hd, ↓reduceIte, ht]
  by_cases heq : levels.getD t 0 = levels.getD s 0
  · simp only [heq, ↓reduceIte]; rw [if_neg (by omega)]
  · by_cases hgt : levels.getD s 0 > levels.getD t 0
    · simp only [heq, hgt, ↓reduceIte, Nat.pos_iff_ne_zero, ite_not]
      exact (apply_ite some _ _ _).symm
    · simp only [heq, hgt, ↓reduceIte]; rw [if_neg (by omega)]; congr 1

theorem wiredTo_lt {ls lt k : Nat} (hk1 : 1 ≤ k) (hk : k < nCopies ls) : wiredTo ls lt k < nCopies lt := by
  unfold wiredTo
  split_ifs with heq hgt
  · rw [heq]; exact hk
  · exact Nat.div_lt_of_lt_mul (by rw [Nat.mul_comm, ← nCopies_split hgt.le]; exact hk)
  · have hlt : ls ≤ lt := by omega
    have h1 := Nat.mul_le_mul_right (2 ^ (lt - ls)) (show k - 1 + 1 ≤ nCopies ls by omega)
    have hown : 1 < 2 ^ (lt - ls) := Nat.one_lt_two_pow (by omega)
    rw [nCopies_split hlt]
    rw [Nat.add_one_mul] at h1
    omega

theorem wiredTo_mul {ls lt : Nat} (hle : lt ≤ ls) (c : Nat) : wiredTo ls lt (c * 2 ^ (ls - lt)) = c := by
  unfold wiredTo
  split_ifs with heq hgt
  · rw [heq, Nat.sub_self, Nat.pow_zero, Nat.mul_one]
  · exact Nat.mul_div_cancel _ (Nat.pow_pos (by decide))
  · omega

theorem copyEntry_spec (levels copies : List Nat) (orig : Nat → Nat → Option Nat) (s k d t : Nat)
    (hd : d ≠ 0) (ht : orig s d = some t) (hk1 : 1 ≤ k) (hk : k < nCopies (levels.getD s 0)) :
    ∃ c, c < nCopies (levels.getD t 0) ∧ copyEntry levels copies orig s k d = some (member copies t c) :=
  ⟨_, wiredTo_lt hk1 hk, copyEntry_eq levels copies orig s k d t hd ht hk1⟩

/-- neighbour in direction `d` of member `k` of the family of `s` (`k = 0`: the original) -/
def familyNgb (L : Layout) (levels copies : List Nat) (s k d : Nat) : Option Nat :=
  if k = 0 then ngb L s d else copyEntry levels copies (ngb L) s k d

theorem familyNgb_onto (L : Layout) (levels copies : List Nat) (s d t : Nat)
    (hd : d ≠ 0) (ht : ngb L s d = some t) (hle : levels.getD t 0 ≤ levels.getD s 0)
    (c : Nat) (hc : c < nCopies (levels.getD t 0)) :
    ∃ k, k < nCopies (levels.getD s 0) ∧ familyNgb L levels copies s k d = some (member copies t c) := by
  have hpow : 0 < 2 ^ (levels.getD s 0 - levels.getD t 0) := Nat.pow_pos (by decide)
  refine ⟨c * 2 ^ (levels.getD s 0 - levels.getD t 0), ?_, ?_⟩
  · rw [nCopies_split hle]; exact Nat.mul_lt_mul_of_pos_right hc hpow
  · unfold familyNgb
    by_cases hc0 : c = 0
    · subst hc0; simp [ht, member]
    · have hk1 : 1 ≤ c * 2 ^ (levels.getD s 0 - levels.getD t 0) := Nat.mul_pos (by omega) hpow
      rw [if_neg (by omega), copyEntry_eq levels copies (ngb L) s _ d t hd ht hk1, wiredTo_mul hle]

theorem map_const_range' (a : Nat) (s n : Nat) : (List.range' s n).map (fun _ => a) = List.replicate n a := by
  induction n generalizing s with
  | zero => rfl
  | succ n ih => simp [List.range'_succ, List.replicate_succ, ih]

theorem buildOriginals_cons (i l : Nat) (ls : List Nat) :
    buildOriginals i (l :: ls) = List.replicate (nCopies l - 1) i ++ buildOriginals (i + 1) ls := by
  simp [buildOriginals, buildBlocks]

theorem buildOriginals_mem (i : Nat) (ls : List Nat) : ∀ x ∈ buildOriginals i ls, i ≤ x ∧ x < i + ls.length := by
  induction ls generalizing i with
  | nil => intro x hx; simp [buildOriginals, buildBlocks] at hx
  | cons l ls ih =>
    intro x hx
    rw [buildOriginals_cons, List.mem_append] at hx
    rcases hx with hx | hx
    · rw [List.mem_replicate] at hx; simp; omega
    · have := ih (i + 1) x hx; simp; omega

theorem takeWhile_none (l : List Nat) (i : Nat) (h : ∀ x ∈ l, x ≠ i) : l.takeWhile (· == i) = [] := by
  cases l with
  | nil => rfl
  | cons b bs =>
    have : b ≠ i := h b (List.mem_cons_self ..)
    simp [this]

theorem takeWhile_replicate_append (n i : Nat) (B : List Nat) (h : ∀ x ∈ B, x ≠ i) :
    (List.replicate n i ++ B).takeWhile (· == i) = List.replicate n i := by
  induction n with
  | zero => simpa using takeWhile_none B i h
  | succ n ih => simp [List.replicate_succ, ih]

theorem walk_none (O : List Nat) (i start : Nat) (h : ∀ x ∈ O, x ≠ i) : walk O i start = [] := by
  unfold walk
  rw [takeWhile_none _ i (fun x hx => h x (List.mem_of_mem_drop hx))]; rfl

theorem walk_block (A B : List Nat) (n i : Nat) (h : ∀ x ∈ B, x ≠ i) :
    walk (A ++ (List.replicate n i ++ B)) i A.length = List.range' A.length n := by
  unfold walk
  rw [List.drop_left, takeWhile_replicate_append n i B h, List.length_replicate]

theorem map_pair_range' (a N : Nat) (n s : Nat) :
    (List.range' s n).map (fun ci => (a, ci + N)) = (List.replicate n a).zip (List.range' (N + s) n) := by
  induction n generalizing s with
  | zero => rfl
  | succ n ih =>
    simp only [List.range'_succ, List.map_cons, List.replicate_succ, List.zip_cons_cons, ih]
    congr 2; omega

theorem headD_mem_or (prevs : List Nat) : prevs.headD noCopy = noCopy ∨ prevs.headD noCopy ∈ prevs := by
  cases prevs <;> simp

/-- `c` = the original's entry of `_copies`; it matters only if the original has copies -/
theorem visits_head (N i0 c : Nat) (A rest : List Nat) (n : Nat) (hA : ∀ a ∈ A, a < i0)
    (hrest : ∀ x ∈ rest, x ≠ i0) (hc : 0 < n → c = N + A.length ∧ c ≠ noCopy) :
    (if c ≠ noCopy then (walk (A ++ (List.replicate n i0 ++ rest)) i0 (subWrap c N)).map (fun ci => (i0, ci + N))
      else []) = (List.replicate n i0).zip (List.range' (N + A.length) n) := by
  rcases Nat.eq_zero_or_pos n with rfl | hn
  · have hnot : ∀ x ∈ A ++ (List.replicate 0 i0 ++ rest), x ≠ i0 := by
      intro x hx
      rcases List.mem_append.mp hx with h | h
      · have := hA x h; omega
      · exact hrest x (by simpa using h)
    rw [walk_none _ _ _ hnot]; simp
  · obtain ⟨rfl, hne⟩ := hc hn
    have hsub : subWrap (N + A.length) N = A.length := by unfold subWrap; rw [if_pos (by omega)]; omega
    rw [if_pos hne, hsub, walk_block A _ _ i0 hrest, map_pair_range']

/-- `foldVisitsFrom` on a suffix of the level list: `A` = the part of `_originals` that belongs to the subgrids
before `i0` -/
theorem foldVisitsFrom_spec (N : Nat) (ls : List Nat) : ∀ (A : List Nat) (i0 : Nat) (prevs : List Nat),
    (∀ a ∈ A, a < i0) →
    N + A.length + (buildOriginals i0 ls).length < noCopy →
    foldVisitsFrom N (A ++ buildOriginals i0 ls) i0 (buildCopies (N + A.length) prevs ls)
      = (buildOriginals i0 ls).zip (List.range' (N + A.length) (buildOriginals i0 ls).length) := by
  induction ls with
  | nil => intro A i0 prevs _ _; simp [buildOriginals, buildBlocks, buildCopies, foldVisitsFrom]
  | cons l ls ih =>
    intro A i0 prevs hA hbound
    rw [buildOriginals_cons] at hbound ⊢
    have hrest : ∀ x ∈ buildOriginals (i0 + 1) ls, x ≠ i0 := fun x hx => by
      have := buildOriginals_mem (i0 + 1) ls x hx; omega
    simp only [buildCopies, foldVisitsFrom]
    have hA' : ∀ a ∈ A ++ List.replicate (nCopies l - 1) i0, a < i0 + 1 := by
      intro a ha
      rcases List.mem_append.mp ha with h | h
      · have := hA a h; omega
      · rw [List.mem_replicate] at h; omega
    have htail := ih (A ++ List.replicate (nCopies l - 1) i0) (i0 + 1) prevs.tail hA'
      (by simp only [List.length_append, List.length_replicate] at hbound ⊢; omega)
    simp only [List.length_append, List.length_replicate, List.append_assoc] at htail
    rw [← Nat.add_assoc] at htail
    rw [htail]
    rw [visits_head N i0 _ A _ (nCopies l - 1) hA hrest fun h => by
      rw [if_pos (by omega)]; exact ⟨rfl, by simp only [List.length_append, List.length_replicate] at hbound; omega⟩]
    simp only [List.length_append, List.length_replicate]
    have hr : List.range' (N + A.length) (nCopies l - 1 + (buildOriginals (i0 + 1) ls).length)
        = List.range' (N + A.length) (nCopies l - 1)
          ++ List.range' (N + A.length + (nCopies l - 1)) (buildOriginals (i0 + 1) ls).length := by
      rw [List.range'_append_1]
    rw [hr, List.zip_append (by simp)]

theorem createCopies_copies (L : Layout) (prev levels : List Nat) :
    (createCopies L prev levels).copies = buildCopies L.size prev levels := rfl
theorem createCopies_originals (L : Layout) (prev levels : List Nat) :
    (createCopies L prev levels).originals = buildOriginals 0 levels := rfl
theorem createCopies_rows (L : Layout) (prev levels : List Nat) :
    (createCopies L prev levels).rows = (List.range L.size).map (createSubgrid L)
      ++ buildBlocks (copyRow levels (buildCopies L.size prev levels) (ngb L)) 0 levels := rfl

theorem createCopies_rows_length (L : Layout) (prev levels : List Nat) :
    (createCopies L prev levels).rows.length = L.size + pre levels levels.length := by
  rw [createCopies_rows]; simp [buildBlocks_length]

/-- index of the `c`-th copy (`c ≥ 1`) of `t`: originals, then the copies of the subgrids before `t`, then `c - 1` -/
theorem member_eq (N : Nat) (prev levels : List Nat) (t c : Nat) (ht : t < levels.length)
    (h1 : 1 ≤ c) (hc : c < nCopies (levels.getD t 0)) :
    member (buildCopies N prev levels) t c = N + pre levels t + (c - 1) := by
  unfold member
  rw [if_neg (by omega), buildCopies_getD N prev levels t ht, if_pos (by omega)]
  omega

theorem pre_block_lt (levels : List Nat) (t c : Nat) (ht : t < levels.length) (hc : c < nCopies (levels.getD t 0) - 1) :
    pre levels t + c < pre levels levels.length := by
  have h1 := pre_succ levels t ht
  have h2 := pre_mono levels (t + 1) levels.length (by omega)
  omega

theorem originalOf_member (L : Layout) (prev levels : List Nat) (hlen : levels.length = L.size) (t c : Nat)
    (ht : t < L.size) (hc : c < nCopies (levels.getD t 0)) :
    originalOf (createCopies L prev levels) (member (createCopies L prev levels).copies t c) = t := by
  by_cases h0 : c = 0
  · subst h0
    unfold originalOf member
    rw [if_pos rfl, createCopies_copies, buildCopies_length, hlen, if_pos ht]
  · have h1 : 1 ≤ c := by omega
    rw [createCopies_copies, member_eq _ prev levels t c (by omega) h1 hc]
    unfold originalOf
    rw [createCopies_copies, buildCopies_length, hlen, if_neg (by omega), createCopies_originals]
    have e : L.size + pre levels t + (c - 1) - L.size = pre levels t + (c - 1) := by omega
    rw [e, List.getD_eq_getElem?_getD]
    unfold buildOriginals
    rw [buildBlocks_getElem? (fun i _ => i) 0 levels t (c - 1) (by omega) (by omega)]
    simp

theorem row_member (L : Layout) (prev levels : List Nat) (hlen : levels.length = L.size) (t c : Nat)
    (ht : t < L.size) (h1 : 1 ≤ c) (hc : c < nCopies (levels.getD t 0)) :
    (createCopies L prev levels).rows.getD (member (createCopies L prev levels).copies t c) []
      = copyRow levels (createCopies L prev levels).copies (ngb L) t c := by
  rw [createCopies_copies, member_eq _ prev levels t c (by omega) h1 hc, createCopies_rows,
    List.getD_eq_getElem?_getD, List.getElem?_append_right (by simp; omega)]
  have e : L.size + pre levels t + (c - 1) - (List.map (createSubgrid L) (List.range L.size)).length
      = pre levels t + (c - 1) := by simp; omega
  rw [e, buildBlocks_getElem? _ 0 levels t (c - 1) (by omega) (by omega)]
  have e2 : 1 + (c - 1) = c := by omega
  simp [e2]

theorem row_original (L : Layout) (prev levels : List Nat) (t : Nat) (ht : t < L.size) :
    (createCopies L prev levels).rows.getD t [] = createSubgrid L t := by
  rw [createCopies_rows, List.getD_eq_getElem?_getD, List.getElem?_append_left (by simpa using ht)]
  simp [ht]

theorem copyRow_getD (levels copies : List Nat) (orig : Nat → Nat → Option Nat) (i k d : Nat) (hd : d < 27) :
    (copyRow levels copies orig i k).getD d none = copyEntry levels copies orig i k d := by
  unfold copyRow
  rw [List.getD_eq_getElem?_getD, List.getElem?_map, List.getElem?_range hd]; rfl

theorem entry_member (L : Layout) (prev levels : List Nat) (hlen : levels.length = L.size)
    (s k d : Nat) (hs : s < L.size) (hk : k < nCopies (levels.getD s 0)) (hd : d < 27) :
    ((createCopies L prev levels).rows.getD (member (createCopies L prev levels).copies s k) []).getD d none
      = familyNgb L levels (createCopies L prev levels).copies s k d := by
  by_cases h0 : k = 0
  · subst h0
    simp only [member, ↓reduceIte, familyNgb]
    rw [row_original L prev levels s hs]; rfl
  · rw [row_member L prev levels hlen s k hs (by omega) hk, copyRow_getD _ _ _ _ _ _ hd]
    simp only [familyNgb, h0, ↓reduceIte]

theorem familyNgb_zero (L : Layout) (hx : 0 < L.mx) (hy : 0 < L.my) (hz : 0 < L.mz) (levels copies : List Nat)
    (s k : Nat) (hs : s < L.size) : familyNgb L levels copies s k 0 = some (member copies s k) := by
  unfold familyNgb member
  split_ifs
  · exact ngb_self L hx hy hz s hs
  · simp only [copyEntry, ↓reduceIte]

theorem familyNgb_spec (L : Layout) (hx : 0 < L.mx) (hy : 0 < L.my) (hz : 0 < L.mz) (levels copies : List Nat)
    (s k d : Nat) (hs : s < L.size) (hk : k < nCopies (levels.getD s 0)) :
    (ngb L s d = none → familyNgb L levels copies s k d = none) ∧
    (∀ t, ngb L s d = some t →
      ∃ c, c < nCopies (levels.getD t 0) ∧ familyNgb L levels copies s k d = some (member copies t c)) := by
  by_cases hd : d = 0
  · subst hd
    rw [familyNgb_zero L hx hy hz levels copies s k hs, ngb_self L hx hy hz s hs]
    exact ⟨fun h => (by cases h), fun t ht => by cases ht; exact ⟨k, hk, rfl⟩⟩
  by_cases hk0 : k = 0
  · subst hk0
    simp only [familyNgb, ↓reduceIte]
    exact ⟨id, fun t ht => ⟨0, nCopies_pos _, by simpa [member] using ht⟩⟩
  · simp only [familyNgb, hk0, ↓reduceIte]
    exact ⟨fun hn => by simp only [copyEntry, hd, ↓reduceIte, hn],
      fun t ht => copyEntry_spec levels copies (ngb L) s k d t hd ht (by omega) hk⟩

theorem member_lt_rows (L : Layout) (prev levels : List Nat) (hlen : levels.length = L.size) (t c : Nat)
    (ht : t < L.size) (hc : c < nCopies (levels.getD t 0)) :
    member (createCopies L prev levels).copies t c < (createCopies L prev levels).rows.length := by
  rw [createCopies_rows_length]
  by_cases hc0 : c = 0
  · subst hc0; simp only [member, ↓reduceIte]; omega
  · rw [createCopies_copies, member_eq _ prev levels t c (by omega) (by omega) hc]
    have := pre_block_lt levels t (c - 1) (by omega) (by omega)
    omega

theorem ite_append (l : List Nat) (c : Prop) [Decidable c] (p : Bool) (v w : Nat) :
    (if c then l ++ [v] else if p = true then l ++ [w] else l)
      = l ++ (if c then some v else if p = true then some w else none).toList := by
  split_ifs <;> simp

/-- `get_neighbours` is the body of the neighbour loop at the six face offsets (one step on one axis, none on the
others), in the order x-, x+, y-, y+, z-, z+ -/
theorem getNeighbours_eq_ngbAt (L : Layout) (s : Nat) (hs : s < L.size) :
    getNeighbours L s
      = ([(-1, 0, 0), (1, 0, 0), (0, -1, 0), (0, 1, 0), (0, 0, -1), (0, 0, 1)] : List (Int × Int × Int)).filterMap
          (ngbAt L s) := by
  obtain ⟨h1, h2, h3⟩ := gridPosition_lt L s hs
  rw [List.filterMap_eq_flatMap_toList]
  simp only [List.flatMap_cons, List.flatMap_nil, List.append_nil]
  unfold ngbAt getNeighbours
  simp only [axisStep_zero _ _ _ h1, axisStep_zero _ _ _ h2, axisStep_zero _ _ _ h3,
    axisStep_neg _ _ _ h1, axisStep_neg _ _ _ h2, axisStep_neg _ _ _ h3,
    axisStep_pos _ _ _ h1, axisStep_pos _ _ _ h2, axisStep_pos _ _ _ h3, ite_append, List.nil_append]
  generalize (gridPosition L s).1 = x at *
  generalize (gridPosition L s).2.1 = y at *
  generalize (gridPosition L s).2.2 = z at *
  -- the first face appends to `[]`, which `simp` has removed: `e1` is about lists, `e2`–`e6` about options
  have e1 : (if x > 0 then [(x - 1) * L.ny * L.nz + y * L.nz + z]
        else if L.px = true then [(L.nx - 1) * L.ny * L.nz + y * L.nz + z] else [])
      = (combine L (if x > 0 then some (x - 1) else if L.px = true then some (L.nx - 1) else none) (some y) (some z)).toList := by
    split_ifs <;> simp only [combine, indexOf, Option.toList]
  have e2 : (if x + 1 < L.nx then some ((x + 1) * L.ny * L.nz + y * L.nz + z)
        else if L.px = true then some (y * L.nz + z) else none)
      = combine L (if x + 1 < L.nx then some (x + 1) else if L.px = true then some 0 else none) (some y) (some z) := by
    split_ifs <;> simp only [combine, indexOf, Nat.zero_mul, Nat.zero_add]
  have e3 : (if y > 0 then some (x * L.ny * L.nz + (y - 1) * L.nz + z)
        else if L.py = true then some (x * L.ny * L.nz + (L.ny - 1) * L.nz + z) else none)
      = combine L (some x) (if y > 0 then some (y - 1) else if L.py = true then some (L.ny - 1) else none) (some z) := by
    split_ifs <;> simp only [combine, indexOf]
  have e4 : (if y + 1 < L.ny then some (x * L.ny * L.nz + (y + 1) * L.nz + z)
        else if L.py = true then some (x * L.ny * L.nz + z) else none)
      = combine L (some x) (if y + 1 < L.ny then some (y + 1) else if L.py = true then some 0 else none) (some z) := by
    split_ifs <;> simp only [combine, indexOf, Nat.zero_mul, Nat.add_zero]
  have e5 : (if z > 0 then some (x * L.ny * L.nz + y * L.nz + z - 1)
        else if L.pz = true then some (x * L.ny * L.nz + y * L.nz + L.nz - 1) else none)
      = combine L (some x) (some y) (if z > 0 then some (z - 1) else if L.pz = true then some (L.nz - 1) else none) := by
    split_ifs <;> simp only [combine, indexOf, Option.some.injEq] <;> omega
  have e6 : (if z + 1 < L.nz then some (x * L.ny * L.nz + y * L.nz + z + 1)
        else if L.pz = true then some (x * L.ny * L.nz + y * L.nz) else none)
      = combine L (some x) (some y) (if z + 1 < L.nz then some (z + 1) else if L.pz = true then some 0 else none) := by
    split_ifs <;> simp only [combine, indexOf, Nat.add_zero, Option.some.injEq]; omega
  rw [e1, e2, e3, e4, e5, e6]
  simp only [List.append_assoc]

/-- the six face offsets are those of the directions `FACE_X_N, FACE_X_P, FACE_Y_N, FACE_Y_P, FACE_Z_N, FACE_Z_P` -/
theorem getNeighbours_faces_aux (L : Layout) (hx : 0 < L.mx) (hy : 0 < L.my) (hz : 0 < L.mz) (s : Nat) (hs : s < L.size) :
    getNeighbours L s = [22, 21, 24, 23, 26, 25].filterMap (ngb L s) := by
  have h : ∀ d ∈ [22, 21, 24, 23, 26, 25], ngb L s d = ngbAt L s (offsetOf d) := fun d hd =>
    ngb_eq_ngbAt L hx hy hz s d (by simp only [List.mem_cons, List.not_mem_nil, or_false] at hd; omega)
  rw [getNeighbours_eq_ngbAt L s hs, List.filterMap_congr h,
    show ([(-1, 0, 0), (1, 0, 0), (0, -1, 0), (0, 1, 0), (0, 0, -1), (0, 0, 1)] : List (Int × Int × Int))
      = [22, 21, 24, 23, 26, 25].map offsetOf by decide, List.filterMap_map]
  rfl

theorem updateIntensities_length (L : Layout) (o c : List Nat) : (updateIntensities L o c).length = o.length := by
  simp [updateIntensities]

theorem updateIntensities_getD (L : Layout) (o c : List Nat) (j : Nat) (hj : j < o.length) (ht : j < L.totNcell) :
    (updateIntensities L o c).getD j 0 = o.getD j 0 + c.getD j 0 := by
  unfold updateIntensities
  rw [List.getD_eq_getElem?_getD, List.getElem?_map, List.getElem?_range hj]
  simp [ht]

theorem foldl_updateIntensities_getD (L : Layout) (adds : List (List Nat)) (base : List Nat) (j : Nat)
    (hj : j < base.length) (ht : j < L.totNcell) :
    (adds.foldl (updateIntensities L) base).getD j 0 = base.getD j 0 + (adds.map (fun a => a.getD j 0)).sum := by
  induction adds generalizing base with
  | nil => simp
  | cons a as ih =>
    rw [List.foldl_cons, ih _ (by rw [updateIntensities_length]; exact hj), updateIntensities_getD L base a j hj ht]
    simp [Nat.add_assoc]

theorem foldl_updateIntensities_length (L : Layout) (adds : List (List Nat)) (base : List Nat) :
    (adds.foldl (updateIntensities L) base).length = base.length := by
  induction adds generalizing base with
  | nil => rfl
  | cons a as ih => rw [List.foldl_cons, ih, updateIntensities_length]

theorem updateNeutralFractions_eq (L : Layout) (copy orig : List Nat) (h1 : copy.length = L.totNcell)
    (h2 : orig.length = L.totNcell) : updateNeutralFractions L copy orig = orig := by
  apply List.ext_getElem
  · simp [updateNeutralFractions, h1, h2]
  · intro i hi1 hi2
    simp only [updateNeutralFractions, List.getElem_map, List.getElem_range]
    rw [if_pos (by rw [← h2]; exact hi2)]
    simp [List.getD_eq_getElem?_getD, hi2]

/-! ## the `_copies` table over a history of `create_copies` / `update_copies` -/

theorem buildCopies_inv (N : Nat) (ls : List Nat) : ∀ (size : Nat) (prev : List Nat), N ≤ size →
    (∀ p ∈ prev, p = noCopy ∨ N ≤ p) → ∀ p ∈ buildCopies size prev ls, p = noCopy ∨ N ≤ p := by
  induction ls with
  | nil => intro size prev _ _ p hp; simp [buildCopies] at hp
  | cons l ls ih =>
    intro size prev hs hprev p hp
    simp only [buildCopies, List.mem_cons] at hp
    rcases hp with rfl | hp
    · split_ifs
      · right; exact hs
      · cases prev with
        | nil => left; rfl
        | cons q qs => simpa using hprev q (List.mem_cons_self ..)
    · exact ih _ _ (by omega) (fun q hq => hprev q (List.mem_of_mem_tail hq)) p hp

/-- `_copies` after the constructor and any sequence of level assignments (`create_copies`, then `update_copies`) -/
def copiesAfter (L : Layout) (hist : List (List Nat)) : List Nat :=
  hist.foldl (fun prev lv => buildCopies L.size prev lv) (List.replicate L.size noCopy)

theorem copiesAfter_inv (L : Layout) (hist : List (List Nat)) :
    ∀ p ∈ copiesAfter L hist, p = noCopy ∨ L.size ≤ p := by
  unfold copiesAfter
  suffices h : ∀ (init : List Nat), (∀ p ∈ init, p = noCopy ∨ L.size ≤ p) →
      ∀ p ∈ hist.foldl (fun prev lv => buildCopies L.size prev lv) init, p = noCopy ∨ L.size ≤ p from
    h _ (fun p hp => Or.inl (List.eq_of_mem_replicate hp))
  induction hist with
  | nil => intro init h; exact h
  | cons lv hist ih =>
    intro init h
    rw [List.foldl_cons]
    exact ih _ (buildCopies_inv L.size lv L.size init (le_refl _) h)

end CMacVerif.SubgridLayout
