import CMacVerif.Lemmas.AMRTravLoop
/-! The neighbour pointers built by `set_ngbs` are geometric (C16): for every cell and every face
the stored neighbour is a cell of the same or a coarser level (coarser only if it is a leaf)
whose near wall is the wall of the cell (modulo one box length across a periodic boundary) and
which covers that wall.  This discharges the hypothesis `NgbGeo` of the traversal lemmas. -/
namespace CMacVerif.AMRT
open CMacVerif.GridNum CMacVerif.AMR
open CMacVerif.Axis (forall_lt_three)

theorem mod_two_le (n : Nat) : n % 2 ≤ 1 := Nat.le_of_lt_succ (Nat.mod_lt _ (by decide))

theorem childBit_le (c a : Nat) : childBit c a ≤ 1 := by
  unfold childBit; split_ifs <;> exact mod_two_le _

theorem childBit_setBit (c a b : Nat) (ha : a < 3) (hb : b ≤ 1) :
    ∀ a', a' < 3 → childBit (setBit c a b) a' = if a' = a then b else childBit c a' := by
  -- `setBit c a b` is `4 p + 2 q + r`: the bits of `c`, the one of axis `a` replaced by `b`
  rcases (by omega : a = 0 ∨ a = 1 ∨ a = 2) with rfl | rfl | rfl
  · rw [show setBit c 0 b = 4 * b + 2 * (c / 2 % 2) + c % 2 by show 4 * b + c % 4 = _; omega]
    obtain ⟨e1, e2, e3, _⟩ := cell_bits b (c / 2 % 2) (c % 2) hb (mod_two_le _) (mod_two_le _)
    exact forall_lt_three e1 e2 e3
  · obtain ⟨e1, e2, e3, _⟩ := cell_bits (c / 4 % 2) b (c % 2) (mod_two_le _) hb (mod_two_le _)
    exact forall_lt_three e1 e2 e3
  · rw [show setBit c 2 b = 4 * (c / 4 % 2) + 2 * (c / 2 % 2) + b by show 2 * (c / 2 % 4) + b = _; omega]
    obtain ⟨e1, e2, e3, _⟩ := cell_bits (c / 4 % 2) (c / 2 % 2) b (mod_two_le _) (mod_two_le _) hb
    exact forall_lt_three e1 e2 e3

theorem refBox_snoc_axis (G : AGrid ℝ) (r : Ref) (c : Nat) : ∀ a, a < 3 →
    blo (refBox G (r.snoc c)) a = blo (refBox G r) a + (childBit c a : ℝ) * (bsd (refBox G r) a * 0.5) ∧
    bsd (refBox G (r.snoc c)) a = bsd (refBox G r) a * 0.5 := by
  rw [refBox_snoc]
  exact forall_lt_three ⟨by rw [← ofNat_real]; rfl, rfl⟩ ⟨by rw [← ofNat_real]; rfl, rfl⟩
    ⟨by rw [← ofNat_real]; rfl, rfl⟩

theorem snoc_len (r : Ref) (c : Nat) : (r.snoc c).path.length = r.path.length + 1 := by
  simp [Ref.snoc]

/-- what `set_ngbs` keeps between a cell and its stored neighbour `n` across `f`: same or coarser
level, a leaf if coarser, touching and covering the face, congruent if on the same level -/
structure NRel (G : AGrid ℝ) (cur n : Ref) (f : Face) : Prop where
  valid : ∃ t, cellAt G.g n = some t
  ingrid : InGrid G n
  lvl : n.path.length ≤ cur.path.length
  coarse : n.path.length < cur.path.length → cellAt G.g n = some .leaf
  rel : FaceRel G (refBox G cur) (refBox G n) f.axis f.up
  same : n.path.length = cur.path.length → ∀ a, a < 3 →
    bsd (refBox G n) a = bsd (refBox G cur) a ∧ (a ≠ f.axis → blo (refBox G n) a = blo (refBox G cur) a)

theorem face_axis_lt (f : Face) : f.axis < 3 := by cases f <;> decide

/-- the box `M` is congruent to `B` off axis `a`: same sides, same anchor except on axis `a` (the `same` of `NRel`) -/
def CongrOff (a : Nat) (B M : Box3 ℝ) : Prop :=
  ∀ a', a' < 3 → bsd M a' = bsd B a' ∧ (a' ≠ a → blo M a' = blo B a')

theorem faceRel_of_shift (G : AGrid ℝ) (B M : Box3 ℝ) (a : Nat) (ha : a < 3) (up : Bool) (σ : ℝ) (hσ : ShiftOK G a up σ)
    (hs : CongrOff a B M)
    (hax : blo M a = blo B a + (if up = true then bsd B a else -bsd B a) + σ) : FaceRel G B M a up := by
  refine ⟨σ, hσ, fun hu => ?_, fun hu => ?_, fun a' ha' hne => ?_⟩
  · rw [hax, if_pos hu]
  · have : up ≠ true := by rw [hu]; simp
    rw [hax, if_neg this, (hs a ha).1]; ring
  · rw [(hs a' ha').2 hne, (hs a' ha').1]; exact ⟨le_refl _, le_refl _⟩

/-- the mirrored child of a cell `Q` congruent to `P` off axis `a` is congruent to child `c` of `P`
off axis `a` and is the other half of `Q` on it -/
theorem mirror_box (G : AGrid ℝ) (P Q : Ref) (c a : Nat) (ha : a < 3)
    (hs : CongrOff a (refBox G P) (refBox G Q)) :
    CongrOff a (refBox G (P.snoc c)) (refBox G (Q.snoc (setBit c a (1 - childBit c a)))) ∧
    blo (refBox G (Q.snoc (setBit c a (1 - childBit c a)))) a
      = blo (refBox G Q) a + ((1 - childBit c a : Nat) : ℝ) * (bsd (refBox G P) a * 0.5) := by
  have hbit := childBit_setBit c a (1 - childBit c a) ha (by omega)
  refine ⟨fun a' ha' => ?_, ?_⟩
  · obtain ⟨e1, e2⟩ := refBox_snoc_axis G Q (setBit c a (1 - childBit c a)) a' ha'
    obtain ⟨e3, e4⟩ := refBox_snoc_axis G P c a' ha'
    obtain ⟨s1, s2⟩ := hs a' ha'
    exact ⟨by rw [e2, e4, s1], fun hne => by rw [e1, e3, hbit a' ha', if_neg hne, s1, s2 hne]⟩
  · rw [(refBox_snoc_axis G Q _ a ha).1, hbit a ha, if_pos rfl, (hs a ha).1]

theorem NRel.sibling (G : AGrid ℝ) (cur : Ref) (ch : Fin 8 → Tree) (hcur : cellAt G.g cur = some (.node ch))
    (hcg : InGrid G cur) (c : Nat) (f : Face) (hb : childBit c f.axis = if f.up = true then 0 else 1) :
    NRel G (cur.snoc c) (cur.snoc (setBit c f.axis (1 - childBit c f.axis))) f := by
  have ha := face_axis_lt f
  obtain ⟨hsame, hax⟩ := mirror_box G cur cur c f.axis ha (fun _ _ => ⟨rfl, fun _ => rfl⟩)
  obtain ⟨c1, c2⟩ := refBox_snoc_axis G cur c f.axis ha
  refine ⟨⟨_, cellAt_snoc G cur _ ch hcur⟩, hcg, by rw [snoc_len, snoc_len],
    fun hlt => by rw [snoc_len, snoc_len] at hlt; omega,
    faceRel_of_shift G _ _ _ ha _ 0 (Or.inl rfl) hsame ?_, fun _ => hsame⟩
  rw [hax, c1, c2, hb]
  split_ifs <;> norm_num

/-- across the wall of the parent, where the parent's neighbour is a single cell -/
theorem NRel.coarser (G : AGrid ℝ) (cur n : Ref) (hB : PosB (refBox G cur)) (c : Nat) (f : Face)
    (hn : NRel G cur n f) (hleaf : cellAt G.g n = some .leaf)
    (hb : childBit c f.axis = if f.up = true then 1 else 0) : NRel G (cur.snoc c) n f := by
  have ha := face_axis_lt f
  obtain ⟨hv, hg, hlvl, _, ⟨σ, hσ, r1, r2, rcov⟩, _⟩ := hn
  obtain ⟨c1, c2⟩ := refBox_snoc_axis G cur c f.axis ha
  refine ⟨hv, hg, by rw [snoc_len]; omega, fun _ => hleaf, ⟨σ, hσ, fun hu => ?_, fun hu => ?_, fun a' ha' hne => ?_⟩,
    fun heq => by rw [snoc_len] at heq; omega⟩
  · rw [r1 hu, c1, c2, hb, if_pos hu]; push_cast; ring
  · rw [r2 hu, c1, hb, if_neg (by rw [hu]; simp)]; push_cast; ring
  · -- the child lies inside the parent on the other axes
    obtain ⟨q1, q2⟩ := rcov a' ha' hne
    obtain ⟨e1, e2⟩ := refBox_snoc_axis G cur c a' ha'
    obtain ⟨b1, b2⟩ := half_offset_bounds (bsd (refBox G cur) a') (hB a' ha') (childBit c a') (childBit_le c a')
    rw [e1, e2]
    exact ⟨le_trans q1 (le_add_of_nonneg_right b1), le_trans (by rw [add_assoc]; exact add_le_add le_rfl b2) q2⟩

/-- across the wall of the parent, where the parent's neighbour is refined: its mirrored child -/
theorem NRel.finer (G : AGrid ℝ) (cur n : Ref) (ch : Fin 8 → Tree) (c : Nat) (f : Face)
    (hn : NRel G cur n f) (hnode : cellAt G.g n = some (.node ch))
    (hb : childBit c f.axis = if f.up = true then 1 else 0) :
    NRel G (cur.snoc c) (n.snoc (setBit c f.axis (1 - childBit c f.axis))) f := by
  have ha := face_axis_lt f
  obtain ⟨_, hg, hlvl, hcoarse, ⟨σ, hσ, r1, r2, _⟩, hsame⟩ := hn
  -- a refined neighbour is on the level of the parent
  have hlev : n.path.length = cur.path.length := by
    rcases Nat.lt_or_ge n.path.length cur.path.length with hlt | hge
    · have := hcoarse hlt; rw [hnode] at this; simp at this
    · omega
  obtain ⟨hs, hax⟩ := mirror_box G cur n c f.axis ha (hsame hlev)
  obtain ⟨c1, c2⟩ := refBox_snoc_axis G cur c f.axis ha
  refine ⟨⟨_, cellAt_snoc G n _ ch hnode⟩, hg, by rw [snoc_len, snoc_len]; omega,
    fun hlt => by rw [snoc_len, snoc_len] at hlt; omega, faceRel_of_shift G _ _ _ ha _ σ hσ hs ?_, fun _ => hs⟩
  rw [hax, c1, c2, hb]
  by_cases hu : f.up = true
  · rw [if_pos hu, if_pos hu, r1 hu]; push_cast; ring
  · have := r2 (by simpa using hu)
    rw [(hsame hlev _ ha).1] at this
    rw [if_neg hu, if_neg hu, ← sub_eq_zero, ← sub_eq_zero.2 this]; push_cast; ring

/-- one level of `AMRGridCell::set_ngbs` -/
theorem childNgb_rel (G : AGrid ℝ) (cur : Ref) (ch : Fin 8 → Tree) (hcur : cellAt G.g cur = some (.node ch)) (hcg : InGrid G cur)
    (hB : PosB (refBox G cur)) (pn : Face → Option Ref) (hpn : ∀ f n, pn f = some n → NRel G cur n f)
    (c : Nat) (f : Face) (n : Ref) (h : childNgb G.g cur pn c f = some n) : NRel G (cur.snoc c) n f := by
  have hb1 := childBit_le c f.axis
  unfold childNgb at h
  simp only at h
  split_ifs at h with hsib
  · cases h
    exact NRel.sibling G cur ch hcur hcg c f (by rcases hsib with ⟨h0, hu⟩ | ⟨h0, hu⟩ <;> simp [h0, hu])
  · have hb : childBit c f.axis = if f.up = true then 1 else 0 := by
        -- not the sibling case, and the bit is 0 or 1: it is 1 going up, 0 going down
      cases hu : f.up <;> simp [hu] at hsib ⊢ <;> omega
    cases hp : pn f with
    | none => rw [hp] at h; simp at h
    | some n0 =>
      rw [hp] at h
      have hn0 := hpn f n0 hp
      obtain ⟨t0, ht0⟩ := hn0.valid
      simp only [isSingle, ht0] at h
      cases t0 with
      | leaf => simp only [if_true, Option.some.injEq] at h; subst h; exact NRel.coarser G cur n0 hB c f hn0 ht0 hb
      | node ch0 =>
        simp only [Bool.false_eq_true, if_false, Option.some.injEq] at h; subst h
        exact NRel.finer G cur n0 ch0 c f hn0 ht0 hb

theorem treeAt_prefix_node (t : Tree) (π : List Nat) (c : Nat) (rest : List Nat) (s : Tree)
    (h : treeAt t (π ++ c :: rest) = some s) : ∃ ch, treeAt t π = some (.node ch) := by
  rw [treeAt_append] at h
  cases hu : treeAt t π with
  | none => simp [hu] at h
  | some u =>
    cases u with
    | leaf => simp [hu, treeAt] at h
    | node ch => exact ⟨ch, rfl⟩

def Ref.extend (r : Ref) (π : List Nat) : Ref := { r with path := r.path ++ π }

theorem Ref.extend_nil (r : Ref) : r.extend [] = r := by cases r; simp [Ref.extend]

theorem Ref.extend_cons (r : Ref) (c : Nat) (π : List Nat) : r.extend (c :: π) = (r.snoc c).extend π := by
  simp [Ref.extend, Ref.snoc]

theorem ngbsAlong_rel (G : AGrid ℝ) (hb : PosBox G.box) (hx : 0 < G.g.nx) (hy : 0 < G.g.ny) (hz : 0 < G.g.nz) :
    ∀ (path : List Nat) (cur : Ref) (pn : Face → Option Ref),
      (∃ s, cellAt G.g (cur.extend path) = some s) → InGrid G cur →
      (∀ f n, pn f = some n → NRel G cur n f) →
      ∀ f n, ngbsAlong G.g path cur pn f = some n → NRel G (cur.extend path) n f := by
  intro path
  induction path with
  | nil => intro cur pn _ _ hpn f n h; rw [Ref.extend_nil]; exact hpn f n h
  | cons c rest ih =>
    intro cur pn hvalid hcg hpn f n h
    obtain ⟨s, hs⟩ := hvalid
    obtain ⟨ch, hcur⟩ : ∃ ch, cellAt G.g cur = some (.node ch) := treeAt_prefix_node _ cur.path c rest s hs
    rw [Ref.extend_cons] at hs ⊢
    exact ih (cur.snoc c) _ ⟨s, hs⟩ hcg
      (fun f' n' h' => childNgb_rel G cur ch hcur hcg (posB_refBox G hb hx hy hz cur) pn hpn c f' n' h') f n h

def Ref.idx (r : Ref) (a : Nat) : Nat := if a = 0 then r.bx else if a = 1 then r.by' else r.bz

def Ref.setIdx (r : Ref) (a v : Nat) : Ref :=
  if a = 0 then ⟨v, r.by', r.bz, []⟩ else if a = 1 then ⟨r.bx, v, r.bz, []⟩ else ⟨r.bx, r.by', v, []⟩

def dim (G : AGrid ℝ) (a : Nat) : Nat := if a = 0 then G.g.nx else if a = 1 then G.g.ny else G.g.nz

theorem idx_setIdx (r : Ref) (v : Nat) : ∀ a, a < 3 → ∀ a', a' < 3 →
    (r.setIdx a v).idx a' = if a' = a then v else r.idx a' :=
  forall_lt_three (forall_lt_three rfl rfl rfl) (forall_lt_three rfl rfl rfl) (forall_lt_three rfl rfl rfl)

theorem inGrid_iff (G : AGrid ℝ) (r : Ref) : InGrid G r ↔ ∀ a, a < 3 → r.idx a < dim G a :=
  ⟨fun h => forall_lt_three h.1 h.2.1 h.2.2, fun h => ⟨h 0 (by decide), h 1 (by decide), h 2 (by decide)⟩⟩

theorem blockBox_axis (G : AGrid ℝ) (r : Ref) (hr : r.path = []) : ∀ a, a < 3 →
    blo (refBox G r) a = blo G.box a + (OfInt.ofNat (r.idx a) : ℝ) * (bsd G.box a / OfInt.ofNat (dim G a)) ∧
    bsd (refBox G r) a = bsd G.box a / OfInt.ofNat (dim G a) := by
  obtain ⟨i, j, k, π⟩ := r
  subst hr
  exact forall_lt_three ⟨rfl, rfl⟩ ⟨rfl, rfl⟩ ⟨rfl, rfl⟩

/-- `AMRGrid::set_ngbs`, axis by axis -/
theorem topNgb_eq (G : AGrid ℝ) (r : Ref) (f : Face) :
    topNgb G.g G.px G.py G.pz r.bx r.by' r.bz f =
      if f.up = true then
        if r.idx f.axis < dim G f.axis - 1 then some (r.setIdx f.axis (r.idx f.axis + 1))
        else if per G f.axis = true then some (r.setIdx f.axis 0) else none
      else
        if r.idx f.axis > 0 then some (r.setIdx f.axis (r.idx f.axis - 1))
        else if per G f.axis = true then some (r.setIdx f.axis (dim G f.axis - 1)) else none := by
  cases f <;> rfl

/-- block `v` on the axis of `f` (other indices as in `r`) is the neighbour of block `r` across `f` when it starts
one block width above / below `r`, up to the periodic shift `σ` (`hax`) -/
theorem NRel.block (G : AGrid ℝ) (r : Ref) (hr : r.path = []) (hg : InGrid G r) (f : Face) (v : Nat) (σ : ℝ)
    (hv : v < dim G f.axis) (hσ : ShiftOK G f.axis f.up σ)
    (hax : (OfInt.ofNat v : ℝ) * (bsd G.box f.axis / OfInt.ofNat (dim G f.axis))
      = (OfInt.ofNat (r.idx f.axis) : ℝ) * (bsd G.box f.axis / OfInt.ofNat (dim G f.axis))
        + (if f.up = true then bsd G.box f.axis / OfInt.ofNat (dim G f.axis)
            else -(bsd G.box f.axis / OfInt.ofNat (dim G f.axis))) + σ) :
    NRel G r (r.setIdx f.axis v) f := by
  have ha := face_axis_lt f
  have hp : (r.setIdx f.axis v).path = [] := by unfold Ref.setIdx; split_ifs <;> rfl
  have hB := blockBox_axis G r hr
  have hM := blockBox_axis G _ hp
  have hs : CongrOff f.axis (refBox G r) (refBox G (r.setIdx f.axis v)) := fun a' ha' =>
    ⟨by rw [(hM a' ha').2, (hB a' ha').2],
      fun hne => by rw [(hM a' ha').1, (hB a' ha').1, idx_setIdx r v _ ha a' ha', if_neg hne]⟩
  refine ⟨⟨_, by unfold cellAt; rw [hp]; exact treeAt_nil _⟩, ?_, by rw [hp, hr], fun h => by rw [hp, hr] at h; simp at h,
    faceRel_of_shift G _ _ _ ha _ σ hσ hs ?_, fun _ => hs⟩
  · rw [inGrid_iff] at hg ⊢
    intro a' ha'
    rw [idx_setIdx r v _ ha a' ha']
    split_ifs with h
    · rw [h]; exact hv
    · exact hg a' ha'
  · rw [(hM _ ha).1, (hB _ ha).1, (hB _ ha).2, idx_setIdx r v _ ha _ ha, if_pos rfl, hax]; ring

/-- `hax` of `NRel.block` for the four outcomes of `set_ngbs` on one axis: the next block (`σ = 0`), from the last
block round to block 0 (`σ = -S`), the previous block (`σ = 0`), from block 0 round to the last block (`σ = S`) -/
theorem block_step (S : ℝ) (N i : Nat) (hi : i < N) :
    ((OfInt.ofNat (i + 1) : ℝ) * (S / OfInt.ofNat N) = OfInt.ofNat i * (S / OfInt.ofNat N) + S / OfInt.ofNat N + 0) ∧
    (i + 1 = N → (OfInt.ofNat 0 : ℝ) * (S / OfInt.ofNat N) = OfInt.ofNat i * (S / OfInt.ofNat N) + S / OfInt.ofNat N + -S) ∧
    (0 < i → (OfInt.ofNat (i - 1) : ℝ) * (S / OfInt.ofNat N) = OfInt.ofNat i * (S / OfInt.ofNat N) + -(S / OfInt.ofNat N) + 0) ∧
    (i = 0 → (OfInt.ofNat (N - 1) : ℝ) * (S / OfInt.ofNat N) = OfInt.ofNat i * (S / OfInt.ofNat N) + -(S / OfInt.ofNat N) + S) := by
  have hN : (N : ℝ) ≠ 0 := by exact_mod_cast (Nat.lt_of_le_of_lt (Nat.zero_le _) hi).ne'
  simp only [ofNat_real]
  refine ⟨by push_cast; ring, fun h => ?_, fun h => by rw [Nat.cast_sub h]; push_cast; ring, fun h => ?_⟩
  · rw [← h]; push_cast; field_simp; ring
  · rw [h, Nat.cast_sub (by omega)]; push_cast; field_simp; ring

/-- `AMRGrid::set_ngbs`: the neighbours of the top level blocks -/
theorem topNgb_rel (G : AGrid ℝ) (r : Ref) (hr : r.path = []) (hg : InGrid G r) (f : Face) (n : Ref)
    (h : topNgb G.g G.px G.py G.pz r.bx r.by' r.bz f = some n) : NRel G r n f := by
  have hi := (inGrid_iff G r).1 hg _ (face_axis_lt f)
  obtain ⟨e1, e2, e3, e4⟩ := block_step (bsd G.box f.axis) _ _ hi
  rw [topNgb_eq G r f] at h
  -- left after `cases h`: up inner, up across the periodic boundary, down inner, down across
  split_ifs at h with hu h1 h2 h1 h2 <;> cases h
  · exact NRel.block G r hr hg f _ 0 (by omega) (Or.inl rfl) (by rw [if_pos hu]; exact e1)
  · exact NRel.block G r hr hg f 0 _ (by omega) (Or.inr (Or.inl ⟨h2, hu, rfl⟩))
      (by rw [if_pos hu]; exact e2 (by omega))
  · exact NRel.block G r hr hg f _ 0 (by omega) (Or.inl rfl) (by rw [if_neg hu]; exact e3 h1)
  · exact NRel.block G r hr hg f _ _ (by omega) (Or.inr (Or.inr ⟨h2, by simpa using hu, rfl⟩))
      (by rw [if_neg hu]; exact e4 (by omega))

theorem ngb_geo (G : AGrid ℝ) (hb : PosBox G.box) (hx : 0 < G.g.nx) (hy : 0 < G.g.ny) (hz : 0 < G.g.nz)
    (hnarrow : Narrow G)
    (r : Ref) (hleaf : cellAt G.g r = some .leaf) (hg : InGrid G r) : NgbGeo G r := by
  intro f n h
  unfold ngb at h
  have e : (⟨r.bx, r.by', r.bz, []⟩ : Ref).extend r.path = r := by cases r; rfl
  have hrel := ngbsAlong_rel G hb hx hy hz r.path ⟨r.bx, r.by', r.bz, []⟩ _ ⟨_, by rw [e]; exact hleaf⟩ hg
    (fun f' n' h' => topNgb_rel G ⟨r.bx, r.by', r.bz, []⟩ rfl hg f' n' h') f n h
  rw [e] at hrel
  refine ⟨hrel.valid, hrel.ingrid, posB_refBox G hb hx hy hz n, hrel.rel, fun hper => ?_⟩
  have ha := face_axis_lt f
  rcases Nat.lt_or_ge n.path.length r.path.length with hlt | hge
  · exact hnarrow n (hrel.coarse hlt) _ ha hper
  · have heq : n.path.length = r.path.length := le_antisymm hrel.lvl hge
    rw [(hrel.same heq _ ha).1]
    exact hnarrow r hleaf _ ha hper

end CMacVerif.AMRT
