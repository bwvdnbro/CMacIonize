import CMacVerif.Model.AtomicsSpec
/-!
C08 lemmas: what one transition does, written as rules.  Every call works on one shared container
(`PC.part`); for the slot pool and for everything built on `ThreadLock` the branches of `exec` are
listed as the constructors of a relation, guard as hypothesis, result written out
(`exec_poolStep`, `exec_schedStep`), and a rule determines the transition (`exec_eq`).
In both relations the thread is given as its locals `th` and its program counter `pc`; the `pc`
field of `th` itself is not looked at.
-/
namespace CMacVerif.Atomics

/-- the shared containers: slot pool (`ThreadSafeVector`/`MemorySpace`), everything built on
`ThreadLock` (user locks, task dependencies, queues, the hydro counter protocol), `AtomicValue::max`
cells, free-standing counters -/
inductive Part where
  | pool | sched | max | ctr
deriving DecidableEq

def PC.part : PC → Option Part
  | .idle => none
  | .getCheck _ | .getInc _ | .getCas _ _ | .getCount _ _ | .getMax _ _ _ | .getMaxCas _ _ _ _
  | .getTotal _ _ | .apFill _ _ | .apPlace _ _ | .crashed _ | .freeReset _ | .freeYield _
  | .freeUnlock _ | .freeDec _ | .loadTaken => some .pool
  | .cMax _ _ | .cMaxCas _ _ _ | .cLoadMx _ => some .max
  | .cInc _ | .cDec _ | .cPostInc _ | .cPreAdd _ _ | .cPostAdd _ _ | .cPreSub _ _ | .cLoad _
  | .cAwait _ _ | .lfLoad _ _ | .lfCas _ _ _ => some .ctr
  | _ => some .sched

/-- one transition of `get_free_element(_safe)`, `add_photons`, `free_element` / `free_buffer`,
`get_number_of_active_elements` -/
inductive PoolStep (cfg : Cfg) (m : Mem) (th : Thread) : PC → Mem × Thread → Prop
  -- get_free_element_safe: the occupancy check
  | checkRoom r : m.taken < (cfg.size : Int) → PoolStep cfg m th (.getCheck r) (m, { th with pc := .getInc r })
  | checkFull : ¬ m.taken < (cfg.size : Int) → PoolStep cfg m th (.getCheck none) (m, ret th (.slot cfg.size))
  | checkCrash n : ¬ m.taken < (cfg.size : Int) →
      PoolStep cfg m th (.getCheck (some n)) (m, { th with pc := .crashed n })
  -- the search loop
  | advanceCursor r : PoolStep cfg m th (.getInc r)
      ({ m with cur := m.cur + 1 }, { th with pc := .getCas (m.cur % cfg.size) r })
  | slotBusy i r : m.flags i = true → PoolStep cfg m th (.getCas i r) (m, { th with pc := .getInc r })
  | slotTaken i r : m.flags i = false →
      PoolStep cfg m th (.getCas i r) ({ m with flags := upd m.flags i true }, { th with pc := .getCount i r })
  -- the statistics, then the return
  | countUp i r : PoolStep cfg m th (.getCount i r)
      ({ m with taken := m.taken + 1 }, { th with pc := .getMax i (m.taken + 1) r })
  | loadMax i n r : PoolStep cfg m th (.getMax i n r) (m, { th with pc := .getMaxCas i n m.maxTaken r })
  | storeMax i n old r : m.maxTaken = old → PoolStep cfg m th (.getMaxCas i n old r)
      ({ m with maxTaken := if n < old then old else n }, { th with pc := .getTotal i r })
  | maxRaced i n old r : ¬ m.maxTaken = old →
      PoolStep cfg m th (.getMaxCas i n old r) (m, { th with pc := .getMax i n r })
  | handOut i r : PoolStep cfg m th (.getTotal i r) ({ m with totalTaken := m.totalTaken + 1 }, getDone th i r)
  -- add_photons: `moved` packets fit into the target
  | fillSpill tgt n moved : moved = min n (cfg.cap - m.count tgt) → m.count tgt + moved = cfg.cap →
      PoolStep cfg m th (.apFill tgt n)
        ({ m with count := upd m.count tgt (m.count tgt + moved) },
         { th with inj := th.inj + n, pc := .getCheck (some (n - moved)) })
  | fillFits tgt n moved : moved = min n (cfg.cap - m.count tgt) → ¬ m.count tgt + moved = cfg.cap →
      PoolStep cfg m th (.apFill tgt n)
        ({ m with count := upd m.count tgt (m.count tgt + moved) },
         ret { th with inj := th.inj + n, lost := th.lost + (n - moved) } (.photons tgt))
  | placeRest i r : PoolStep cfg m th (.apPlace i r)
      ({ m with count := upd m.count i (m.count i + r) }, ret th (.photons i))
  | stayCrashed r : PoolStep cfg m th (.crashed r) (m, { th with pc := .crashed r })
  -- free_buffer / free_element
  | wipeBuffer i : PoolStep cfg m th (.freeReset i)
      ({ m with count := upd m.count i 0 }, { th with pc := .freeYield i, disc := th.disc + m.count i })
  | yieldBeforeRelease i : PoolStep cfg m th (.freeYield i) (m, { th with pc := .freeUnlock i })
  | releaseSlot i : PoolStep cfg m th (.freeUnlock i)
      ({ m with flags := upd m.flags i false }, { th with pc := .freeDec i })
  | countDown i : PoolStep cfg m th (.freeDec i) ({ m with taken := m.taken - 1 }, ret th (.freed i))
  | readTaken : PoolStep cfg m th .loadTaken (m, ret th (.active m.taken))

theorem exec_poolStep (cfg : Cfg) (m : Mem) (th : Thread) (h : th.pc.part = some .pool) :
    PoolStep cfg m th th.pc (exec cfg m th) := by
  obtain ⟨pc⟩ := th
  cases pc <;> cases h <;> simp only [exec]
  case getCheck r =>
    split
    · exact .checkRoom r ‹_›
    · cases r <;> first | exact .checkFull ‹_› | exact .checkCrash _ ‹_›
  case getCas i r =>
    split
    · exact .slotBusy i r ‹_›
    · exact .slotTaken i r (Bool.eq_false_iff.mpr ‹_›)
  case getMaxCas i n old r =>
    split
    · exact .storeMax i n old r ‹_›
    · exact .maxRaced i n old r ‹_›
  case apFill tgt n =>
    split
    · exact .fillSpill tgt n _ rfl ‹_›
    · exact .fillFits tgt n _ rfl ‹_›
  all_goals constructor

theorem PoolStep.exec_eq {cfg : Cfg} {m : Mem} {th : Thread} {pc : PC} {r : Mem × Thread}
    (hs : PoolStep cfg m th pc r) (hpc : th.pc = pc) : exec cfg m th = r := by
  obtain ⟨_⟩ := th
  cases hpc
  cases hs
  case fillSpill tgt n moved hm he => subst hm; simp only [exec, he, if_true]
  case fillFits tgt n moved hm he => subst hm; simp only [exec, he, if_false]
  all_goals simp only [exec, *] <;> rfl

/-- the `ThreadLock` flag `X` set (a successful `cas_lock`) -/
def Mem.lock (m : Mem) (X : LockId) : Mem := { m with locks := upd m.locks X true }
/-- the `ThreadLock` flag `X` cleared (`cas_unlock`) -/
def Mem.unlock (m : Mem) (X : LockId) : Mem := { m with locks := upd m.locks X false }

open Spec in
/-- one transition of `ThreadLock`, `Task::lock_dependency` / `unlock_dependency`, `TaskQueue` and the
counter protocol of the hydro worker loop, with the abstract label `lab` gives it
(`Model/AtomicsSpec.lean`; `none` = stuttering step) -/
inductive SchedStep (cfg : Cfg) (m : Mem) (th : Thread) : PC → Option Label → Mem × Thread → Prop
  -- ThreadLock::lock / try_lock / unlock
  | spinWait k : m.locks (.dep k) = true → SchedStep cfg m th (.lockSpin k) none (m, { th with pc := .lockSpin k })
  | spinAcquire k : m.locks (.dep k) = false →
      SchedStep cfg m th (.lockSpin k) none (m.lock (.dep k), ret { th with held := k :: th.held } (.locked k true))
  | tryFail k : m.locks (.dep k) = true → SchedStep cfg m th (.lockTry k) none (m, ret th (.locked k false))
  | tryAcquire k : m.locks (.dep k) = false →
      SchedStep cfg m th (.lockTry k) none (m.lock (.dep k), ret { th with held := k :: th.held } (.locked k true))
  | release k : SchedStep cfg m th (.unlockL k) none (m.unlock (.dep k), ret th (.unlocked k))
  -- Task::lock_dependency in context `c`: returns through `tlSucc` / `tlFail`
  | noDependency c t : (cfg.deps t).1 = none →
      SchedStep cfg m th (.tlStart c t) (some (acqLabel c t)) (m, tlSucc c t th)
  | hasDependency c t a : (cfg.deps t).1 = some a →
      SchedStep cfg m th (.tlStart c t) none (m, { th with pc := .tl0 c t })
  | firstBusy c t a d1 : cfg.deps t = (some a, d1) → m.locks (.dep a) = true →
      SchedStep cfg m th (.tl0 c t) none (m, tlFail c t th)
  | firstOfTwo c t a b : cfg.deps t = (some a, some b) → m.locks (.dep a) = false →
      SchedStep cfg m th (.tl0 c t) none (m.lock (.dep a), { th with pc := .tl1 c t })
  | onlyLock c t a : cfg.deps t = (some a, none) → m.locks (.dep a) = false →
      SchedStep cfg m th (.tl0 c t) (some (acqLabel c t)) (m.lock (.dep a), tlSucc c t th)
  | firstAbsent c t d1 : cfg.deps t = (none, d1) →
      SchedStep cfg m th (.tl0 c t) (some (acqLabel c t)) (m, tlSucc c t th)
  | secondBusy c t a b : cfg.deps t = (some a, some b) → m.locks (.dep b) = true →
      SchedStep cfg m th (.tl1 c t) none (m, { th with pc := .tlBack c t })
  | secondLock c t a b : cfg.deps t = (some a, some b) → m.locks (.dep b) = false →
      SchedStep cfg m th (.tl1 c t) (some (acqLabel c t)) (m.lock (.dep b), tlSucc c t th)
  | secondAbsent c t a : cfg.deps t = (some a, none) →
      SchedStep cfg m th (.tl1 c t) (some (acqLabel c t)) (m, tlSucc c t th)
  | bothAbsent c t d1 : cfg.deps t = (none, d1) →
      SchedStep cfg m th (.tl1 c t) (some (acqLabel c t)) (m, tlSucc c t th)
  | rollBack c t a d1 : cfg.deps t = (some a, d1) →
      SchedStep cfg m th (.tlBack c t) none (m.unlock (.dep a), tlFail c t th)
  | rollBackNothing c t d1 : cfg.deps t = (none, d1) → SchedStep cfg m th (.tlBack c t) none (m, tlFail c t th)
  -- Task::unlock_dependency: the second dependency first
  | twoToUnlock t a b : cfg.deps t = (some a, some b) →
      SchedStep cfg m th (.tuStart t) none (m, { th with pc := .tu1 t })
  | oneToUnlock t a : cfg.deps t = (some a, none) → SchedStep cfg m th (.tuStart t) none (m, { th with pc := .tu0 t })
  | nothingToUnlock t d1 : cfg.deps t = (none, d1) → SchedStep cfg m th (.tuStart t) (some (.finish t))
      (m, ret { th with fin := t :: th.fin } (.taskUnlocked t))
  | unlockSecond t a b : cfg.deps t = (some a, some b) →
      SchedStep cfg m th (.tu1 t) (some (.finish t)) (m.unlock (.dep b), { th with pc := .tu0 t })
  | skipSecond t a : cfg.deps t = (some a, none) → SchedStep cfg m th (.tu1 t) none (m, { th with pc := .tu0 t })
  | skipBoth t d1 : cfg.deps t = (none, d1) → SchedStep cfg m th (.tu1 t) (some (.finish t))
      (m, ret { th with fin := t :: th.fin } (.taskUnlocked t))
  | unlockOnly t a : cfg.deps t = (some a, none) → SchedStep cfg m th (.tu0 t) (some (.finish t))
      (m.unlock (.dep a), ret { th with fin := t :: th.fin } (.taskUnlocked t))
  | unlockFirst t a b : cfg.deps t = (some a, some b) → SchedStep cfg m th (.tu0 t) none
      (m.unlock (.dep a), ret { th with fin := t :: th.fin } (.taskUnlocked t))
  | noneToUnlock t : cfg.deps t = (none, none) → SchedStep cfg m th (.tu0 t) (some (.finish t))
      (m, ret { th with fin := t :: th.fin } (.taskUnlocked t))
  | firstMissing t b : cfg.deps t = (none, some b) → SchedStep cfg m th (.tu0 t) none
      (m, ret { th with fin := t :: th.fin } (.taskUnlocked t))
  -- TaskQueue::add_task, bare (`.plain`) or followed by `number_of_tasks.pre_increment()`
  | addWait q t k : m.locks (.queue q) = true →
      SchedStep cfg m th (.addLock q t k) none (m, { th with pc := .addLock q t k })
  | addAcquire q t k : m.locks (.queue q) = false →
      SchedStep cfg m th (.addLock q t k) none (m.lock (.queue q), { th with pc := .addBody q t k })
  | enqueue q t k : SchedStep cfg m th (.addBody q t k) (some (.add q t))
      ({ m with items := upd m.items q (m.items q ++ [t]) },
       { th with pc := .addUnlock q t k, addLog := (q, t) :: th.addLog })
  | addRelease q t : SchedStep cfg m th (.addUnlock q t .plain) none (m.unlock (.queue q), ret th (.added q t))
  | addReleaseCounted q t k : k ≠ .plain →
      SchedStep cfg m th (.addUnlock q t k) none (m.unlock (.queue q), { th with pc := .numInc q t k })
  | countSeeded q t k : (∀ p rem, k ≠ .rel p rem) →
      SchedStep cfg m th (.numInc q t k) none ({ m with num := m.num + 1 }, ret th (.seeded q t))
  -- release of the children of finished task `p`, then `number_of_tasks.pre_decrement()`
  | countLastChild q t p : SchedStep cfg m th (.numInc q t (.rel p [])) none
      ({ m with num := m.num + 1 }, { th with pc := .retire p })
  | countChild q t p c r : SchedStep cfg m th (.numInc q t (.rel p (c :: r))) none
      ({ m with num := m.num + 1 }, { th with pc := .relDec p c r })
  | childReady p c rem : m.unf c - 1 = 0 → SchedStep cfg m th (.relDec p c rem) none
      ({ m with unf := upd m.unf c (m.unf c - 1) }, { th with pc := .addLock (cfg.queueOf c) c (.rel p rem) })
  | lastChildWaits p c : ¬ m.unf c - 1 = 0 → SchedStep cfg m th (.relDec p c []) none
      ({ m with unf := upd m.unf c (m.unf c - 1) }, { th with pc := .retire p })
  | childWaits p c c' r : ¬ m.unf c - 1 = 0 → SchedStep cfg m th (.relDec p c (c' :: r)) none
      ({ m with unf := upd m.unf c (m.unf c - 1) }, { th with pc := .relDec p c' r })
  | retire p : SchedStep cfg m th (.retire p) none ({ m with num := m.num - 1 }, ret th (.released p (m.num - 1)))
  | setParents t v : SchedStep cfg m th (.setUnf t v) none ({ m with unf := upd m.unf t v }, ret th .skip)
  | readNumber : SchedStep cfg m th .loadNum none (m, ret th (.num m.num))
  -- TaskQueue::get_task (blocking) / try_get_task
  | popWait q : m.locks (.queue q) = true →
      SchedStep cfg m th (.popLock q true) none (m, { th with pc := .popLock q true })
  | popGiveUp q : m.locks (.queue q) = true →
      SchedStep cfg m th (.popLock q false) none (m, ret th (.popped q none))
  | popAcquire q b : m.locks (.queue q) = false →
      SchedStep cfg m th (.popLock q b) none (m.lock (.queue q), { th with pc := .popInit q })
  | scanFromTop q : SchedStep cfg m th (.popInit q) none (m, { th with pc := .popScan q (m.items q).length })
  | scanExhausted q i : i = 0 ∨ (m.items q)[i - 1]? = none →
      SchedStep cfg m th (.popScan q i) none (m, { th with pc := .popUnlock q none })
  | scanCandidate q i t : i ≠ 0 → (m.items q)[i - 1]? = some t →
      SchedStep cfg m th (.popScan q i) none (m, { th with pc := .tlStart (.pop q i) t })
  | takeEntry q j t t' : (m.items q)[j]? = some t' → SchedStep cfg m th (.popRemove q j t) none
      ({ m with items := upd m.items q ((m.items q).eraseIdx j) },
       { th with pc := .popUnlock q (some t'), tasks := t :: th.tasks, popLog := (q, t') :: th.popLog })
  | entryGone q j t : (m.items q)[j]? = none → SchedStep cfg m th (.popRemove q j t) none
      (m, { th with pc := .popUnlock q none, tasks := t :: th.tasks })
  | popRelease q r : SchedStep cfg m th (.popUnlock q r) none (m.unlock (.queue q), ret th (.popped q r))
  | readSize q : SchedStep cfg m th (.qsz q) none (m, ret th (.qsize q (m.items q).length))

theorem exec_schedStep (cfg : Cfg) (m : Mem) (th : Thread) (h : th.pc.part = some .sched) :
    SchedStep cfg m th th.pc (lab cfg m th) (exec cfg m th) := by
  obtain ⟨pc⟩ := th
  have f : ∀ {b : Bool}, ¬ b = true → b = false := Bool.eq_false_iff.mpr
  cases pc <;> cases h <;> simp only [exec, lab]
  case lockSpin k =>
    split
    · exact .spinWait k ‹_›
    · exact .spinAcquire k (f ‹_›)
  case lockTry k =>
    split
    · exact .tryFail k ‹_›
    · exact .tryAcquire k (f ‹_›)
  -- `exec` and `lab` branch on the same dependency table
  case tlStart c t =>
    rcases hd : cfg.deps t with ⟨_ | a, d1⟩
    · exact .noDependency c t (by rw [hd])
    · exact .hasDependency c t a (by rw [hd])
  case tl0 c t =>
    rcases hd : cfg.deps t with ⟨_ | a, _ | b⟩ <;> simp only
    · exact .firstAbsent c t _ hd
    · exact .firstAbsent c t _ hd
    · split
      · exact .firstBusy c t _ _ hd ‹_›
      · exact .onlyLock c t _ hd (f ‹_›)
    · split
      · exact .firstBusy c t _ _ hd ‹_›
      · exact .firstOfTwo c t _ _ hd (f ‹_›)
  case tl1 c t =>
    rcases hd : cfg.deps t with ⟨_ | a, _ | b⟩ <;> simp only
    · exact .bothAbsent c t _ hd
    · exact .bothAbsent c t _ hd
    · exact .secondAbsent c t _ hd
    · split
      · exact .secondBusy c t _ _ hd ‹_›
      · exact .secondLock c t _ _ hd (f ‹_›)
  case tlBack c t =>
    rcases hd : cfg.deps t with ⟨_ | a, d1⟩
    · exact .rollBackNothing c t _ hd
    · exact .rollBack c t _ _ hd
  case tuStart t =>
    rcases hd : cfg.deps t with ⟨_ | a, _ | b⟩
    · exact .nothingToUnlock t _ hd
    · exact .nothingToUnlock t _ hd
    · exact .oneToUnlock t _ hd
    · exact .twoToUnlock t _ _ hd
  case tu1 t =>
    rcases hd : cfg.deps t with ⟨_ | a, _ | b⟩
    · exact .skipBoth t _ hd
    · exact .skipBoth t _ hd
    · exact .skipSecond t _ hd
    · exact .unlockSecond t _ _ hd
  case tu0 t =>
    rcases hd : cfg.deps t with ⟨_ | a, _ | b⟩
    · exact .noneToUnlock t hd
    · exact .firstMissing t _ hd
    · exact .unlockOnly t _ hd
    · exact .unlockFirst t _ _ hd
  case addLock q t k =>
    split
    · exact .addWait q t k ‹_›
    · exact .addAcquire q t k (f ‹_›)
  case addUnlock q t k => cases k <;> first | exact .addRelease q t | exact .addReleaseCounted q t _ nofun
  case numInc q t k =>
    rcases k with _ | _ | ⟨p, _ | ⟨c, r⟩⟩
    · exact .countSeeded q t _ nofun
    · exact .countSeeded q t _ nofun
    · exact .countLastChild q t p
    · exact .countChild q t p c r
  case relDec p c rem =>
    split
    · exact .childReady p c rem ‹_›
    · cases rem <;> first | exact .lastChildWaits p c ‹_› | exact .childWaits p c _ _ ‹_›
  case popLock q b =>
    split
    · cases b <;> first | exact .popGiveUp q ‹_› | exact .popWait q ‹_›
    · exact .popAcquire q b (f ‹_›)
  case popScan q i =>
    split
    · exact .scanExhausted q i (Or.inl ‹_›)
    · split
      · exact .scanCandidate q i _ ‹_› ‹_›
      · exact .scanExhausted q i (Or.inr ‹_›)
  case popRemove q j t =>
    split
    · exact .takeEntry q j t _ ‹_›
    · exact .entryGone q j t ‹_›
  all_goals constructor

theorem SchedStep.exec_eq {cfg : Cfg} {m : Mem} {th : Thread} {pc : PC} {l : Option Spec.Label} {r : Mem × Thread}
    (hs : SchedStep cfg m th pc l r) (hpc : th.pc = pc) : exec cfg m th = r := by
  obtain ⟨_⟩ := th
  cases hpc
  cases hs
  case scanExhausted q i h => rcases h with rfl | h <;> simp [exec, *]
  -- the guards select the branch of `exec`; `simp` where a guard is a negation or a case of `AddK`
  all_goals simp only [exec, *] <;> first | rfl | simp [*]

end CMacVerif.Atomics
