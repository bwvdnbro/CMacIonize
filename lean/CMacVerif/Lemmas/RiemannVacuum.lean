import CMacVerif.Model.RiemannVacuum
import CMacVerif.Inst.Real
import CMacVerif.Lemmas.RealArith
import Mathlib.Tactic.Linarith
import Mathlib.Tactic.Ring
import Mathlib.Tactic.FieldSimp
import Mathlib.Tactic.NormNum
import Mathlib.Tactic.Positivity
/-!
The vacuum samplers of the exact Riemann solver (`Model/RiemannVacuum.lean`) at `ℝ`, `ovf = 0`: the
fans, the samplers under boost and mirror, the vacuum exits of `solve`, and the flux assembled from a
sample.
-/
namespace CMacVerif.RiemannVacuum

@[simp] theorem pow_real (x y : ℝ) : ArithFns.pow x y = x ^ y := rfl
@[simp] theorem sqrt_real (x : ℝ) : ArithFns.sqrt x = Real.sqrt x := rfl

/-- the clamp in the constructor makes the effective adiabatic index > 1 for every argument -/
theorem effGamma_gt_one (g : ℝ) : 1 < effGamma g := by
  unfold effGamma amax; split_ifs with h
  · norm_num
  · have : (1.00000001 : ℝ) ≤ g := not_lt.mp h
    have h2 : (1 : ℝ) < 1.00000001 := by norm_num
    linarith

theorem effGamma_eq (g : ℝ) (h : (1.00000001 : ℝ) ≤ g) : effGamma g = g := by
  unfold effGamma amax; rw [if_neg (not_lt.mpr h)]

theorem effGamma_le_two (g : ℝ) (h : g ≤ 2) : effGamma g ≤ 2 := by
  unfold effGamma amax; split_ifs
  · norm_num
  · exact h

theorem tdgm1_pos {G : ℝ} (hG : 1 < G) : 0 < tdgm1 G := by
  unfold tdgm1; rw [lit2, lit1]; exact div_pos (by norm_num) (by linarith)

theorem tdgp1_pos {G : ℝ} (hG : 1 < G) : 0 < tdgp1 G := by
  unfold tdgp1; rw [lit2, lit1]; exact div_pos (by norm_num) (by linarith)

theorem tgdgm1_pos {G : ℝ} (hG : 1 < G) : 0 < tgdgm1 G := by
  unfold tgdgm1; rw [lit2, lit1]; exact div_pos (by linarith) (by linarith)

theorem gm1dgp1_pos {G : ℝ} (hG : 1 < G) : 0 < gm1dgp1 G := by
  unfold gm1dgp1; rw [lit1]; exact div_pos (by linarith) (by linarith)

theorem gp1d2g_pos {G : ℝ} (hG : 1 < G) : 0 < gp1d2g G := by
  unfold gp1d2g; rw [lit05, lit1]; exact div_pos (by linarith) (by linarith)

theorem gm1dgp1_mul_tdgm1 {G : ℝ} (hG : 1 < G) : gm1dgp1 G * tdgm1 G = tdgp1 G := by
  unfold gm1dgp1 tdgm1 tdgp1; rw [lit2, lit1]
  have h1 : G - 1 ≠ 0 := by intro h; linarith
  have h2 : G + 1 ≠ 0 := by intro h; linarith
  field_simp

/-- what makes a boost of the gas and of `x/t` boost the fan velocity -/
theorem tdgp1_mul_gm1d2 {G : ℝ} (hG : 1 < G) : tdgp1 G * (gm1d2 G + 1) = 1 := by
  unfold tdgp1 gm1d2; rw [lit2, lit1, lit05]
  have h2 : G + 1 ≠ 0 := by intro h; linarith
  field_simp; ring

theorem tdgp1_add_gm1dgp1 {G : ℝ} (hG : 1 < G) : tdgp1 G + gm1dgp1 G = 1 := by
  unfold tdgp1 gm1dgp1; rw [lit2, lit1]
  have h2 : G + 1 ≠ 0 := by intro h; linarith
  field_simp; ring

/-! ### the vacuum tests at `ℝ` (`ovf = 0`) -/

theorem isZero_iff (x : ℝ) : isZero x = true ↔ x = 0 := by
  unfold isZero; rw [lit0]; exact decide_le_and_ge x 0

theorem invOverflows_iff (x : ℝ) : invOverflows 0 x = true ↔ x = 0 := by
  unfold invOverflows; rw [neg_zero, eq_comm (b := (0 : ℝ))]; exact decide_le_and_ge 0 x

theorem isVacuum_iff (rho P : ℝ) : isVacuum 0 rho rho P P = true ↔ (rho = 0 ∨ P = 0) := by
  unfold isVacuum
  simp only [Bool.or_eq_true, isZero_iff, invOverflows_iff]
  tauto

theorem not_isVacuum_iff {rho P : ℝ} (hr : 0 ≤ rho) (hP : 0 ≤ P) :
    ¬ isVacuum 0 rho rho P P = true ↔ 0 < rho ∧ 0 < P := by
  rw [isVacuum_iff, not_or, hr.lt_iff_ne', hP.lt_iff_ne']

theorem isVacuum_eq_false {rho P : ℝ} (hr : 0 < rho) (hP : 0 < P) :
    isVacuum 0 rho rho P P = false :=
  Bool.eq_false_iff.mpr ((not_isVacuum_iff hr.le hP.le).mpr ⟨hr, hP⟩)

theorem soundSpeed_pos {G rho P : ℝ} (hG : 1 < G) (hr : 0 < rho) (hP : 0 < P) :
    0 < soundSpeed G (1.0 / rho) P := by
  unfold soundSpeed; rw [lit1]
  exact Real.sqrt_pos.mpr (by positivity)

/-! ### the fans: sign of the base, right from left, non-negative density and pressure -/

/-- inside the left fan (`x/t` below the tail speed `u + 2a/(γ-1)`, above the head `u - a`) the
sound speed is positive and the base of the power is non-negative -/
theorem leftFan_base_nonneg {G uL aL dxdt : ℝ} (hG : 1 < G) (h1 : uL - aL < dxdt)
    (h2 : dxdt ≤ uL + tdgm1 G * aL) :
    0 < aL ∧ 0 ≤ tdgp1 G + gm1dgp1 G * (uL - dxdt) / aL := by
  have ht := tdgm1_pos hG
  have ha : 0 < aL := (mul_pos_iff_of_pos_left (by linarith : 0 < 1 + tdgm1 G)).mp (by linarith)
  have hx : -(tdgm1 G) ≤ (uL - dxdt) / aL := by
    rw [le_div_iff₀ ha]; linarith
  rw [← gm1dgp1_mul_tdgm1 hG, mul_div_assoc, ← mul_add]
  exact ⟨ha, mul_nonneg (gm1dgp1_pos hG).le (by linarith)⟩

theorem rightFan_eq_leftFan_neg (G rho u P a dxdt : ℝ) (tag : Nat) :
    rightFan G rho u P a dxdt tag = ⟨(leftFan G rho (-u) P a (-dxdt) tag).rho,
      -(leftFan G rho (-u) P a (-dxdt) tag).u, (leftFan G rho (-u) P a (-dxdt) tag).P, 1, tag⟩ := by
  have hb : tdgp1 G - gm1dgp1 G * (u - dxdt) / a = tdgp1 G + gm1dgp1 G * (-u - -dxdt) / a := by ring
  unfold rightFan leftFan
  simp only [hb]
  congr 1; ring

theorem rightFan_base_nonneg {G uR aR dxdt : ℝ} (hG : 1 < G) (h1 : dxdt < uR + aR)
    (h2 : uR - tdgm1 G * aR ≤ dxdt) :
    0 < aR ∧ 0 ≤ tdgp1 G - gm1dgp1 G * (uR - dxdt) / aR := by
  have := leftFan_base_nonneg (uL := -uR) (aL := aR) (dxdt := -dxdt) hG (by linarith) (by linarith)
  rwa [show tdgp1 G + gm1dgp1 G * (-uR - -dxdt) / aR
    = tdgp1 G - gm1dgp1 G * (uR - dxdt) / aR by ring] at this

theorem leftFan_physical {G rhoL uL PL aL dxdt : ℝ} (tag : Nat) (hr : 0 ≤ rhoL) (hP : 0 ≤ PL) :
    0 ≤ (leftFan G rhoL uL PL aL dxdt tag).rho ∧ 0 ≤ (leftFan G rhoL uL PL aL dxdt tag).P := by
  have hb := amax_lit0_left_nonneg (tdgp1 G + gm1dgp1 G * (uL - dxdt) / aL)
  unfold leftFan; simp only [pow_real]
  exact ⟨mul_nonneg hr (Real.rpow_nonneg hb _), mul_nonneg hP (Real.rpow_nonneg hb _)⟩

theorem rightFan_physical {G rhoR uR PR aR dxdt : ℝ} (tag : Nat) (hr : 0 ≤ rhoR) (hP : 0 ≤ PR) :
    0 ≤ (rightFan G rhoR uR PR aR dxdt tag).rho ∧ 0 ≤ (rightFan G rhoR uR PR aR dxdt tag).P := by
  rw [rightFan_eq_leftFan_neg]; exact leftFan_physical tag hr hP

/-! ### Galilean covariance of the samplers (`vacuum_galilean`) -/

/-- the same state seen from a frame moving with `-w`: density and pressure unchanged, velocity
shifted (the vacuum state, flag 0, carries the conventional velocity 0 in every frame) -/
def Sample.boost (w : ℝ) (s : Sample ℝ) : Sample ℝ :=
  ⟨s.rho, if s.flag = 0 then s.u else s.u + w, s.P, s.flag, s.tag⟩

theorem leftFan_galilean {G : ℝ} (hG : 1 < G) (rhoL uL PL aL dxdt w : ℝ) (tag : Nat) :
    leftFan G rhoL (uL + w) PL aL (dxdt + w) tag = (leftFan G rhoL uL PL aL dxdt tag).boost w := by
  have e := tdgp1_mul_gm1d2 hG
  have hb : uL + w - (dxdt + w) = uL - dxdt := by ring
  unfold leftFan Sample.boost
  ext
  · simp only [hb]
  · simp only; rw [if_neg (by decide)]; linear_combination w * e
  · simp only [hb]
  · rfl
  · rfl

theorem rightFan_galilean {G : ℝ} (hG : 1 < G) (rhoR uR PR aR dxdt w : ℝ) (tag : Nat) :
    rightFan G rhoR (uR + w) PR aR (dxdt + w) tag = (rightFan G rhoR uR PR aR dxdt tag).boost w := by
  have h := leftFan_galilean hG rhoR (-uR) PR aR (-dxdt) (-w) tag
  rw [← neg_add, ← neg_add] at h
  rw [rightFan_eq_leftFan_neg, rightFan_eq_leftFan_neg, h]
  have hf : (leftFan G rhoR (-uR) PR aR (-dxdt) tag).flag ≠ 0 :=
    show (-1 : Int) ≠ 0 by decide
  simp only [Sample.boost, if_neg hf, neg_add, neg_neg]
  rw [if_neg (by decide)]

theorem vacuumState_boost (w : ℝ) (tag : Nat) :
    (vacuumState tag : Sample ℝ).boost w = vacuumState tag := by
  unfold vacuumState Sample.boost; simp

theorem sampleRightVacuum_galilean {G : ℝ} (hG : 1 < G) (rhoL uL PL aL dxdt w : ℝ) :
    sampleRightVacuum G rhoL (uL + w) PL aL (dxdt + w)
      = (sampleRightVacuum G rhoL uL PL aL dxdt).boost w := by
  unfold sampleRightVacuum
  simp only [add_sub_right_comm _ w, add_right_comm _ w, add_lt_add_iff_right]
  split_ifs
  · exact leftFan_galilean hG ..
  · exact (vacuumState_boost w _).symm
  · rfl

theorem sampleLeftVacuum_galilean {G : ℝ} (hG : 1 < G) (rhoR uR PR aR dxdt w : ℝ) :
    sampleLeftVacuum G rhoR (uR + w) PR aR (dxdt + w)
      = (sampleLeftVacuum G rhoR uR PR aR dxdt).boost w := by
  unfold sampleLeftVacuum
  simp only [add_sub_right_comm _ w, add_right_comm _ w, add_lt_add_iff_right]
  split_ifs
  · exact rightFan_galilean hG ..
  · exact (vacuumState_boost w _).symm
  · rfl

theorem sampleVacuumGeneration_galilean {G : ℝ} (hG : 1 < G)
    (rhoL uL PL aL rhoR uR PR aR dxdt w : ℝ) :
    sampleVacuumGeneration G rhoL (uL + w) PL aL rhoR (uR + w) PR aR (dxdt + w)
      = (sampleVacuumGeneration G rhoL uL PL aL rhoR uR PR aR dxdt).boost w := by
  unfold sampleVacuumGeneration
  simp only [add_sub_right_comm _ w, add_right_comm _ w, add_lt_add_iff_right]
  split_ifs
  · exact (vacuumState_boost w _).symm
  · exact rightFan_galilean hG ..
  · rfl
  · exact leftFan_galilean hG ..
  · rfl

theorem solveVacuum_galilean {G : ℝ} (hG : 1 < G) (rhoL uL PL aL rhoR uR PR aR dxdt w : ℝ)
    (vL vR : Bool) :
    solveVacuum G rhoL (uL + w) PL aL vL rhoR (uR + w) PR aR vR (dxdt + w)
      = (solveVacuum G rhoL uL PL aL vL rhoR uR PR aR vR dxdt).boost w := by
  unfold solveVacuum
  split_ifs
  · exact (vacuumState_boost w _).symm
  · exact sampleRightVacuum_galilean hG ..
  · exact sampleLeftVacuum_galilean hG ..
  · exact sampleVacuumGeneration_galilean hG ..

/-! ### the fan joins the undisturbed state at its head and the vacuum at its tail -/

theorem amax0_one : amax (0.0 : ℝ) 1 = 1 := amax_lit0_left_of_nonneg zero_le_one
theorem amax0_zero : amax (0.0 : ℝ) 0 = 0 := amax_lit0_left_of_nonneg (le_refl _)

theorem leftFan_head {G : ℝ} (hG : 1 < G) (rhoL uL PL aL : ℝ) (ha : aL ≠ 0) (tag : Nat) :
    leftFan G rhoL uL PL aL (uL - aL) tag = ⟨rhoL, uL, PL, -1, tag⟩ := by
  have e := tdgp1_mul_gm1d2 hG
  have e2 := tdgp1_add_gm1dgp1 hG
  have hb : tdgp1 G + gm1dgp1 G * (uL - (uL - aL)) / aL = 1 := by
    rw [← e2]; field_simp; ring
  unfold leftFan
  ext
  · simp only [hb, amax0_one, pow_real, Real.one_rpow, mul_one]
  · simp only; linear_combination uL * e
  · simp only [hb, amax0_one, pow_real, Real.one_rpow, mul_one]
  · rfl
  · rfl

theorem rightFan_head {G : ℝ} (hG : 1 < G) (rhoR uR PR aR : ℝ) (ha : aR ≠ 0) (tag : Nat) :
    rightFan G rhoR uR PR aR (uR + aR) tag = ⟨rhoR, uR, PR, 1, tag⟩ := by
  rw [rightFan_eq_leftFan_neg, neg_add, ← sub_eq_add_neg, leftFan_head hG _ _ _ _ ha, neg_neg]

theorem leftFan_tail {G : ℝ} (hG : 1 < G) (rhoL uL PL aL : ℝ) (ha : aL ≠ 0) (tag : Nat) :
    (leftFan G rhoL uL PL aL (uL + tdgm1 G * aL) tag).rho = 0 ∧
      (leftFan G rhoL uL PL aL (uL + tdgm1 G * aL) tag).P = 0 := by
  have e := gm1dgp1_mul_tdgm1 hG
  have hb : tdgp1 G + gm1dgp1 G * (uL - (uL + tdgm1 G * aL)) / aL = 0 := by
    rw [← e]; field_simp; ring
  unfold leftFan
  simp only [hb, amax0_zero, pow_real]
  rw [Real.zero_rpow (tdgm1_pos hG).ne', Real.zero_rpow (tgdgm1_pos hG).ne']
  simp

theorem rightFan_tail {G : ℝ} (hG : 1 < G) (rhoR uR PR aR : ℝ) (ha : aR ≠ 0) (tag : Nat) :
    (rightFan G rhoR uR PR aR (uR - tdgm1 G * aR) tag).rho = 0 ∧
      (rightFan G rhoR uR PR aR (uR - tdgm1 G * aR) tag).P = 0 := by
  rw [rightFan_eq_leftFan_neg, neg_sub', sub_neg_eq_add]
  exact leftFan_tail hG rhoR (-uR) PR aR ha tag

/-- between the two vacuum fronts (both included) density and pressure vanish -/
theorem sampleVacuumGeneration_gap {G aL aR dxdt : ℝ} (hG : 1 < G) (rhoL uL PL rhoR uR PR : ℝ)
    (haL : 0 < aL) (haR : 0 < aR) (hL : uL + tdgm1 G * aL ≤ dxdt) (hR : dxdt ≤ uR - tdgm1 G * aR) :
    (sampleVacuumGeneration G rhoL uL PL aL rhoR uR PR aR dxdt).rho = 0 ∧
      (sampleVacuumGeneration G rhoL uL PL aL rhoR uR PR aR dxdt).P = 0 := by
  have ht := tdgm1_pos hG
  unfold sampleVacuumGeneration
  rcases hL.lt_or_eq with hL' | rfl
  · rcases hR.lt_or_eq with hR' | rfl
    · rw [if_pos ⟨hR', hL'⟩]; exact ⟨lit0, lit0⟩
    · -- on the right front: the right fan at its tail
      rw [if_neg (fun h => lt_irrefl _ h.1), if_pos hL', if_pos (by linarith [mul_pos ht haR])]
      exact rightFan_tail hG rhoR uR PR aR haR.ne' 32
  · -- on the left front: the left fan at its tail
    rw [if_neg (fun h => lt_irrefl _ h.2), if_neg (lt_irrefl _), if_pos (by linarith [mul_pos ht haL])]
    exact leftFan_tail hG rhoL uL PL aL haL.ne' 34

/-! ### mirror symmetry of the samplers -/

/-- `s` is the mirror image of `t`: same density and pressure, velocity and flag negated -/
def Sample.MirrorOf (s t : Sample ℝ) : Prop :=
  s.rho = t.rho ∧ s.u = -t.u ∧ s.P = t.P ∧ s.flag = -t.flag

theorem Sample.MirrorOf.symm {s t : Sample ℝ} (h : s.MirrorOf t) : t.MirrorOf s :=
  let ⟨hr, hu, hP, hf⟩ := h
  ⟨hr.symm, by rw [hu, neg_neg], hP.symm, by rw [hf, neg_neg]⟩

theorem rightFan_mirror (G rho u P a dxdt : ℝ) (t1 t2 : Nat) :
    (rightFan G rho (-u) P a (-dxdt) t1).MirrorOf (leftFan G rho u P a dxdt t2) := by
  rw [rightFan_eq_leftFan_neg, neg_neg, neg_neg]; exact ⟨rfl, rfl, rfl, rfl⟩

theorem leftFan_mirror (G rho u P a dxdt : ℝ) (t1 t2 : Nat) :
    (leftFan G rho (-u) P a (-dxdt) t1).MirrorOf (rightFan G rho u P a dxdt t2) := by
  have := (rightFan_mirror G rho (-u) P a (-dxdt) t2 t1).symm
  rwa [neg_neg, neg_neg] at this

theorem vacuumState_mirror (t1 t2 : Nat) :
    (vacuumState t1 : Sample ℝ).MirrorOf (vacuumState t2) := by
  unfold vacuumState Sample.MirrorOf; simp [lit0]

theorem sampleLeftVacuum_mirror (G rho u P a dxdt : ℝ) :
    (sampleLeftVacuum G rho (-u) P a (-dxdt)).MirrorOf (sampleRightVacuum G rho u P a dxdt) := by
  have c1 : (-dxdt < -u + a) ↔ (u - a < dxdt) := by constructor <;> intro h <;> linarith
  have c2 : (-u - tdgm1 G * a < -dxdt) ↔ (dxdt < u + tdgm1 G * a) := by
    constructor <;> intro h <;> linarith
  unfold sampleLeftVacuum sampleRightVacuum
  simp only [c1, c2]
  split_ifs
  · exact rightFan_mirror ..
  · exact vacuumState_mirror ..
  · exact ⟨rfl, rfl, rfl, rfl⟩

theorem sampleRightVacuum_mirror (G rho u P a dxdt : ℝ) :
    (sampleRightVacuum G rho (-u) P a (-dxdt)).MirrorOf (sampleLeftVacuum G rho u P a dxdt) := by
  have := (sampleLeftVacuum_mirror G rho (-u) P a (-dxdt)).symm
  rwa [neg_neg, neg_neg] at this

/-- mirror symmetry of `sample_vacuum_generation`, except when both fan tails sit exactly on
`x/t` (then the two orientations sample the two different tails, both with `ρ = P = 0`) -/
theorem sampleVacuumGeneration_mirror {G rhoL uL PL aL rhoR uR PR aR dxdt : ℝ}
    (hne : dxdt < uR - tdgm1 G * aR ∨ uL + tdgm1 G * aL < dxdt) :
    (sampleVacuumGeneration G rhoR (-uR) PR aR rhoL (-uL) PL aL (-dxdt)).MirrorOf
      (sampleVacuumGeneration G rhoL uL PL aL rhoR uR PR aR dxdt) := by
  have c1 : (-dxdt < -uL - tdgm1 G * aL) ↔ (uL + tdgm1 G * aL < dxdt) := by
    constructor <;> intro h <;> linarith
  have c2 : (-uR + tdgm1 G * aR < -dxdt) ↔ (dxdt < uR - tdgm1 G * aR) := by
    constructor <;> intro h <;> linarith
  have c3 : (-dxdt < -uL + aL) ↔ (uL - aL < dxdt) := by constructor <;> intro h <;> linarith
  have c4 : (-uR - aR < -dxdt) ↔ (dxdt < uR + aR) := by constructor <;> intro h <;> linarith
  unfold sampleVacuumGeneration
  simp only [c1, c2, c3, c4]
  -- both orientations test `A : dxdt < S_R` and `B : S_L < dxdt`, in the opposite order
  by_cases hA : dxdt < uR - tdgm1 G * aR <;> by_cases hB : uL + tdgm1 G * aL < dxdt
  · simp only [hA, hB, and_self, if_true]; exact vacuumState_mirror ..
  · simp only [hA, hB, and_false, false_and, if_true, if_false]
    split_ifs
    · exact rightFan_mirror ..
    · exact ⟨rfl, rfl, rfl, rfl⟩
  · simp only [hA, hB, and_false, false_and, if_true, if_false]
    split_ifs
    · exact leftFan_mirror ..
    · exact ⟨rfl, rfl, rfl, rfl⟩
  · exact absurd hne (not_or.mpr ⟨hA, hB⟩)

theorem solveVacuum_mirror {G rhoL uL PL aL rhoR uR PR aR d : ℝ} (vL vR : Bool)
    (hne : vL = false → vR = false → (d < uR - tdgm1 G * aR ∨ uL + tdgm1 G * aL < d)) :
    (solveVacuum G rhoR (-uR) PR aR vR rhoL (-uL) PL aL vL (-d)).MirrorOf
      (solveVacuum G rhoL uL PL aL vL rhoR uR PR aR vR d) := by
  unfold solveVacuum
  cases vL <;> cases vR
  · simp only [Bool.and_self, Bool.false_eq_true, if_false]
    exact sampleVacuumGeneration_mirror (hne rfl rfl)
  · simp only [Bool.and_true, Bool.and_false, Bool.false_eq_true, if_false, if_true]
    exact sampleLeftVacuum_mirror ..
  · simp only [Bool.and_true, Bool.and_false, Bool.false_eq_true, if_false, if_true]
    exact sampleRightVacuum_mirror ..
  · simp only [Bool.and_self, if_true]
    exact vacuumState_mirror ..

/-! ### fluxes: equality up to the branch id, negation, boost -/

/-- same mass, momentum and energy flux (the branch id is bookkeeping) -/
def Flux.Same (F F' : Flux ℝ) : Prop := F.m = F'.m ∧ F.p = F'.p ∧ F.e = F'.e

theorem Flux.Same.symm {F F' : Flux ℝ} (h : F.Same F') : F'.Same F :=
  let ⟨hm, hp, he⟩ := h; ⟨hm.symm, hp.symm, he.symm⟩

theorem Flux.Same.trans {F F' F'' : Flux ℝ} (h : F.Same F') (h' : F'.Same F'') : F.Same F'' :=
  let ⟨hm, hp, he⟩ := h; let ⟨hm', hp', he'⟩ := h'; ⟨hm.trans hm', hp.trans hp', he.trans he'⟩

def Flux.NegOf (F F' : Flux ℝ) : Prop := F.m = -F'.m ∧ F.p = F'.p.neg ∧ F.e = -F'.e

def Flux.IsZero (F : Flux ℝ) : Prop := F.m = 0 ∧ F.p = ⟨0, 0, 0⟩ ∧ F.e = 0

/-- no mass crosses the face, and the energy flux is the work of the momentum flux on the moving
face (zero for a face at rest) -/
def Flux.NoExchange (F : Flux ℝ) (vf : V3 ℝ) : Prop := F.m = 0 ∧ F.e = vf.dot F.p

/-- Galilean transformation of a flux through a face to the frame in which everything moves
with the additional velocity `w`: `m' = m`, `p' = p + m w`, `E' = E + w·p + ½|w|² m` -/
noncomputable def Flux.boost (w : V3 ℝ) (F : Flux ℝ) : Flux ℝ :=
  ⟨F.m, F.p.add (w.smul F.m), F.e + (w.dot F.p + 1 / 2 * w.norm2 * F.m), F.br⟩

theorem V3.add_zero (p : V3 ℝ) : p.add ⟨0, 0, 0⟩ = p := by
  ext <;> exact _root_.add_zero _

theorem V3.smul_zero (p : V3 ℝ) : p.smul 0 = ⟨0, 0, 0⟩ := by
  ext <;> exact MulZeroClass.mul_zero _

theorem deboost_add (m : ℝ) (p : V3 ℝ) (e : ℝ) (vf w : V3 ℝ) (br : Nat) :
    deboost m p e (vf.add w) br = (deboost m p e vf br).boost w := by
  unfold deboost Flux.boost
  ext <;> simp only [V3.add, V3.smul, V3.dot, V3.norm2, lit05] <;> ring

theorem deboost_eq_boost (m : ℝ) (p : V3 ℝ) (e : ℝ) (vf : V3 ℝ) (br : Nat) :
    deboost m p e vf br = (⟨m, p, e, br⟩ : Flux ℝ).boost vf := by
  unfold deboost Flux.boost; simp only [lit05]

theorem deboost_neg (m : ℝ) (p : V3 ℝ) (e : ℝ) (vf : V3 ℝ) (b1 b2 : Nat) :
    (deboost (-m) p.neg (-e) vf b1).NegOf (deboost m p e vf b2) := by
  unfold deboost Flux.NegOf
  refine ⟨rfl, ?_, ?_⟩
  · ext <;> simp only [V3.add, V3.smul, V3.neg] <;> ring
  · simp only [V3.dot, V3.norm2, V3.neg, lit05]; ring

theorem deboost_noExchange (p vf : V3 ℝ) (br : Nat) : (deboost 0 p 0 vf br).NoExchange vf := by
  unfold deboost Flux.NoExchange
  simp only [V3.dot, V3.add, V3.smul, V3.norm2, lit05]
  exact ⟨trivial, by ring⟩

theorem zeroFlux_boost (w : V3 ℝ) (br : Nat) :
    (⟨0.0, V3.zero, 0.0, br⟩ : Flux ℝ) = (⟨0.0, V3.zero, 0.0, br⟩ : Flux ℝ).boost w := by
  unfold Flux.boost
  ext <;> simp [V3.add, V3.smul, V3.dot, V3.zero, lit0]

theorem zeroFlux_isZero (br : Nat) : (⟨0.0, V3.zero, 0.0, br⟩ : Flux ℝ).IsZero :=
  ⟨lit0, by simp only [V3.zero, lit0], lit0⟩

theorem Flux.negOf_of_zero {F F' : Flux ℝ} (h : F.IsZero) (h' : F'.IsZero) : F.NegOf F' := by
  obtain ⟨hm, hp, he⟩ := h
  obtain ⟨hm', hp', he'⟩ := h'
  unfold Flux.NegOf
  rw [hm, hp, he, hm', hp', he']
  exact ⟨neg_zero.symm, by simp only [V3.neg, neg_zero], neg_zero.symm⟩

theorem zeroFlux_neg (b1 b2 : Nat) :
    (⟨0.0, V3.zero, 0.0, b1⟩ : Flux ℝ).NegOf (⟨0.0, V3.zero, 0.0, b2⟩ : Flux ℝ) :=
  Flux.negOf_of_zero (zeroFlux_isZero b1) (zeroFlux_isZero b2)

/-! ### the face frame -/

theorem faceFrame_boost (uL uR n vf w : V3 ℝ) :
    faceFrame (uL.add w) (uR.add w) n (vf.add w) = faceFrame uL uR n vf := by
  unfold faceFrame
  have h1 : (uL.add w).sub (vf.add w) = uL.sub vf := by
    ext <;> simp only [V3.add, V3.sub] <;> ring
  have h2 : (uR.add w).sub (vf.add w) = uR.sub vf := by
    ext <;> simp only [V3.add, V3.sub] <;> ring
  simp only [h1, h2]

/-- the frame seen from the other side: states exchanged, normal reversed -/
def FaceFrame.mirror (f : FaceFrame ℝ) : FaceFrame ℝ := ⟨f.uRface, f.uLface, -f.vR, -f.vL⟩

theorem faceFrame_mirror (uL uR n vf : V3 ℝ) :
    faceFrame uR uL n.neg vf = (faceFrame uL uR n vf).mirror := by
  unfold faceFrame FaceFrame.mirror
  simp only [V3.dot, V3.neg, V3.sub]
  congr 1 <;> ring

/-! ### flux assembly (`solve_for_flux`, lines 1062-1100) -/

theorem fluxFromSample_boost (G : ℝ) (s : Sample ℝ) (f : FaceFrame ℝ) (n vf w : V3 ℝ) :
    fluxFromSample G s f n (vf.add w) = (fluxFromSample G s f n vf).boost w := by
  unfold fluxFromSample
  by_cases h : s.flag ≠ 0
  · simp only [if_pos h]; exact deboost_add ..
  · simp only [if_neg h]; exact zeroFlux_boost ..

/-- a sampled state with `ρ = 0` and `P = 0` carries no flux (the tail of a fan) -/
theorem fluxFromSample_zero (G : ℝ) (s : Sample ℝ) (f : FaceFrame ℝ) (n vf : V3 ℝ)
    (hr : s.rho = 0) (hP : s.P = 0) :
    (fluxFromSample G s f n vf).IsZero := by
  unfold fluxFromSample
  by_cases h : s.flag ≠ 0
  · rw [if_pos h]; unfold Flux.IsZero deboost
    simp [hr, hP, V3.add, V3.smul, V3.dot, V3.norm2, lit05]
  · rw [if_neg h]; exact zeroFlux_isZero _

/-- the flags the samplers return -/
def Sample.FlagOk (s : Sample ℝ) : Prop := s.flag = -1 ∨ s.flag = 0 ∨ s.flag = 1

theorem fluxFromSample_mirror (G : ℝ) (s s' : Sample ℝ) (f : FaceFrame ℝ) (n vf : V3 ℝ)
    (hm : s'.MirrorOf s) (hf : s.FlagOk) :
    (fluxFromSample G s' f.mirror n.neg vf).NegOf (fluxFromSample G s f n vf) := by
  obtain ⟨hr, hu, hP, hfl⟩ := hm
  unfold fluxFromSample
  have assembled_neg : ∀ (u : V3 ℝ) (b1 b2 : Nat) (r : ℝ),
      (deboost (s.rho * u.dot n.neg) ((u.smul (s.rho * u.dot n.neg)).add (n.neg.smul s.P))
        ((r + s.P) * u.dot n.neg) vf b1).NegOf
      (deboost (s.rho * u.dot n) ((u.smul (s.rho * u.dot n)).add (n.smul s.P))
        ((r + s.P) * u.dot n) vf b2) := by
    intro u b1 b2 r
    have e0 : u.dot n.neg = -(u.dot n) := by simp only [V3.dot, V3.neg]; ring
    have e1 : s.rho * u.dot n.neg = -(s.rho * u.dot n) := by rw [e0]; ring
    have e2 : (u.smul (s.rho * u.dot n.neg)).add (n.neg.smul s.P)
        = ((u.smul (s.rho * u.dot n)).add (n.smul s.P)).neg := by
      rw [e1]; ext <;> simp only [V3.add, V3.smul, V3.neg] <;> ring
    have e3 : (r + s.P) * u.dot n.neg = -((r + s.P) * u.dot n) := by rw [e0]; ring
    rw [e2, e1, e3]
    exact deboost_neg ..
  have e1 : ∀ (uf : V3 ℝ) (v : ℝ), uf.add (n.neg.smul (-s.u - -v)) = uf.add (n.smul (s.u - v)) :=
    fun uf v => by ext <;> simp only [V3.add, V3.smul, V3.neg] <;> ring
  -- the tests of the literal flags, as rewrite rules for `simp only`
  have d1 : ((-1 : Int) ≠ 0) = True := by decide
  have d2 : ((1 : Int) ≠ 0) = True := by decide
  have d3 : ((1 : Int) = -1) = False := by decide
  rw [hfl]
  rcases hf with h | h | h <;> rw [h]
  · -- left state sampled; the mirrored problem samples its right state
    simp only [neg_neg, FaceFrame.mirror, d1, d2, d3, if_true, if_false, hr, hu, hP, e1]
    split_ifs <;> exact assembled_neg ..
  · simp only [neg_zero, ne_eq, not_true_eq_false, if_false]
    exact zeroFlux_neg ..
  · simp only [FaceFrame.mirror, d1, d2, d3, if_true, if_false, hr, hu, hP, e1]
    split_ifs <;> exact assembled_neg ..

/-- what `sample_right_vacuum`, `sample_left_vacuum`, `sample_vacuum_generation` and `solve_vacuum`
can return at `x/t = ξ`: the vacuum state, an undisturbed state or a fan formula -/
inductive VacuumRegion (G rhoL uL PL aL rhoR uR PR aR ξ : ℝ) : Sample ℝ → Prop
  | vacuum (tag : Nat) : VacuumRegion G rhoL uL PL aL rhoR uR PR aR ξ (vacuumState tag)
  | left (tag : Nat) : VacuumRegion G rhoL uL PL aL rhoR uR PR aR ξ ⟨rhoL, uL, PL, -1, tag⟩
  | leftFan (tag : Nat) : VacuumRegion G rhoL uL PL aL rhoR uR PR aR ξ (leftFan G rhoL uL PL aL ξ tag)
  | rightFan (tag : Nat) : VacuumRegion G rhoL uL PL aL rhoR uR PR aR ξ (rightFan G rhoR uR PR aR ξ tag)
  | right (tag : Nat) : VacuumRegion G rhoL uL PL aL rhoR uR PR aR ξ ⟨rhoR, uR, PR, 1, tag⟩

section region
variable {G rhoL uL PL aL rhoR uR PR aR ξ : ℝ}

theorem sampleRightVacuum_region (rhoR uR PR aR : ℝ) :
    VacuumRegion G rhoL uL PL aL rhoR uR PR aR ξ (sampleRightVacuum G rhoL uL PL aL ξ) := by
  unfold sampleRightVacuum; simp only
  split_ifs
  exacts [.leftFan _, .vacuum _, .left _]

theorem sampleLeftVacuum_region (rhoL uL PL aL : ℝ) :
    VacuumRegion G rhoL uL PL aL rhoR uR PR aR ξ (sampleLeftVacuum G rhoR uR PR aR ξ) := by
  unfold sampleLeftVacuum; simp only
  split_ifs
  exacts [.rightFan _, .vacuum _, .right _]

theorem sampleVacuumGeneration_region :
    VacuumRegion G rhoL uL PL aL rhoR uR PR aR ξ
      (sampleVacuumGeneration G rhoL uL PL aL rhoR uR PR aR ξ) := by
  unfold sampleVacuumGeneration; simp only
  split_ifs
  exacts [.vacuum _, .rightFan _, .right _, .leftFan _, .left _]

theorem solveVacuum_region (vL vR : Bool) :
    VacuumRegion G rhoL uL PL aL rhoR uR PR aR ξ
      (solveVacuum G rhoL uL PL aL vL rhoR uR PR aR vR ξ) := by
  unfold solveVacuum
  split_ifs
  exacts [.vacuum _, sampleRightVacuum_region .., sampleLeftVacuum_region ..,
    sampleVacuumGeneration_region]

theorem VacuumRegion.physical {s : Sample ℝ} (h : VacuumRegion G rhoL uL PL aL rhoR uR PR aR ξ s)
    (hrL : 0 ≤ rhoL) (hPL : 0 ≤ PL) (hrR : 0 ≤ rhoR) (hPR : 0 ≤ PR) : 0 ≤ s.rho ∧ 0 ≤ s.P := by
  cases h
  exacts [⟨lit0.ge, lit0.ge⟩, ⟨hrL, hPL⟩, leftFan_physical _ hrL hPL, rightFan_physical _ hrR hPR,
    ⟨hrR, hPR⟩]

theorem VacuumRegion.flagOk {s : Sample ℝ} (h : VacuumRegion G rhoL uL PL aL rhoR uR PR aR ξ s) :
    s.FlagOk := by
  cases h
  exacts [.inr (.inl rfl), .inl rfl, .inl rfl, .inr (.inr rfl), .inr (.inr rfl)]

end region

/-! ### the vacuum exits of `solve` (lines 883-921) -/

/-- `solve` leaves through one of its vacuum exits: a vacuum state, or two gases receding faster
than their fans can fill the gap -/
@[reducible] def VacuumExit (g rhoL uL PL rhoR uR PR : ℝ) : Prop :=
  isVacuum 0 rhoL rhoL PL PL = true ∨ isVacuum 0 rhoR rhoR PR PR = true ∨
    tdgm1 (effGamma g) * soundSpeed (effGamma g) (1.0 / rhoL) PL
      + tdgm1 (effGamma g) * soundSpeed (effGamma g) (1.0 / rhoR) PR ≤ uR - uL

/-- what a vacuum exit returns (`solve` passes the sound speed 0 for a vacuum state;
`solve_vacuum` never looks at it) -/
noncomputable def vacuumExitSample (g rhoL uL PL rhoR uR PR d : ℝ) : Sample ℝ :=
  solveVacuum (effGamma g) rhoL uL PL (soundSpeed (effGamma g) (1.0 / rhoL) PL)
    (isVacuum 0 rhoL rhoL PL PL) rhoR uR PR (soundSpeed (effGamma g) (1.0 / rhoR) PR)
    (isVacuum 0 rhoR rhoR PR PR) d

theorem solveIfVacuum_eq (g rhoL uL PL rhoR uR PR d : ℝ) :
    solveIfVacuum 0 g rhoL uL PL rhoR uR PR d =
      if VacuumExit g rhoL uL PL rhoR uR PR then some (vacuumExitSample g rhoL uL PL rhoR uR PR d)
      else none := by
  unfold solveIfVacuum VacuumExit vacuumExitSample
  generalize isVacuum 0 rhoL rhoL PL PL = vL
  generalize isVacuum 0 rhoR rhoR PR PR = vR
  -- `rfl` closes the three cases with a vacuum state: there `solve` passes the sound speed `0.0`,
  -- which `solve_vacuum` does not read
  cases vL <;> cases vR <;> simp <;> rfl

theorem solveIfVacuum_eq_none_iff (g rhoL uL PL rhoR uR PR d : ℝ) :
    solveIfVacuum 0 g rhoL uL PL rhoR uR PR d = none ↔ ¬ VacuumExit g rhoL uL PL rhoR uR PR := by
  rw [solveIfVacuum_eq]; split_ifs with h <;> simp [h]

/-- no vacuum exit (the iterative part of `solve`, the HLLC path of `HLLCRiemannSolver`): two gases
that do not generate vacuum -/
theorem not_vacuumExit_iff {g rhoL uL PL rhoR uR PR : ℝ} (hrL : 0 ≤ rhoL) (hPL : 0 ≤ PL)
    (hrR : 0 ≤ rhoR) (hPR : 0 ≤ PR) :
    ¬ VacuumExit g rhoL uL PL rhoR uR PR ↔ (0 < rhoL ∧ 0 < PL) ∧ (0 < rhoR ∧ 0 < PR) ∧
      ¬ (tdgm1 (effGamma g) * soundSpeed (effGamma g) (1.0 / rhoL) PL
        + tdgm1 (effGamma g) * soundSpeed (effGamma g) (1.0 / rhoR) PR ≤ uR - uL) := by
  rw [VacuumExit, not_or, not_or, not_isVacuum_iff hrL hPL, not_isVacuum_iff hrR hPR]

theorem vacuumExit_iff_of_gas {g rhoL uL PL rhoR uR PR : ℝ} (hL : isVacuum 0 rhoL rhoL PL PL = false)
    (hR : isVacuum 0 rhoR rhoR PR PR = false) :
    VacuumExit g rhoL uL PL rhoR uR PR ↔
      tdgm1 (effGamma g) * soundSpeed (effGamma g) (1.0 / rhoL) PL
        + tdgm1 (effGamma g) * soundSpeed (effGamma g) (1.0 / rhoR) PR ≤ uR - uL := by
  unfold VacuumExit; rw [hL, hR]; simp only [Bool.false_eq_true, false_or]

theorem VacuumExit_swap (g rhoL uL PL rhoR uR PR : ℝ) :
    VacuumExit g rhoR (-uR) PR rhoL (-uL) PL ↔ VacuumExit g rhoL uL PL rhoR uR PR := by
  unfold VacuumExit
  rw [neg_sub_neg, add_comm (tdgm1 _ * soundSpeed _ (1.0 / rhoR) PR), or_left_comm]

/-- the flux assembled from a vacuum exit is antisymmetric under the exchange of the two states,
also when both fronts of a generated vacuum lie on the face -/
theorem vacuumExit_flux_mirror {g rL vL PL rR vR PR : ℝ} (f : FaceFrame ℝ) (n vf : V3 ℝ)
    (hrL : 0 ≤ rL) (hPL : 0 ≤ PL) (hrR : 0 ≤ rR) (hPR : 0 ≤ PR)
    (he : VacuumExit g rL vL PL rR vR PR) :
    (fluxFromSample (effGamma g) (vacuumExitSample g rR (-vR) PR rL (-vL) PL 0) f.mirror n.neg vf).NegOf
      (fluxFromSample (effGamma g) (vacuumExitSample g rL vL PL rR vR PR 0) f n vf) := by
  have hG := effGamma_gt_one g
  have haL : isVacuum 0 rL rL PL PL = false → 0 < soundSpeed (effGamma g) (1.0 / rL) PL := fun h =>
    have := (not_isVacuum_iff hrL hPL).mp (Bool.eq_false_iff.mp h); soundSpeed_pos hG this.1 this.2
  have haR : isVacuum 0 rR rR PR PR = false → 0 < soundSpeed (effGamma g) (1.0 / rR) PR := fun h =>
    have := (not_isVacuum_iff hrR hPR).mp (Bool.eq_false_iff.mp h); soundSpeed_pos hG this.1 this.2
  unfold vacuumExitSample
  unfold VacuumExit at he
  generalize isVacuum 0 rL rL PL PL = vacL at *
  generalize isVacuum 0 rR rR PR PR = vacR at *
  generalize soundSpeed (effGamma g) (1.0 / rL) PL = aL at *
  generalize soundSpeed (effGamma g) (1.0 / rR) PR = aR at *
  by_cases hne : vacL = false → vacR = false →
      ((0 : ℝ) < vR - tdgm1 (effGamma g) * aR ∨ vL + tdgm1 (effGamma g) * aL < 0)
  · refine fluxFromSample_mirror _ _ _ f n vf ?_ (solveVacuum_region ..).flagOk
    have := solveVacuum_mirror (rhoL := rL) (PL := PL) (rhoR := rR) (PR := PR) vacL vacR hne
    rwa [neg_zero] at this
  · -- vacuum generation with the face in the closed gap: both orientations sample `ρ = P = 0`
    rw [Classical.not_imp, Classical.not_imp] at hne
    obtain ⟨hL, hR, htie⟩ := hne
    subst hL hR
    have hg := (he.resolve_left Bool.false_ne_true).resolve_left Bool.false_ne_true
    have h1 : vR - tdgm1 (effGamma g) * aR ≤ 0 := not_lt.mp fun h => htie (Or.inl h)
    have h2 : 0 ≤ vL + tdgm1 (effGamma g) * aL := not_lt.mp fun h => htie (Or.inr h)
    have tL := sampleVacuumGeneration_gap (dxdt := 0) hG rL vL PL rR vR PR (haL rfl) (haR rfl)
      (by linarith) (by linarith)
    have tR := sampleVacuumGeneration_gap (dxdt := 0) hG rR (-vR) PR rL (-vL) PL (haR rfl) (haL rfl)
      (by linarith) (by linarith)
    exact Flux.negOf_of_zero (fluxFromSample_zero _ _ _ n.neg vf tR.1 tR.2)
      (fluxFromSample_zero _ _ f n vf tL.1 tL.2)

end CMacVerif.RiemannVacuum
