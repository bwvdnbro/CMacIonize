import CMacVerif.Model.Snapshot
import CMacVerif.Lemmas.MixedRadix
/-!
The index-level snapshot model of C20: `one`/`three` are inverse (from `MixedRadix`), the file as a
function of the position whatever the block size (`snapshot_eq`), arrays filled by computed index
(`get_fill`), and the index maps of the two readers on an arbitrary dataset (`bufferedRead_eq`,
`plainRead_eq`).
-/
namespace CMacVerif.Snapshot

theorem oneIndex_lt {a b c n0 n1 n2 : Nat} (ha : a < n0) (hb : b < n1) (hc : c < n2) :
    a * n1 * n2 + b * n2 + c < n0 * n1 * n2 := by
  rw [Nat.mul_assoc, Nat.mul_assoc]
  exact MixedRadix.index_lt ha hb hc

theorem three_eq (n1 n2 i : Nat) :
    three n1 n2 i = (i / (n1 * n2), i % (n1 * n2) / n2, i % (n1 * n2) % n2) := by
  simp only [three, ← Nat.mod_eq_sub_div_mul]

theorem three_oneIndex {a b c n1 n2 : Nat} (hb : b < n1) (hc : c < n2) :
    three n1 n2 (a * n1 * n2 + b * n2 + c) = (a, b, c) := by
  obtain ⟨h1, h2, h3⟩ := MixedRadix.index_div_mod (a := a) hb hc
  rw [three_eq, Nat.mul_assoc, h1, h2, h3]

/-- encoding a decoded index gives it back (for all radices) -/
theorem one_three (n1 n2 i : Nat) : one n1 n2 (three n1 n2 i) = i := by
  rw [three_eq, one, Nat.mul_assoc]
  exact MixedRadix.div_mod_index n1 n2 i

theorem three_lt {n0 n1 n2 i : Nat} (hi : i < n0 * n1 * n2) :
    (three n1 n2 i).1 < n0 ∧ (three n1 n2 i).2.1 < n1 ∧ (three n1 n2 i).2.2 < n2 := by
  rw [Nat.mul_assoc] at hi
  rw [three_eq]
  exact MixedRadix.div_mod_index_lt hi

/-! ## the writer -/

theorem append_apply {α : Type} (ds : DS α) (offset len : Nat) (f : Nat → α) (k : Nat) :
    append ds offset len f k = if offset ≤ k ∧ k < offset + len then some (f (k - offset)) else ds k :=
  rfl

theorem append_zero {α : Type} (ds : DS α) (offset : Nat) (f : Nat → α) : append ds offset 0 f = ds := by
  funext k
  rw [append_apply, if_neg (fun h => Nat.lt_irrefl _ (Nat.lt_of_lt_of_le h.2 h.1))]

theorem append_append {α : Type} (ds : DS α) (bo a l : Nat) (vals : Nat → α) :
    append (append ds bo a vals) (bo + a) l (fun i => vals (a + i)) = append ds bo (a + l) vals := by
  funext k
  simp only [append_apply]
  by_cases h1 : bo + a ≤ k ∧ k < bo + a + l
  · have h : (bo ≤ k ∧ k < bo + (a + l)) ∧ a + (k - (bo + a)) = k - bo := by omega
    rw [if_pos h1, if_pos h.1, h.2]
  · rw [if_neg h1]
    by_cases h2 : bo ≤ k ∧ k < bo + a
    · rw [if_pos h2,
        if_pos ⟨h2.1, Nat.lt_of_lt_of_le h2.2 (Nat.add_le_add_left (Nat.le_add_right a l) bo)⟩]
    · rw [if_neg h2, if_neg (by omega)]

theorem blocks_spec {α : Type} (B N : Nat) (vals : Nat → α) (bo : Nat) (ds : DS α) (j : Nat) :
    (List.range j).foldl (fun ds iblock =>
        append ds (bo + iblock * B) (min (iblock * B + B) N - iblock * B)
          (fun i => vals (iblock * B + i))) ds =
      append ds bo (min (j * B) N) vals := by
  induction j with
  | zero => rw [List.range_zero, List.foldl_nil, Nat.zero_mul, Nat.zero_min, append_zero]
  | succ j ih =>
    rw [List.range_succ, List.foldl_append, List.foldl_cons, List.foldl_nil, ih, Nat.succ_mul]
    by_cases h : j * B ≤ N
    · rw [Nat.min_eq_left h, append_append, Nat.add_sub_cancel' (Nat.le_min.2 ⟨Nat.le_add_right _ _, h⟩)]
    · -- beyond the last cell: an empty block
      have h' : N ≤ j * B := Nat.le_of_not_le h
      rw [Nat.min_eq_right h', Nat.min_eq_right (Nat.le_trans h' (Nat.le_add_right _ _)),
        Nat.sub_eq_zero_of_le h', append_zero]

/-- **one subgrid**: whatever the block size `B > 0`, the cells of the subgrid end up at
`block_offset … block_offset + N - 1` in their own order, nothing else is touched -/
theorem writeSubgrid_spec {α : Type} (B N : Nat) (hB : 0 < B) (vals : Nat → α) (bo : Nat)
    (ds : DS α) : writeSubgrid B N vals bo ds = append ds bo N vals := by
  have hcover : N ≤ (N / B + if N % B > 0 then 1 else 0) * B := by
    split
    · rw [Nat.mul_comm]; exact Nat.le_of_lt (Nat.lt_mul_div_succ N hB)
    · rename_i hr
      rw [Nat.add_zero, Nat.div_mul_cancel (Nat.dvd_of_mod_eq_zero (Nat.eq_zero_of_not_pos hr))]
      exact Nat.le_refl N
  unfold writeSubgrid
  rw [blocks_spec, Nat.min_eq_right hcover]

theorem writeAll_eq {α : Type} (B N : Nat) (hB : 0 < B) (vals : Nat → Nat → α) (G : Nat) :
    writeAll B N G vals =
      (fun k => if k < G * N then some (vals (k / N) (k % N)) else none, G * N) := by
  induction G with
  | zero =>
    refine Prod.ext (funext fun k => ?_) (Nat.zero_mul N).symm
    show none = if k < 0 * N then _ else none
    rw [Nat.zero_mul, if_neg (Nat.not_lt_zero k)]
  | succ G ih =>
    have hstep : writeAll B N (G + 1) vals =
        (writeSubgrid B N (vals G) (writeAll B N G vals).2 (writeAll B N G vals).1,
         (writeAll B N G vals).2 + N) := by
      simp only [writeAll, List.range_succ, List.foldl_append, List.foldl_cons, List.foldl_nil]
    rw [hstep, ih, writeSubgrid_spec B N hB, Nat.succ_mul]
    refine Prod.ext (funext fun k => ?_) rfl
    dsimp only
    rw [append_apply]
    by_cases h1 : G * N ≤ k ∧ k < G * N + N
    · have hdiv : k / N = G := Nat.div_eq_of_lt_le h1.1 (by rw [Nat.succ_mul]; exact h1.2)
      rw [if_pos h1, if_pos h1.2, Nat.mod_eq_sub_div_mul, hdiv]
    · rw [if_neg h1]
      by_cases h2 : k < G * N
      · rw [if_pos h2, if_pos (Nat.lt_of_lt_of_le h2 (Nat.le_add_right _ _))]
      · rw [if_neg h2, if_neg (fun h => h1 ⟨Nat.le_of_not_lt h2, h⟩)]

theorem snapshot_eq {α : Type} (B : Nat) (hB : 0 < B) (L : Layout) (field : Nat × Nat × Nat → α)
    (k : Nat) :
    snapshot B L field k =
      if k < L.G * L.N then some (field (globalCell L (k / L.N) (k % L.N))) else none :=
  congrFun (congrArg Prod.fst (writeAll_eq B L.N hB (fun g ci => field (globalCell L g ci)) L.G)) k

/-! ## arrays filled by computed index -/

theorem get_setIfInBounds {α : Type} (arr : Array (Option α)) (j i : Nat) (v : Option α) :
    get (arr.setIfInBounds j v) i = if i = j ∧ i < arr.size then v else get arr i := by
  unfold get
  rw [Array.getElem?_setIfInBounds]
  by_cases hij : j = i
  · subst hij
    by_cases hlt : j < arr.size <;> simp [hlt]
  · have : ¬ (i = j ∧ i < arr.size) := fun h => hij h.1.symm
    simp [hij, this]

theorem get_replicate {α : Type} (n i : Nat) : get (Array.replicate n (none : Option α)) i = none := by
  unfold get
  by_cases h : i < n <;> simp [h]

theorem fill_size {α β : Type} (arr : Array (Option α)) (keys : List β) (key : β → Nat)
    (val : β → Option α) : (fill arr keys key val).size = arr.size := by
  induction keys generalizing arr with
  | nil => rfl
  | cons k ks ih => simp only [fill, List.foldl_cons] at ih ⊢; rw [ih]; simp

/-- when the value stored is a function `F` of the index it is stored at, the order of the stores
does not matter: every index that was hit holds `F index` -/
theorem get_fill {α β : Type} (arr : Array (Option α)) (keys : List β) (key : β → Nat)
    (val : β → Option α) (F : Nat → Option α) (h : ∀ k ∈ keys, val k = F (key k)) (i : Nat) :
    get (fill arr keys key val) i =
      if i < arr.size ∧ i ∈ keys.map key then F i else get arr i := by
  induction keys generalizing arr with
  | nil => simp [fill]
  | cons k ks ih =>
    simp only [fill, List.foldl_cons] at ih ⊢
    rw [ih _ (fun k' hk' => h k' (List.mem_cons_of_mem _ hk')), get_setIfInBounds,
      Array.size_setIfInBounds, List.map_cons]
    by_cases hmem : i < arr.size ∧ i ∈ ks.map key
    · rw [if_pos hmem, if_pos ⟨hmem.1, List.mem_cons_of_mem _ hmem.2⟩]
    · rw [if_neg hmem]
      by_cases hik : i = key k ∧ i < arr.size
      · rw [if_pos hik, if_pos ⟨hik.2, hik.1 ▸ List.mem_cons_self⟩, h k List.mem_cons_self, hik.1]
      · rw [if_neg hik, if_neg]
        rintro ⟨hi, hm⟩
        rcases List.mem_cons.1 hm with rfl | h'
        · exact hik ⟨rfl, hi⟩
        · exact hmem ⟨hi, h'⟩

theorem mem_triples (a b c : Nat) (t : Nat × Nat × Nat) :
    t ∈ triples a b c ↔ t.1 < a ∧ t.2.1 < b ∧ t.2.2 < c :=
  MixedRadix.mem_range_triples

/-! ## cells, subgrids -/

/-- a layout the code accepts: at least one cell per subgrid in every dimension -/
def Layout.ok (L : Layout) : Prop := 0 < L.sx ∧ 0 < L.sy ∧ 0 < L.sz

instance (L : Layout) : Decidable L.ok := by unfold Layout.ok; infer_instance

/-- cell inside the grid -/
def Layout.inGrid (L : Layout) (c : Nat × Nat × Nat) : Prop :=
  c.1 < L.nx ∧ c.2.1 < L.ny ∧ c.2.2 < L.nz

instance (L : Layout) (c : Nat × Nat × Nat) : Decidable (L.inGrid c) := by
  unfold Layout.inGrid; infer_instance

/-- subgrid one-index and in-subgrid one-index of a cell of the grid, as `operator()` computes them -/
def sgOf (L : Layout) (c : Nat × Nat × Nat) : Nat :=
  c.1 / L.sx * L.gy * L.gz + c.2.1 / L.sy * L.gz + c.2.2 / L.sz

def ciOf (L : Layout) (c : Nat × Nat × Nat) : Nat :=
  (c.1 - c.1 / L.sx * L.sx) * L.sy * L.sz + (c.2.1 - c.2.1 / L.sy * L.sy) * L.sz +
    (c.2.2 - c.2.2 / L.sz * L.sz)

theorem bufferedIndex_eq (L : Layout) (c : Nat × Nat × Nat) :
    bufferedIndex L c = (sgOf L c, ciOf L c) := rfl

theorem cell_decomp (L : Layout) (hL : L.ok) (c : Nat × Nat × Nat) (hc : L.inGrid c) :
    sgOf L c < L.G ∧ ciOf L c < L.N ∧ globalCell L (sgOf L c) (ciOf L c) = c := by
  obtain ⟨hx, hy, hz⟩ := hL
  obtain ⟨cx, cy, cz⟩ := c
  obtain ⟨h1, h2, h3⟩ := hc
  have dx := MixedRadix.div_mul_add_sub (x := cx) hx
  have dy := MixedRadix.div_mul_add_sub (x := cy) hy
  have dz := MixedRadix.div_mul_add_sub (x := cz) hz
  have gy : cy / L.sy < L.gy := (Nat.div_lt_iff_lt_mul hy).2 h2
  have gz : cz / L.sz < L.gz := (Nat.div_lt_iff_lt_mul hz).2 h3
  refine ⟨oneIndex_lt ((Nat.div_lt_iff_lt_mul hx).2 h1) gy gz, oneIndex_lt dx.2 dy.2 dz.2, ?_⟩
  simp only [sgOf, ciOf, globalCell, three_oneIndex gy gz, three_oneIndex dy.2 dz.2, dx.1, dy.1, dz.1]

theorem ciOf_lt (L : Layout) (hL : L.ok) (c : Nat × Nat × Nat) : ciOf L c < L.N :=
  oneIndex_lt (MixedRadix.div_mul_add_sub hL.1).2 (MixedRadix.div_mul_add_sub hL.2.1).2
    (MixedRadix.div_mul_add_sub hL.2.2).2

theorem bufferedRead_eq {α : Type} (L : Layout) (hL : L.ok) (ds : DS α) (c : Nat × Nat × Nat) :
    bufferedRead L ds c = ds (sgOf L c * L.N + ciOf L c) := by
  have r : ∀ {x s : Nat}, 0 < s → x - x / s * s < s := fun hs => (MixedRadix.div_mul_add_sub hs).2
  have hci := ciOf_lt L hL c
  have hmem : ciOf L c ∈
      (triples L.sx L.sy L.sz).map (fun t => t.1 * L.sy * L.sz + t.2.1 * L.sz + t.2.2) :=
    List.mem_map.2 ⟨(c.1 - c.1 / L.sx * L.sx, c.2.1 - c.2.1 / L.sy * L.sy,
      c.2.2 - c.2.2 / L.sz * L.sz), (mem_triples ..).2 ⟨r hL.1, r hL.2.1, r hL.2.2⟩, rfl⟩
  rw [bufferedRead, bufferedIndex_eq]
  unfold bufferSubgrid
  simp only [Nat.one_mul, Nat.add_zero]
  rw [get_fill (F := fun i => if i < L.N then ds (sgOf L c * L.N + i) else none)
    (h := fun _ _ => rfl), if_pos ⟨by simpa using hci, hmem⟩]
  exact if_pos hci

theorem snapshot_cell {α : Type} (B : Nat) (hB : 0 < B) (L : Layout) (hL : L.ok)
    (field : Nat × Nat × Nat → α) (c : Nat × Nat × Nat) (hc : L.inGrid c) :
    snapshot B L field (sgOf L c * L.N + ciOf L c) = some (field c) := by
  obtain ⟨hsg, hci, hgc⟩ := cell_decomp L hL c hc
  rw [snapshot_eq B hB, if_pos (MixedRadix.lt_mul_add hsg hci), MixedRadix.mul_add_div hci,
    Nat.mul_add_mod_of_lt hci, hgc]

theorem globalCell_inGrid (L : Layout) (g ci : Nat) (hg : g < L.G) (hci : ci < L.N) :
    L.inGrid (globalCell L g ci) := by
  obtain ⟨a1, a2, a3⟩ := three_lt (n0 := L.gx) hg
  obtain ⟨b1, b2, b3⟩ := three_lt (n0 := L.sx) hci
  exact ⟨MixedRadix.lt_mul_add a1 b1, MixedRadix.lt_mul_add a2 b2, MixedRadix.lt_mul_add a3 b3⟩

/-- coordinates and values that went through the same writer sit at the same positions -/
theorem snapshot_coords {α : Type} (B : Nat) (hB : 0 < B) (L : Layout) (field : Nat × Nat × Nat → α)
    {i : Nat} (hi : i < L.G * L.N) :
    ∃ c, L.inGrid c ∧ snapshot B L id i = some c ∧ snapshot B L field i = some (field c) := by
  have hN : 0 < L.N := Nat.pos_of_ne_zero fun e => by rw [e, Nat.mul_zero] at hi; exact Nat.not_lt_zero _ hi
  refine ⟨_, globalCell_inGrid L _ _ ((Nat.div_lt_iff_lt_mul hN).2 hi) (Nat.mod_lt i hN), ?_, ?_⟩ <;>
    rw [snapshot_eq B hB, if_pos hi]
  rfl

/-- **index map of the plain reader**: when the value at every position is a function `F` of the
cell its coordinates fall into (so that the order of the binning loop does not matter), a cell
whose coordinates are stored at some position `p` gets the value stored at `p` -/
theorem plainRead_eq {α : Type} (nx ny nz total : Nat) (coords : DS (Nat × Nat × Nat)) (vals : DS α)
    (F : Nat → Option α) (hF : ∀ i < total, vals i = F (plainKey nx ny nz coords i))
    {c : Nat × Nat × Nat} (hc : c.1 < nx ∧ c.2.1 < ny ∧ c.2.2 < nz) {p : Nat} (hp : p < total)
    (hcp : coords p = some c) : plainRead nx ny nz total coords vals c = vals p := by
  have hkey : plainKey nx ny nz coords p = one ny nz c := by rw [plainKey, hcp]
  rw [plainRead, plainGrid, get_fill (F := F) (h := fun i hi => hF i (List.mem_range.1 hi)),
    if_pos ⟨by simpa [one] using oneIndex_lt hc.1 hc.2.1 hc.2.2,
      List.mem_map.2 ⟨p, List.mem_range.2 hp, hkey⟩⟩, hF p hp, hkey]

end CMacVerif.Snapshot
