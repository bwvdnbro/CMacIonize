import CMacVerif.Model.AMRTree
import Mathlib.Tactic.Ring
import Mathlib.Tactic.Linarith
/-! Keys of one AMR block (C16): key ↔ path round trip; chains of a `next` function (`ChainTo`) and the loop that
follows one (`enumerate`); the leaf keys are the keys of the leaf paths, and `nextKey` chains them. -/
namespace CMacVerif.AMR

theorem encodeKey_pos (p : List Nat) : 1 ≤ encodeKey p := by
  induction p with
  | nil => simp [encodeKey]
  | cons i r ih => simp only [encodeKey]; omega

theorem decodeKey_step (k : Nat) (h : ¬ k ≤ 1) : decodeKey k = (k % 8) :: decodeKey (k / 8) := by
  rw [decodeKey, dif_neg h]

theorem decodeKey_one (k : Nat) (h : k ≤ 1) : decodeKey k = [] := by
  rw [decodeKey, dif_pos h]

theorem decode_encode (p : List Nat) (h : ∀ i ∈ p, i < 8) : decodeKey (encodeKey p) = p := by
  induction p with
  | nil => exact decodeKey_one _ (by simp [encodeKey])
  | cons i r ih =>
    have hi : i < 8 := h i (by simp)
    have hr := ih (fun j hj => h j (by simp [hj]))
    have hp := encodeKey_pos r
    show decodeKey (i + 8 * encodeKey r) = i :: r
    rw [decodeKey_step _ (by omega)]
    have e1 : (i + 8 * encodeKey r) % 8 = i := by omega
    have e2 : (i + 8 * encodeKey r) / 8 = encodeKey r := by omega
    rw [e1, e2, hr]

/-- valid keys: the level marker is the highest bit, at a position divisible by three -/
theorem encode_decode (n : Nat) : ∀ k : Nat, 8 ^ n ≤ k → k < 2 * 8 ^ n → encodeKey (decodeKey k) = k := by
  induction n with
  | zero =>
    intro k h1 h2
    obtain rfl : k = 1 := by omega
    rw [decodeKey_one 1 le_rfl]; rfl
  | succ n ih =>
    intro k h1 h2
    rw [pow_succ] at h1 h2
    have hpos : 1 ≤ 8 ^ n := Nat.one_le_pow _ _ (by decide)
    rw [decodeKey_step k (by omega)]
    simp only [encodeKey]
    rw [ih (k / 8) (by omega) (by omega)]
    omega

theorem decodeKey_lt8 (k : Nat) : ∀ i ∈ decodeKey k, i < 8 := by
  induction k using Nat.strong_induction_on with
  | _ k ih =>
    by_cases hk : k ≤ 1
    · rw [decodeKey_one k hk]; simp
    · rw [decodeKey_step k hk]
      intro i hi
      rcases List.mem_cons.1 hi with rfl | hi
      · omega
      · exact ih (k / 8) (by omega) i hi

theorem encodeKey_bounds (p : List Nat) (h : ∀ i ∈ p, i < 8) :
    8 ^ p.length ≤ encodeKey p ∧ encodeKey p < 2 * 8 ^ p.length := by
  induction p with
  | nil => simp [encodeKey]
  | cons i r ih =>
    have hi : i < 8 := h i (by simp)
    have := ih (fun j hj => h j (by simp [hj]))
    simp only [encodeKey, List.length_cons, pow_succ]
    omega

/-- consecutive elements are linked by `next`, the last one is mapped to `e` -/
inductive ChainTo (next : Nat → Nat) : List Nat → Nat → Prop
  | single (k e : Nat) : next k = e → ChainTo next [k] e
  | cons (k k' : Nat) (r : List Nat) (e : Nat) :
      next k = k' → ChainTo next (k' :: r) e → ChainTo next (k :: k' :: r) e

theorem ChainTo.head_ne {next : Nat → Nat} {ks : List Nat} {e : Nat} (h : ChainTo next ks e) :
    ∃ k r, ks = k :: r := by cases h <;> exact ⟨_, _, rfl⟩

theorem ChainTo.ne_nil {next : Nat → Nat} {ks : List Nat} {e : Nat} (h : ChainTo next ks e) :
    ks ≠ [] := by obtain ⟨k, r, rfl⟩ := h.head_ne; exact List.cons_ne_nil k r

theorem ChainTo.append {next : Nat → Nat} {xs ys : List Nat} {e : Nat} (y : Nat)
    (hy : ys.head? = some y) (hx : ChainTo next xs y) (hys : ChainTo next ys e) :
    ChainTo next (xs ++ ys) e := by
  obtain ⟨y', ys', rfl⟩ := hys.head_ne
  cases hy
  induction hx with
  | single k e' hk => exact ChainTo.cons k e' ys' e hk hys
  | cons k k' r e' hk _ ih => exact ChainTo.cons k k' (r ++ e' :: ys') e hk (ih hys)

theorem ChainTo.map_retarget {next next' : Nat → Nat} {ks : List Nat} {m e : Nat} (φ : Nat → Nat)
    (h : ChainTo next ks m) (hne : ∀ k ∈ ks, k ≠ m)
    (hn : ∀ k ∈ ks, next' (φ k) = if next k = m then e else φ (next k)) :
    ChainTo next' (ks.map φ) e := by
  induction h with
  | single k e' hk =>
    refine ChainTo.single _ e ?_
    rw [hn k (by simp), hk]; simp
  | cons k k' r e' hk _ ih =>
    refine ChainTo.cons _ _ _ e ?_ (ih (fun j hj => hne j (by simp [hj])) (fun j hj => hn j (by simp [hj])))
    rw [hn k (by simp), hk, if_neg (hne k' (by simp))]

theorem ChainTo.retarget {next next' : Nat → Nat} {ks : List Nat} {m e : Nat}
    (h : ChainTo next ks m) (hne : ∀ k ∈ ks, k ≠ m)
    (hn : ∀ k ∈ ks, next' k = if next k = m then e else next k) : ChainTo next' ks e := by
  simpa using ChainTo.map_retarget id h hne hn

theorem chain_flatMap_range (next : Nat → Nat) (f : Nat → List Nat) (hd : Nat → Nat) (N e : Nat) (hN : 0 < N)
    (hc : ∀ i, i < N →
      (f i).head? = some (hd i) ∧ ChainTo next (f i) (if i + 1 = N then e else hd (i + 1))) :
    ((List.range N).flatMap f).head? = some (hd 0) ∧ ChainTo next ((List.range N).flatMap f) e := by
  have key : ∀ n, n < N → ((List.range (n + 1)).flatMap f).head? = some (hd 0) ∧
      ChainTo next ((List.range (n + 1)).flatMap f) (if n + 1 = N then e else hd (n + 1)) := by
    intro n
    induction n with
    | zero => intro h; simpa using hc 0 h
    | succ n ih =>
      intro h
      obtain ⟨ihh, ihc⟩ := ih (by omega)
      obtain ⟨hh', hc'⟩ := hc (n + 1) h
      rw [if_neg (by omega)] at ihc
      rw [List.range_succ, List.flatMap_append]
      simp only [List.flatMap_cons, List.flatMap_nil, List.append_nil]
      refine ⟨?_, ChainTo.append _ hh' ihc hc'⟩
      rw [List.head?_append, ihh]; rfl
  obtain ⟨n, rfl⟩ : ∃ n, N = n + 1 := ⟨N - 1, by omega⟩
  simpa using key n (Nat.lt_succ_self n)

theorem enumerate_of_chain {next : Nat → Nat} {ks : List Nat} {stop k0 : Nat} (hh : ks.head? = some k0)
    (h : ChainTo next ks stop) (hne : ∀ k ∈ ks, k ≠ stop) :
    ∀ fuel, ks.length < fuel → enumerate next stop fuel k0 = ks := by
  induction h generalizing k0 with
  | single k e hk =>
    intro fuel hf
    obtain ⟨f, rfl⟩ : ∃ f, fuel = f + 2 := ⟨fuel - 2, by simp at hf; omega⟩
    cases hh
    simp [enumerate, hne k, hk]
  | cons k k' r e hk _ ih =>
    intro fuel hf
    obtain ⟨f, rfl⟩ : ∃ f, fuel = f + 1 := ⟨fuel - 1, by simp at hf; omega⟩
    cases hh
    simp [enumerate, hne k, hk, ih rfl (fun j hj => hne j (by simp [hj])) f (by simp at hf ⊢; omega)]

/-! `kid c i` is `c ⟨i % 8, _⟩`; the node lemmas put the model's `c 0, …, c 7` into that form. -/

theorem Tree.kid_induction {P : Tree → Prop} (leaf : P .leaf)
    (node : ∀ c, (∀ i, P (kid c i)) → P (.node c)) (t : Tree) : P t := by
  induction t with
  | leaf => exact leaf
  | node c ih => exact node c fun i => ih _

theorem range_eight : List.range 8 = [0, 1, 2, 3, 4, 5, 6, 7] := rfl

theorem leafKeys_node (c : Fin 8 → Tree) (L pre : Nat) :
    leafKeys (.node c) L pre
      = (List.range 8).flatMap fun i => leafKeys (kid c i) (L + 1) (pre + i * 2 ^ (3 * L)) := by
  simp only [leafKeys, range_eight, List.flatMap_cons, List.flatMap_nil, List.append_nil, List.append_assoc]
  rfl

theorem leafPaths_node (c : Fin 8 → Tree) :
    leafPaths (.node c) = (List.range 8).flatMap fun i => (leafPaths (kid c i)).map (i :: ·) := by
  simp only [leafPaths, range_eight, List.flatMap_cons, List.flatMap_nil, List.append_nil, List.append_assoc]
  rfl

theorem numLeaves_node (c : Fin 8 → Tree) :
    numLeaves (.node c) = ((List.range 8).map fun i => numLeaves (kid c i)).sum := by
  simp only [numLeaves, range_eight, List.map_cons, List.map_nil, List.sum_cons, List.sum_nil, Nat.add_assoc,
    Nat.add_zero]
  rfl

theorem depth_node (c : Fin 8 → Tree) :
    depth (.node c) = 1 + ((List.range 8).map fun i => depth (kid c i)).foldr max 0 := by
  simp only [depth, range_eight, List.map_cons, List.map_nil, List.foldr_cons, List.foldr_nil, max_assoc,
    Nat.max_zero]
  rfl

theorem le_foldr_max (l : List Nat) (x : Nat) (h : x ∈ l) : x ≤ l.foldr max 0 := by
  induction l with
  | nil => simp at h
  | cons a l ih =>
    rcases List.mem_cons.1 h with rfl | h
    · exact le_max_left _ _
    · exact le_trans (ih h) (le_max_right _ _)

theorem depth_kid_succ_le (c : Fin 8 → Tree) (i : Nat) : depth (kid c i) + 1 ≤ depth (.node c) := by
  rw [depth_node, Nat.add_comm, show kid c i = kid c (i % 8) by unfold kid; simp only [Nat.mod_mod]]
  exact Nat.add_le_add_left (le_foldr_max _ (depth (kid c (i % 8)))
    (List.mem_map.2 ⟨i % 8, List.mem_range.2 (Nat.mod_lt _ (by decide)), rfl⟩)) 1

theorem mem_leafPaths_node (c : Fin 8 → Tree) (π : List Nat) :
    π ∈ leafPaths (.node c) ↔ ∃ i r, i < 8 ∧ r ∈ leafPaths (kid c i) ∧ π = i :: r := by
  simp only [leafPaths_node, List.mem_flatMap, List.mem_range, List.mem_map]
  constructor
  · rintro ⟨i, hi, r, hr, rfl⟩; exact ⟨i, r, hi, hr, rfl⟩
  · rintro ⟨i, r, hi, hr, rfl⟩; exact ⟨i, hi, r, hr, rfl⟩

theorem leaf_induction {P : Tree → List Nat → Prop} (leaf : P .leaf [])
    (node : ∀ c i r, i < 8 → r ∈ leafPaths (kid c i) → P (kid c i) r → P (.node c) (i :: r)) :
    ∀ t, ∀ π ∈ leafPaths t, P t π := by
  intro t
  induction t using Tree.kid_induction with
  | leaf => intro π h; rw [List.mem_singleton.1 h]; exact leaf
  | node c ih =>
    intro π h
    obtain ⟨i, r, hi, hr, rfl⟩ := (mem_leafPaths_node c π).1 h
    exact node c i r hi hr (ih i r hr)

theorem leafPaths_digits : ∀ t, ∀ π ∈ leafPaths t, ∀ i ∈ π, i < 8 :=
  leaf_induction (by simp) fun _ i _ hi _ ih => List.forall_mem_cons.2 ⟨hi, ih⟩

theorem leafPaths_length_le : ∀ t, ∀ π ∈ leafPaths t, π.length ≤ depth t :=
  leaf_induction (Nat.zero_le _) fun c i _ _ _ ih => (Nat.succ_le_succ ih).trans (depth_kid_succ_le c i)

theorem pow_three_succ (L : Nat) : 2 ^ (3 * (L + 1)) = 8 * 2 ^ (3 * L) := by
  rw [show 3 * (L + 1) = 3 * L + 3 by ring, pow_add]; norm_num; ring

theorem leafKeys_eq_map (t : Tree) : ∀ (L pre : Nat),
    leafKeys t L pre = (leafPaths t).map (fun π => pre + 2 ^ (3 * L) * encodeKey π) := by
  induction t using Tree.kid_induction with
  | leaf => intro L pre; simp [leafKeys, leafPaths, encodeKey]
  | node c ih =>
    intro L pre
    rw [leafKeys_node, leafPaths_node, List.map_flatMap]
    congr 1; funext i
    rw [ih i, List.map_map]
    apply List.map_congr_left
    intro π _
    simp only [Function.comp, encodeKey, pow_three_succ]; ring

/-- keys of trees of depth ≤ 10 fit in 31 bits; in particular they are never the sentinel -/
theorem key_lt (L d pre e : Nat) (hpre : pre < 2 ^ (3 * L)) (he : e < 2 * 8 ^ d) (hd : L + d ≤ 10) :
    pre + 2 ^ (3 * L) * e < 2 ^ 31 := by
  have h1 : 2 ^ (3 * L) * (e + 1) ≤ 2 ^ (3 * L) * (2 * 8 ^ d) := Nat.mul_le_mul_left _ (by omega)
  have h2 : 2 ^ (3 * L) * (2 * 8 ^ d) = 2 * 2 ^ (3 * (L + d)) := by
    rw [show 8 ^ d = 2 ^ (3 * d) by rw [pow_mul]; norm_num, show 3 * (L + d) = 3 * L + 3 * d by ring, pow_add]; ring
  have h3 : 2 ^ (3 * (L + d)) ≤ 2 ^ 30 := Nat.pow_le_pow_right (by decide) (by omega)
  have h4 : 2 ^ (3 * L) * (e + 1) = 2 ^ (3 * L) * e + 2 ^ (3 * L) := by ring
  omega

theorem leafKeys_lt (t : Tree) (L pre k : Nat) (hk : k ∈ leafKeys t L pre) (hpre : pre < 2 ^ (3 * L))
    (hd : L + depth t ≤ 10) : k < 2 ^ 31 := by
  rw [leafKeys_eq_map] at hk
  obtain ⟨π, hπ, rfl⟩ := List.mem_map.1 hk
  have := (encodeKey_bounds π (leafPaths_digits t π hπ)).2
  have := Nat.pow_le_pow_right (show 0 < 8 by decide) (leafPaths_length_le t π hπ)
  exact key_lt L _ pre _ hpre (by omega) hd

theorem leafKeys_ne_nil (t : Tree) : ∀ (L pre : Nat), leafKeys t L pre ≠ [] := by
  induction t with
  | leaf => intro L pre; simp [leafKeys]
  | node c ih => intro L pre; simp only [leafKeys]; simp [ih]

theorem nextKey_node (c : Fin 8 → Tree) (k L i : Nat) (h : (k / 2 ^ (3 * L)) % 8 = i) :
    nextKey (.node c) k L =
      if nextKey (kid c i) k (L + 1) = maxKey then
        if i = 7 then maxKey
        else firstKey (kid c (i + 1)) (L + 1) + (k - (k / 2 ^ (3 * L)) * 2 ^ (3 * L)) + (i + 1) * 2 ^ (3 * L)
      else nextKey (kid c i) k (L + 1) := by
  subst h
  simp only [nextKey, kid, Nat.mod_mod]

theorem nextKey_chain (t : Tree) : ∀ (L pre : Nat), pre < 2 ^ (3 * L) → L + depth t ≤ 10 →
    (leafKeys t L pre).head? = some (pre + firstKey t L) ∧
    ChainTo (fun k => nextKey t k L) (leafKeys t L pre) maxKey := by
  induction t using Tree.kid_induction with
  | leaf =>
    intro L pre _ _
    simp only [leafKeys, firstKey, List.head?_cons, one_mul, true_and]
    exact ChainTo.single _ _ rfl
  | node c ih =>
    intro L pre hpre hd
    have hP : 0 < 2 ^ (3 * L) := Nat.pos_of_ne_zero (by positivity)
    rw [leafKeys_node]
    -- the keys below child `i`: a chain for `nextKey (.node c)` that ends at the first key below
    -- child `i + 1`
    have seg : ∀ i, i < 8 →
        (leafKeys (kid c i) (L + 1) (pre + i * 2 ^ (3 * L))).head?
          = some (pre + i * 2 ^ (3 * L) + firstKey (kid c i) (L + 1)) ∧
        ChainTo (fun k => nextKey (.node c) k L) (leafKeys (kid c i) (L + 1) (pre + i * 2 ^ (3 * L)))
          (if i + 1 = 8 then maxKey else pre + (i + 1) * 2 ^ (3 * L) + firstKey (kid c (i + 1)) (L + 1)) := by
      intro i hi
      have hpre' : pre + i * 2 ^ (3 * L) < 2 ^ (3 * (L + 1)) := by
        rw [pow_three_succ]
        have : i * 2 ^ (3 * L) ≤ 7 * 2 ^ (3 * L) := Nat.mul_le_mul_right _ (by omega)
        omega
      have hd' : L + 1 + depth (kid c i) ≤ 10 := by have := depth_kid_succ_le c i; omega
      obtain ⟨hhead, hchain⟩ := ih i (L + 1) _ hpre' hd'
      refine ⟨hhead, ChainTo.retarget hchain ?_ ?_⟩
      · intro k hk
        have := leafKeys_lt _ (L + 1) _ k hk hpre' hd'
        unfold maxKey; omega
      · intro k hk
        rw [leafKeys_eq_map] at hk
        obtain ⟨π, _, rfl⟩ := List.mem_map.1 hk
        generalize encodeKey π = e'
        set k := pre + i * 2 ^ (3 * L) + 2 ^ (3 * (L + 1)) * e' with he
        have hk' : k = pre + 2 ^ (3 * L) * (i + 8 * e') := by rw [he, pow_three_succ]; ring
        have hdiv : k / 2 ^ (3 * L) = i + 8 * e' := by
          rw [hk', Nat.add_mul_div_left _ _ hP, Nat.div_eq_of_lt hpre]; simp
        have hlow : k - (k / 2 ^ (3 * L)) * 2 ^ (3 * L) = pre := by
          rw [hdiv, hk', Nat.mul_comm]; omega
        rw [nextKey_node c k L i (by rw [hdiv]; omega), hlow]
        by_cases h7 : i = 7
        · simp only [h7, if_true]
        · rw [if_neg h7, if_neg (show ¬ i + 1 = 8 by omega)]
          by_cases hm : nextKey (kid c i) k (L + 1) = maxKey
          · simp only [hm, if_true]; ring
          · simp only [hm, if_false]
    have h0 : pre + 0 * 2 ^ (3 * L) + firstKey (kid c 0) (L + 1) = pre + firstKey (.node c) L := by
      rw [Nat.zero_mul, Nat.add_zero]; rfl
    rw [← h0]
    exact chain_flatMap_range (fun k => nextKey (.node c) k L) _ _ 8 maxKey (by decide) seg

end CMacVerif.AMR
