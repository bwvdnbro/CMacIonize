import CMacVerif.Lemmas.AtomicsFrame
import CMacVerif.Model.AtomicsMaint
/-!
C08 lemmas: the slot pool (`ThreadSafeVector`, `MemorySpace`): the invariants `SlotInv` (for every slot index `i`,
Σ_threads holdS i = [flags i]), `SlotWf` (every slot index a thread refers to is `< size`, and the target of a running
`add_photons` is in the caller's hands), `CountInv` (occupancy counter against set flags; the three together are
`PoolInv`), `PhotonInv`, the sums `sumN` / `cnt` over the slot indices, and solo progress of the search loop of
`get_free_element`.
-/
namespace CMacVerif.Atomics

/-- slot held because of where the thread is in its current call -/
def pcHoldS : PC → Nat → Nat
  | .getCount j _, i => ind (i = j)
  | .getMax j _ _, i => ind (i = j)
  | .getMaxCas j _ _ _, i => ind (i = j)
  | .getTotal j _, i => ind (i = j)
  | .freeReset j, i => ind (i = j)
  | .freeYield j, i => ind (i = j)
  | .freeUnlock j, i => ind (i = j)
  | .idle, _ | .getCheck _, _ | .getInc _, _ | .getCas _ _, _ | .apFill _ _, _ | .apPlace _ _, _
  | .crashed _, _ | .freeDec _, _ | .lockSpin _, _ | .lockTry _, _ | .unlockL _, _ | .tlStart _ _, _
  | .tl0 _ _, _ | .tl1 _ _, _ | .tlBack _ _, _ | .tuStart _, _ | .tu1 _, _ | .tu0 _, _ | .addLock _ _ _, _ | .numInc _ _ _, _ | .relDec _ _ _, _ | .retire _, _ | .setUnf _ _, _ | .loadNum, _
  | .addBody _ _ _, _ | .addUnlock _ _ _, _ | .popLock _ _, _ | .popInit _, _ | .popScan _ _, _
  | .popRemove _ _ _, _ | .popUnlock _ _, _ | .qsz _, _ | .cInc _, _ | .cDec _, _ | .cPostInc _, _
  | .cPreAdd _ _, _ | .cPostAdd _ _, _ | .cPreSub _ _, _ | .cLoad _, _ | .cAwait _ _, _ | .lfLoad _ _, _
  | .lfCas _ _ _, _ | .cMax _ _, _ | .cMaxCas _ _ _, _ | .cLoadMx _, _ | .loadTaken, _ => 0

/-- how many times thread `th` holds slot `i`: in the caller's hands, or between the
successful CAS and the return of `get`, or between the call of `free` and its CAS -/
def holdS (i : Nat) (th : Thread) : Nat := th.owned.count i + pcHoldS th.pc i

def SlotInv (s : State) : Prop := ∀ i, sumT (holdS i) s.threads = (s.mem.flags i).toNat

theorem slot_flag {s : State} {k i : Nat} {th : Thread} (hS : SlotInv s) (hth : s.threads[k]? = some th)
    (h : 1 ≤ holdS i th) : s.mem.flags i = true :=
  sumT_toNat_pos _ (hS i) hth h

theorem SlotInv.excl {s : State} (h : SlotInv s) (i : Nat) {k j : Nat} {a b : Thread}
    (hk : s.threads[k]? = some a) (hj : s.threads[j]? = some b) (hne : k ≠ j) (ha : 1 ≤ holdS i a) : holdS i b = 0 :=
  sumT_toNat_excl _ _ _ (h i) k j a b hk hj hne ha

/-- the slot index a program counter refers to -/
def pcSlot : PC → Option Nat
  | .getCas j _ | .getCount j _ | .getMax j _ _ | .getMaxCas j _ _ _ | .getTotal j _ | .freeReset j | .freeYield j | .freeUnlock j
  | .apFill j _ | .apPlace j _ => some j
  | _ => none

def ThreadWf (cfg : Cfg) (th : Thread) : Prop :=
  (∀ i ∈ th.owned, i < cfg.size) ∧ (∀ j, pcSlot th.pc = some j → j < cfg.size) ∧
  (∀ j n, th.pc = .apFill j n → j ∈ th.owned) ∧ (∀ j r, th.pc = .apPlace j r → j ∈ th.owned)

theorem ThreadWf.owned_lt {cfg : Cfg} {th : Thread} (h : ThreadWf cfg th) : ∀ i ∈ th.owned, i < cfg.size := h.1
theorem ThreadWf.slot_lt {cfg : Cfg} {th : Thread} (h : ThreadWf cfg th) :
    ∀ j, pcSlot th.pc = some j → j < cfg.size := h.2.1
theorem ThreadWf.apFill_owned {cfg : Cfg} {th : Thread} (h : ThreadWf cfg th) :
    ∀ j n, th.pc = .apFill j n → j ∈ th.owned := h.2.2.1
theorem ThreadWf.apPlace_owned {cfg : Cfg} {th : Thread} (h : ThreadWf cfg th) :
    ∀ j r, th.pc = .apPlace j r → j ∈ th.owned := h.2.2.2

def SlotWf (cfg : Cfg) (s : State) : Prop := ∀ th ∈ s.threads, ThreadWf cfg th

/-- number of set flags among the first `n` -/
def cnt (f : Nat → Bool) : Nat → Nat
  | 0 => 0
  | n + 1 => cnt f n + (f n).toNat

/-- Σ_{i<n} f i -/
def sumN (f : Nat → Nat) : Nat → Nat
  | 0 => 0
  | n + 1 => sumN f n + f n

theorem sumN_eq (f : Nat → Nat) (n : Nat) : sumN f n = ((List.range n).map f).sum := by
  induction n with
  | zero => rfl
  | succ n ih => rw [List.range_succ, List.map_append, List.sum_append_nat, ← ih]; simp [sumN]

theorem sumN_upd (f : Nat → Nat) (j n v : Nat) (h : j < n) :
    sumN (upd f j v) n + f j = sumN f n + v := by
  have := ListSum.sum_map_update List.nodup_range (List.mem_range.mpr h) (f := f) (f' := upd f j v)
    fun x _ hx => upd_other f j x v hx
  rwa [upd_same, ← sumN_eq, ← sumN_eq] at this

theorem cnt_eq_sumN (f : Nat → Bool) (n : Nat) : cnt f n = sumN (fun i => (f i).toNat) n := by
  induction n with
  | zero => rfl
  | succ n ih => simp only [cnt, sumN, ih]

theorem cnt_upd (f : Nat → Bool) (j n : Nat) (b : Bool) (h : j < n) :
    cnt (upd f j b) n + (f j).toNat = cnt f n + b.toNat := by
  rw [cnt_eq_sumN, cnt_eq_sumN, upd_comp Bool.toNat]
  exact sumN_upd _ j n _ h

theorem cnt_zero (f : Nat → Bool) (n : Nat) (h : ∀ i, i < n → f i = false) : cnt f n = 0 := by
  induction n with
  | zero => rfl
  | succ n ih => simp only [cnt, ih (fun i hi => h i (by omega)), h n (by omega)]; rfl

theorem sumN_zero (n : Nat) : sumN (fun _ => 0) n = 0 := by
  rw [sumN_eq]; exact ListSum.sum_map_eq_zero.mpr fun _ _ => rfl

theorem sumN_add (f g : Nat → Nat) (n : Nat) : sumN (fun i => f i + g i) n = sumN f n + sumN g n := by
  simp only [sumN_eq]; exact ListSum.sum_map_add f g _

theorem sumN_congr (f g : Nat → Nat) (n : Nat) (h : ∀ i, i < n → f i = g i) : sumN f n = sumN g n := by
  rw [sumN_eq, sumN_eq, List.map_congr_left fun i hi => h i (List.mem_range.mp hi)]

theorem le_sumN (f : Nat → Nat) (n j : Nat) (h : j < n) : f j ≤ sumN f n :=
  sumN_eq f n ▸ ListSum.le_sum_map (List.mem_range.mpr h) f

theorem sumN_sumT (g : Nat → Thread → Nat) (l : List Thread) (n : Nat) :
    sumN (fun i => sumT (g i) l) n = sumT (fun th => sumN (fun i => g i th) n) l := by
  induction l with
  | nil => simp [sumN_zero]
  | cons a l ih => simp only [sumT_cons, sumN_add, ih]

theorem sumN_count (l : List Nat) (n : Nat) (h : ∀ x ∈ l, x < n) : sumN (fun i => l.count i) n = l.length := by
  rw [sumN_eq]; exact ListSum.sum_map_count List.nodup_range l fun x hx => List.mem_range.mpr (h x hx)

theorem holdS_dispatch (cfg : Cfg) (i : Nat) (th : Thread) (c : Cmd) (hpc : th.pc = .idle) :
    holdS i (dispatch cfg th c) = holdS i th := by
  obtain ⟨pc, prog, owned⟩ := th
  cases hpc
  cases c <;> simp only [dispatch]
  case free j | freeBuf j =>
    split
    · rename_i k hk
      have := count_erase_add owned k i (pick_mem _ _ _ hk)
      simp only [holdS, pcHoldS]; omega
    · rfl
  all_goals (repeat' split) <;> rfl

theorem pcHoldS_of_part (pc : PC) (i : Nat) (h : pc.part ≠ some .pool) : pcHoldS pc i = 0 := by
  cases pc <;> first | rfl | exact absurd rfl h

theorem exec_holdS (cfg : Cfg) (m : Mem) (th : Thread) (i : Nat)
    (h : holdS i th ≤ (m.flags i).toNat) :
    (m.flags i).toNat + holdS i (exec cfg m th).2
      = ((exec cfg m th).1.flags i).toNat + holdS i th := by
  refine exec_pool_cases cfg m th (fun _ _ => rfl)
    (fun c rest hpc _ => congrArg _ (holdS_dispatch cfg i _ c hpc)) ?own fun hs hold hnew => ?other
  case own =>
    rintro th pc r rfl hs
    cases hs
    case slotTaken j r hf => simp only [holdS, pcHoldS, toNat_upd_true _ _ _ hf]; omega
    case releaseSlot j => simp only [holdS, pcHoldS, toNat_upd_false] at h ⊢; omega
    case handOut j r => cases r <;> simp only [getDone, ret, holdS, pcHoldS, count_cons_ind] <;> omega
    all_goals rfl
  case other =>
    unfold holdS
    rw [hs.flags, hs.owned, pcHoldS_of_part _ i hold, pcHoldS_of_part _ i hnew]

theorem slotInv_step (cfg : Cfg) (s : State) (tid : Nat) (h : SlotInv s) : SlotInv (step cfg s tid) := by
  intro i
  exact sumT_balance_step cfg (holdS i) (fun m => (m.flags i).toNat) (fun m th => exec_holdS cfg m th i) s tid (h i)

theorem slotInv_init (progs : List (List Cmd)) : SlotInv (init progs) := by
  intro i
  rw [sumT_init _ _ fun _ => rfl]
  rfl

theorem slotInv_run (cfg : Cfg) (progs : List (List Cmd)) (sched : List Nat) :
    SlotInv (run cfg (init progs) sched) :=
  run_inv cfg SlotInv (slotInv_step cfg) _ sched (slotInv_init progs)

theorem threadWf_of_pcSlot_none (cfg : Cfg) (th : Thread) (ho : ∀ i ∈ th.owned, i < cfg.size)
    (hs : pcSlot th.pc = none) : ThreadWf cfg th := by
  refine ⟨ho, fun j hj => ?_, fun j n hj => ?_, fun j r hj => ?_⟩
  · rw [hs] at hj; cases hj
  · rw [hj] at hs; cases hs
  · rw [hj] at hs; cases hs

theorem threadWf_dispatch (cfg : Cfg) (th : Thread) (c : Cmd) (h : ThreadWf cfg th) : ThreadWf cfg (dispatch cfg th c) := by
  obtain ⟨pc⟩ := th
  cases c <;> simp only [dispatch]
  case free j | freeBuf j =>
    split
    · rename_i i hi
      exact ⟨fun i hi => h.owned_lt i (List.mem_of_mem_erase hi), fun j hj => by cases hj; exact h.owned_lt _ (pick_mem _ _ _ hi), nofun, nofun⟩
    · exact threadWf_of_pcSlot_none _ _ h.owned_lt rfl
  case addPhotons j n =>
    split
    · rename_i i hi
      have hm := pick_mem _ _ _ hi
      exact ⟨h.owned_lt, fun j hj => by cases hj; exact h.owned_lt _ hm, fun j n hj => by cases hj; exact hm, nofun⟩
    · exact threadWf_of_pcSlot_none _ _ h.owned_lt rfl
  all_goals (repeat' split) <;> exact threadWf_of_pcSlot_none _ _ h.owned_lt rfl

theorem pcSlot_of_part (pc : PC) (h : pc.part ≠ some .pool) : pcSlot pc = none := by
  cases pc <;> first | rfl | exact absurd rfl h

theorem threadWf_exec (cfg : Cfg) (m : Mem) (th : Thread) (hs : 0 < cfg.size)
    (h : ThreadWf cfg th) : ThreadWf cfg (exec cfg m th).2 := by
  refine exec_pool_cases cfg m th (fun _ _ => h)
    (fun c rest _ _ => threadWf_dispatch cfg _ c h) ?own fun hs hold hnew => ?other
  case own =>
    rintro th pc r rfl hs
    cases hs
    case advanceCursor r => exact ⟨h.owned_lt, fun j hj => by cases hj; exact Nat.mod_lt _ hs, nofun, nofun⟩
    -- the slot index is passed on
    case slotTaken j r _ | countUp j r | loadMax j n r | storeMax j n old r _ | maxRaced j n old r _ | wipeBuffer j
        | yieldBeforeRelease j => exact ⟨h.owned_lt, h.slot_lt, nofun, nofun⟩
    case handOut j r =>
      have ho : ∀ i ∈ j :: th.owned, i < cfg.size := List.forall_mem_cons.mpr ⟨h.slot_lt j rfl, h.owned_lt⟩
      cases r
      · exact threadWf_of_pcSlot_none _ _ ho rfl
      · exact ⟨ho, h.slot_lt, nofun, fun j r hj => by cases hj; exact List.mem_cons_self⟩
    all_goals exact threadWf_of_pcSlot_none _ _ h.owned_lt rfl
  case other =>
    refine threadWf_of_pcSlot_none _ _ ?_ (pcSlot_of_part _ hnew)
    rw [hs.owned]; exact h.owned_lt

theorem slotWf_step (cfg : Cfg) (hs : 0 < cfg.size) (s : State) (tid : Nat) (h : SlotWf cfg s) :
    SlotWf cfg (step cfg s tid) :=
  step_inv cfg _ s tid h fun th hth =>
    forall_mem_set h (threadWf_exec cfg s.mem th hs (h th (List.mem_of_getElem? hth)))

theorem slotWf_init (cfg : Cfg) (progs : List (List Cmd)) : SlotWf cfg (init progs) := by
  intro th hth
  obtain ⟨p, _, rfl⟩ := List.mem_map.mp hth
  exact threadWf_of_pcSlot_none _ _ nofun rfl

def incPC : PC → Nat | .getCount _ _ => 1 | _ => 0
def decPC : PC → Nat | .freeDec _ => 1 | _ => 0
/-- the thread has set a slot flag but not yet incremented `_number_taken` -/
def incP (th : Thread) : Nat := incPC th.pc
/-- the thread has cleared a slot flag but not yet decremented `_number_taken` -/
def decP (th : Thread) : Nat := decPC th.pc

/-- `_number_taken + #pending increments = #flags set + #pending decrements` -/
def CountInv (cfg : Cfg) (s : State) : Prop :=
  s.mem.taken + (sumT incP s.threads : Int) = (cnt s.mem.flags cfg.size : Int) + (sumT decP s.threads : Int)

theorem incdec_dispatch (cfg : Cfg) (th : Thread) (c : Cmd) :
    incP (dispatch cfg th c) = 0 ∧ decP (dispatch cfg th c) = 0 := by
  cases c <;> simp only [dispatch] <;> (repeat' split) <;> exact ⟨rfl, rfl⟩

theorem incdec_of_part (pc : PC) (h : pc.part ≠ some .pool) : incPC pc = 0 ∧ decPC pc = 0 := by
  cases pc <;> first | exact ⟨rfl, rfl⟩ | exact absurd rfl h

theorem exec_count (cfg : Cfg) (m : Mem) (th : Thread) (hwf : ThreadWf cfg th)
    (hfl : ∀ j, th.pc = .freeUnlock j → m.flags j = true) :
    (exec cfg m th).1.taken + (incP (exec cfg m th).2 : Int) + (cnt m.flags cfg.size : Int) + (decP th : Int)
      = m.taken + (incP th : Int) + (cnt (exec cfg m th).1.flags cfg.size : Int) + (decP (exec cfg m th).2 : Int) := by
  refine exec_pool_cases cfg m th (fun _ _ => rfl)
    (fun c rest hpc _ => by
      rw [(incdec_dispatch cfg _ c).1, (incdec_dispatch cfg _ c).2]; simp only [incP, decP, hpc]; rfl)
    ?own fun hs hold hnew => ?other
  case own =>
    rintro th pc r rfl hs
    cases hs
    case slotTaken j r hf =>
      have := cnt_upd m.flags j cfg.size true (hwf.slot_lt j rfl)
      rw [hf] at this
      simp only [incP, decP, incPC, decPC, Bool.toNat_true, Bool.toNat_false] at this ⊢
      omega
    case releaseSlot j =>
      have := cnt_upd m.flags j cfg.size false (hwf.slot_lt j rfl)
      rw [hfl j rfl] at this
      simp only [incP, decP, incPC, decPC, Bool.toNat_true, Bool.toNat_false] at this ⊢
      omega
    case countUp j r | countDown j => simp only [incP, decP, incPC, decPC, ret]; omega
    case handOut j r => cases r <;> rfl
    all_goals rfl
  case other =>
    have h1 := incdec_of_part _ hnew
    have h2 := incdec_of_part th.pc hold
    unfold incP decP
    rw [hs.flags, hs.taken, h1.1, h1.2, h2.1, h2.2]

/-- the three pool invariants together (`CountInv` is preserved only together with the other two:
it needs the slot invariant at `free_element`'s CAS) -/
def PoolInv (cfg : Cfg) (s : State) : Prop := SlotInv s ∧ SlotWf cfg s ∧ CountInv cfg s

theorem PoolInv.slot {cfg : Cfg} {s : State} (h : PoolInv cfg s) : SlotInv s := h.1
theorem PoolInv.wf {cfg : Cfg} {s : State} (h : PoolInv cfg s) : SlotWf cfg s := h.2.1
theorem PoolInv.count {cfg : Cfg} {s : State} (h : PoolInv cfg s) : CountInv cfg s := h.2.2

theorem holdS_pos_of_owned {i : Nat} {th : Thread} (h : i ∈ th.owned) : 1 ≤ holdS i th :=
  Nat.le_add_right_of_le (List.count_pos_iff.mpr h)

theorem holdS_idle (i : Nat) (th : Thread) (h : th.pc = .idle) : holdS i th = th.owned.count i := by
  simp [holdS, h, pcHoldS]

theorem incdec_idle (th : Thread) (h : th.pc = .idle) : incP th = 0 ∧ decP th = 0 := by
  simp [incP, decP, incPC, decPC, h]

/-- with no `get` / `free` between its flag operation and its counter operation, the count invariant says that the
occupancy counter is the number of set flags -/
theorem countInv_settled (cfg : Cfg) (s : State) (hq : ∀ th ∈ s.threads, incP th = 0 ∧ decP th = 0) :
    CountInv cfg s ↔ s.mem.taken = cnt s.mem.flags cfg.size := by
  unfold CountInv
  rw [sumT_eq_zero incP _ fun th hth => (hq th hth).1, sumT_eq_zero decP _ fun th hth => (hq th hth).2]
  simp

theorem poolInv_step (cfg : Cfg) (hs : 0 < cfg.size) (s : State) (tid : Nat) (h : PoolInv cfg s) :
    PoolInv cfg (step cfg s tid) := by
  obtain ⟨h1, h2, h3⟩ := h
  refine ⟨slotInv_step cfg s tid h1, slotWf_step cfg hs s tid h2, ?_⟩
  refine step_inv cfg _ s tid h3 fun th hth => ?_
  have hfi := sumT_set incP s.threads tid th (exec cfg s.mem th).2 hth
  have hfd := sumT_set decP s.threads tid th (exec cfg s.mem th).2 hth
  have hloc := exec_count cfg s.mem th (h2 th (List.mem_of_getElem? hth))
    fun j hj => slot_flag h1 hth (by simp [holdS, hj, pcHoldS, ind])
  unfold CountInv at *
  simp only
  omega

theorem poolInv_init (cfg : Cfg) (progs : List (List Cmd)) : PoolInv cfg (init progs) := by
  refine ⟨slotInv_init progs, slotWf_init cfg progs, ?_⟩
  unfold CountInv
  rw [sumT_init _ _ fun _ => rfl, sumT_init _ _ fun _ => rfl, cnt_zero (init progs).mem.flags _ fun _ _ => rfl]
  rfl

theorem poolInv_run_from (cfg : Cfg) (hs : 0 < cfg.size) (s : State) (sched : List Nat) (h : PoolInv cfg s) :
    PoolInv cfg (run cfg s sched) :=
  run_inv cfg (PoolInv cfg) (poolInv_step cfg hs) s sched h

theorem poolInv_run (cfg : Cfg) (hs : 0 < cfg.size) (progs : List (List Cmd)) (sched : List Nat) :
    PoolInv cfg (run cfg (init progs) sched) :=
  poolInv_run_from cfg hs _ sched (poolInv_init cfg progs)

def pendO : Option Nat → Nat
  | none => 0
  | some r => r

/-- packets taken out of the input buffer of `add_photons` but not yet stored in a pool buffer -/
def pendPC : PC → Nat
  | .getCheck r => pendO r
  | .getInc r => pendO r
  | .getCas _ r => pendO r
  | .getCount _ r => pendO r
  | .getMax _ _ r => pendO r
  | .getMaxCas _ _ _ r => pendO r
  | .getTotal _ r => pendO r
  | .apPlace _ r => r
  | .crashed r => r
  | _ => 0

def pend (th : Thread) : Nat := pendPC th.pc

/-- packets injected = packets in buffers + in flight + discarded by free_buffer + lost -/
def PhotonInv (cfg : Cfg) (s : State) : Prop :=
  sumN s.mem.count cfg.size + sumT pend s.threads + sumT (·.disc) s.threads + sumT (·.lost) s.threads
    = sumT (·.inj) s.threads

theorem pendPC_dispatch (cfg : Cfg) (th : Thread) (c : Cmd) : pendPC (dispatch cfg th c).pc = 0 := by
  cases c <;> simp only [dispatch] <;> (repeat' split) <;> rfl

theorem pendPC_of_part (pc : PC) (h : pc.part ≠ some .pool) : pendPC pc = 0 := by
  cases pc <;> first | rfl | exact absurd rfl h

theorem exec_photon (cfg : Cfg) (m : Mem) (th : Thread) (hwf : ThreadWf cfg th) :
    sumN (exec cfg m th).1.count cfg.size + pend (exec cfg m th).2 + (exec cfg m th).2.disc
        + (exec cfg m th).2.lost + th.inj
      = sumN m.count cfg.size + pend th + th.disc + th.lost + (exec cfg m th).2.inj := by
  refine exec_pool_cases cfg m th (fun _ _ => rfl)
    (fun c rest hpc _ => by
      have h := dispatch_frame cfg { th with prog := rest } c
      simp only [pend, pendPC_dispatch, congrArg (·.disc) h, congrArg (·.lost) h, congrArg (·.inj) h]
      rw [hpc]; rfl)
    ?own fun hs hold hnew => ?other
  case own =>
    rintro th pc r rfl hs
    cases hs
    case fillSpill tgt n moved hm _ | fillFits tgt n moved hm _ =>
      have := sumN_upd m.count tgt cfg.size (m.count tgt + moved) (hwf.slot_lt tgt rfl)
      simp only [pend, pendPC, pendO, ret]; omega
    case placeRest i r =>
      have := sumN_upd m.count i cfg.size (m.count i + r) (hwf.slot_lt i rfl)
      simp only [pend, pendPC, ret]; omega
    case wipeBuffer i =>
      have := sumN_upd m.count i cfg.size 0 (hwf.slot_lt i rfl)
      simp only [pend, pendPC]; omega
    case handOut j r => cases r <;> rfl
    all_goals rfl
  case other =>
    unfold pend
    rw [hs.count, hs.inj, hs.disc, hs.lost, pendPC_of_part _ hnew,
      pendPC_of_part th.pc hold]

theorem photonInv_step (cfg : Cfg) (s : State) (tid : Nat) (hw : SlotWf cfg s) (h : PhotonInv cfg s) :
    PhotonInv cfg (step cfg s tid) := by
  refine step_inv cfg _ s tid h fun th hth => ?_
  have h1 := sumT_set pend s.threads tid th (exec cfg s.mem th).2 hth
  have h2 := sumT_set (·.disc) s.threads tid th (exec cfg s.mem th).2 hth
  have h3 := sumT_set (·.lost) s.threads tid th (exec cfg s.mem th).2 hth
  have h4 := sumT_set (·.inj) s.threads tid th (exec cfg s.mem th).2 hth
  have hloc := exec_photon cfg s.mem th (hw th (List.mem_of_getElem? hth))
  unfold PhotonInv at *
  simp only at *
  omega

theorem photonInv_run (cfg : Cfg) (hs : 0 < cfg.size) (progs : List (List Cmd)) (sched : List Nat) :
    PhotonInv cfg (run cfg (init progs) sched) := by
  refine run_ind cfg progs (PhotonInv cfg) ?_
    (fun pre tid => photonInv_step cfg _ tid (poolInv_run cfg hs progs pre).wf) sched
  unfold PhotonInv
  rw [sumT_init _ _ fun _ => rfl, sumT_init _ _ fun _ => rfl, sumT_init _ _ fun _ => rfl,
    sumT_init _ _ fun _ => rfl]
  exact sumN_zero _

theorem exists_offset (cur size j : Nat) (hj : j < size) : ∃ d, d < size ∧ (cur + d) % size = j := by
  have hs : 0 < size := by omega
  have hc : cur % size < size := Nat.mod_lt _ hs
  have hdm := Nat.div_add_mod cur size
  by_cases h : cur % size ≤ j
  · refine ⟨j - cur % size, by omega, ?_⟩
    have : cur + (j - cur % size) = size * (cur / size) + j := by omega
    rw [this, Nat.mul_add_mod, Nat.mod_eq_of_lt hj]
  · refine ⟨size - cur % size + j, by omega, ?_⟩
    have : cur + (size - cur % size + j) = size * (cur / size + 1) + j := by
      rw [Nat.mul_add, Nat.mul_one]; omega
    rw [this, Nat.mul_add_mod, Nat.mod_eq_of_lt hj]

theorem search_round (cfg : Cfg) (r : Option Nat) (m : Mem) (th : Thread) (hpc : th.pc = .getInc r) :
    iter cfg 2 (m, th) = if m.flags (m.cur % cfg.size) then ({ m with cur := m.cur + 1 }, { th with pc := .getInc r })
      else ({ m with cur := m.cur + 1, flags := upd m.flags (m.cur % cfg.size) true },
            { th with pc := .getCount (m.cur % cfg.size) r }) := by
  rw [iter_pool (.advanceCursor r) hpc]
  cases h : m.flags (m.cur % cfg.size)
  · exact iter_pool (m := { m with cur := m.cur + 1 }) (th := { th with pc := .getCas _ r }) (.slotTaken _ r h) rfl 0
  · exact iter_pool (m := { m with cur := m.cur + 1 }) (th := { th with pc := .getCas _ r }) (.slotBusy _ r h) rfl 0

/-- if the slot `d` positions after the cursor (modulo the size) is free, the first free slot from the cursor
on is taken within `2 (d+1)` transitions -/
theorem search_iter (cfg : Cfg) (r : Option Nat) (d : Nat) : ∀ (m : Mem) (th : Thread), th.pc = .getInc r →
    m.flags ((m.cur + d) % cfg.size) = false →
    ∃ n e m', n ≤ 2 * (d + 1) ∧ m.flags ((m.cur + e) % cfg.size) = false ∧
      iter cfg n (m, th) = (m', { th with pc := .getCount ((m.cur + e) % cfg.size) r }) ∧
      m'.flags ((m.cur + e) % cfg.size) = true := by
  have found : ∀ (m : Mem) (th : Thread), th.pc = .getInc r → m.flags ((m.cur + 0) % cfg.size) = false →
      ∃ m', iter cfg 2 (m, th) = (m', { th with pc := .getCount ((m.cur + 0) % cfg.size) r }) ∧
        m'.flags ((m.cur + 0) % cfg.size) = true :=
    fun m th hpc h0 => ⟨_, by rw [search_round cfg r m th hpc, show m.flags (m.cur % cfg.size) = false from h0]; rfl,
      upd_same _ _ _⟩
  induction d with
  | zero =>
    intro m th hpc hf
    obtain ⟨m', h1, h2⟩ := found m th hpc hf
    exact ⟨2, 0, m', by omega, hf, h1, h2⟩
  | succ d ih =>
    intro m th hpc hf
    cases h0 : m.flags ((m.cur + 0) % cfg.size)
    · obtain ⟨m', h1, h2⟩ := found m th hpc h0
      exact ⟨2, 0, m', by omega, h0, h1, h2⟩
    · obtain ⟨n, e, m', hn, hfe, hit, hm'⟩ := ih { m with cur := m.cur + 1 } { th with pc := .getInc r } rfl
        (by show m.flags ((m.cur + 1 + d) % cfg.size) = false; rw [show m.cur + 1 + d = m.cur + (d + 1) by omega]; exact hf)
      have e1 : m.cur + 1 + e = m.cur + (e + 1) := by omega
      rw [e1] at hfe hit hm'
      exact ⟨2 + n, e + 1, m', by omega, hfe,
        by rw [iter_add, search_round cfg r m th hpc, show m.flags (m.cur % cfg.size) = true from h0]; exact hit, hm'⟩

/-- if some slot of the pool is free, the search loop, nobody interfering, takes a free slot within `2·size` transitions -/
theorem search_free (cfg : Cfg) (r : Option Nat) (m : Mem) (th : Thread) (hpc : th.pc = .getInc r) (j : Nat)
    (hj : j < cfg.size) (hf : m.flags j = false) :
    ∃ n k m', n ≤ 2 * cfg.size ∧ k < cfg.size ∧ m.flags k = false ∧
      iter cfg n (m, th) = (m', { th with pc := .getCount k r }) ∧ m'.flags k = true := by
  obtain ⟨d, hd, hdi⟩ := exists_offset m.cur cfg.size j hj
  obtain ⟨n, e, m', hn, hfe, hit, hm'⟩ := search_iter cfg r d m th hpc (by rw [hdi]; exact hf)
  exact ⟨n, _, m', by omega, Nat.mod_lt _ (by omega), hfe, hit, hm'⟩

theorem cnt_eq_holds (s : State) (n : Nat) (h : SlotInv s) :
    cnt s.mem.flags n = sumT (fun th => sumN (fun i => holdS i th) n) s.threads := by
  rw [cnt_eq_sumN, ← sumN_sumT]
  exact sumN_congr _ _ n (fun i _ => (h i).symm)

theorem incP_le_holds (cfg : Cfg) (th : Thread) (hwf : ThreadWf cfg th) :
    incP th ≤ sumN (fun i => holdS i th) cfg.size := by
  unfold incP
  cases hpc : th.pc <;> simp only [incPC, Nat.zero_le]
  case getCount j r =>
    have hj : j < cfg.size := hwf.slot_lt j (by simp [hpc, pcSlot])
    have := le_sumN (fun i => holdS i th) cfg.size j hj
    have hh : holdS j th ≥ 1 := by simp [holdS, hpc, pcHoldS, ind]
    omega

/-- `_number_taken` never goes below zero (so the unsigned counter of the C++ never wraps) -/
theorem taken_nonneg (cfg : Cfg) (s : State) (h : PoolInv cfg s) : 0 ≤ s.mem.taken := by
  obtain ⟨h1, h2, h3⟩ := h
  have hc := cnt_eq_holds s cfg.size h1
  have hle := sumT_le incP (fun th => sumN (fun i => holdS i th) cfg.size) s.threads
    (fun th hth => incP_le_holds cfg th (h2 th hth))
  unfold CountInv at h3
  omega

/-- in a quiescent state `_number_taken` = total number of slots in the callers' hands -/
theorem taken_eq_owned (cfg : Cfg) (s : State) (h : PoolInv cfg s) (hidle : Quiescent s) :
    s.mem.taken = (sumT (fun th => th.owned.length) s.threads : Int) := by
  have e : sumT (fun th => sumN (fun i => holdS i th) cfg.size) s.threads = sumT (fun th => th.owned.length) s.threads :=
    sumT_congr _ _ _ fun a ha => by
      rw [← sumN_count a.owned cfg.size (h.wf a ha).owned_lt]
      exact sumN_congr _ _ _ fun i _ => holdS_idle i a (hidle a ha)
  rw [(countInv_settled cfg s fun th hth => incdec_idle th (hidle th hth)).mp h.count, cnt_eq_holds s cfg.size h.slot, e]

end CMacVerif.Atomics
