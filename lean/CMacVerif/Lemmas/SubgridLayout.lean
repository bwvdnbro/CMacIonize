import CMacVerif.Model.SubgridLayout
import CMacVerif.Model.Handover
import CMacVerif.Lemmas.AxisTravel
import CMacVerif.Lemmas.MixedRadix
import Mathlib.Tactic.Ring
import Mathlib.Tactic.Linarith
import Mathlib.Algebra.Order.Ring.Nat
import Mathlib.Algebra.Order.Ring.Int
import Mathlib.Tactic.Positivity
import Mathlib.Tactic.NormNum
import Mathlib.Tactic.FieldSimp
import Mathlib.Tactic.NormNum.OfScientific
import Mathlib.Algebra.Field.Basic
import Mathlib.Algebra.Group.Basic
/-!
# Lemmas for C03 (subgrid layout)

The index bijection and the neighbour table axis by axis, a fold of point writes, the hand-over on one axis, and runs
of a deposit-producing step function (`runSum`, the chained traversal `splitStep`) with their simulation lemmas.
What `create_copies` and `get_neighbours` build is in `Lemmas/SubgridCopies`.
-/
open CMacVerif.SubgridLayout CMacVerif.Handover CMacVerif.Gen.TravelDirections
namespace CMacVerif.SubgridLayout

theorem gridPosition_fst (L : Layout) (s : Nat) : (gridPosition L s).1 = s / (L.ny * L.nz) := rfl

theorem gridPosition_eq (L : Layout) (s : Nat) :
    gridPosition L s = (s / (L.ny * L.nz), s % (L.ny * L.nz) / L.nz, s % (L.ny * L.nz) % L.nz) := by
  unfold gridPosition
  simp only [Nat.mul_assoc, ← Nat.mod_eq_sub_div_mul]

theorem gridPosition_lt (L : Layout) (s : Nat) (hs : s < L.size) :
    (gridPosition L s).1 < L.nx ∧ (gridPosition L s).2.1 < L.ny ∧ (gridPosition L s).2.2 < L.nz := by
  rw [gridPosition_eq]
  exact MixedRadix.div_mod_index_lt (by rwa [Layout.size, Nat.mul_assoc] at hs)

theorem indexOf_gridPosition (L : Layout) (s : Nat) :
    indexOf L (gridPosition L s).1 (gridPosition L s).2.1 (gridPosition L s).2.2 = s := by
  have := MixedRadix.div_mod_index L.ny L.nz s
  rw [← Nat.mul_assoc] at this
  rw [gridPosition_eq]; exact this

theorem gridPosition_indexOf (L : Layout) (x y z : Nat) (hy : y < L.ny) (hz : z < L.nz) :
    gridPosition L (indexOf L x y z) = (x, y, z) := by
  obtain ⟨h1, h2, h3⟩ := MixedRadix.index_div_mod (a := x) hy hz
  rw [gridPosition_eq]; unfold indexOf
  rw [Nat.mul_assoc, h1, h2, h3]

theorem indexOf_lt (L : Layout) (x y z : Nat) (hx : x < L.nx) (hy : y < L.ny) (hz : z < L.nz) :
    indexOf L x y z < L.size := by
  unfold indexOf Layout.size
  rw [Nat.mul_assoc, Nat.mul_assoc]; exact MixedRadix.index_lt hx hy hz

/-- one coordinate of `geomNeighbour`: `c` itself if it is a subgrid coordinate, `c mod n` on a periodic axis,
nothing otherwise -/
def geomAxis (p : Bool) (n : Nat) (c : Int) : Option Nat :=
  if 0 ≤ c ∧ c < (n : Int) then some c.toNat else if p then some (c % (n : Int)).toNat else none

theorem axisStep_eq_some_iff {p : Bool} {n i j : Nat} {a : Int} (hi : i < n) (ha : -1 ≤ a ∧ a ≤ 1) :
    axisStep p n i a = some j ↔
      j < n ∧ ((j : Int) = i + a ∨ (p = true ∧ ((j : Int) = i + a + n ∨ (j : Int) = i + a - n))) := by
  unfold axisStep wrapAxis
  cases p <;> simp only [Bool.false_eq_true, if_false, if_true, false_and, or_false, true_and] <;>
    split_ifs <;> simp only [Option.some.injEq, false_iff] <;> omega

theorem axisStep_eq_none_iff {p : Bool} {n i : Nat} {a : Int} (hi : i < n) :
    axisStep p n i a = none ↔ p = false ∧ ((i : Int) + a < 0 ∨ (n : Int) ≤ i + a) := by
  unfold axisStep wrapAxis
  cases p <;> simp only [Bool.false_eq_true, if_false, if_true] <;> split_ifs <;> simp <;> omega

theorem axisStep_zero (p : Bool) (n i : Nat) (hi : i < n) : axisStep p n i 0 = some i :=
  (axisStep_eq_some_iff hi (by omega)).mpr ⟨hi, by omega⟩

theorem axisStep_neg (p : Bool) (n i : Nat) (hi : i < n) :
    axisStep p n i (-1) = if i > 0 then some (i - 1) else if p then some (n - 1) else none := by
  split_ifs with h1 h2
  · exact (axisStep_eq_some_iff hi (by omega)).mpr ⟨by omega, by omega⟩
  · exact (axisStep_eq_some_iff hi (by omega)).mpr ⟨by omega, .inr ⟨h2, by omega⟩⟩
  · exact (axisStep_eq_none_iff hi).mpr ⟨eq_false_of_ne_true h2, by omega⟩

theorem axisStep_pos (p : Bool) (n i : Nat) (hi : i < n) :
    axisStep p n i 1 = if i + 1 < n then some (i + 1) else if p then some 0 else none := by
  split_ifs with h1 h2
  · exact (axisStep_eq_some_iff hi (by omega)).mpr ⟨by omega, by omega⟩
  · exact (axisStep_eq_some_iff hi (by omega)).mpr ⟨by omega, .inr ⟨h2, by omega⟩⟩
  · exact (axisStep_eq_none_iff hi).mpr ⟨eq_false_of_ne_true h2, by omega⟩

theorem wrapAxis_of_mem (p : Bool) (n : Nat) (c : Int) (h0 : 0 ≤ c) (h1 : c < n) : wrapAxis p n c = c := by
  unfold wrapAxis
  cases p
  · rfl
  · simp only [if_true, if_neg (not_lt.mpr h0), if_neg (not_le.mpr h1)]

theorem wrapAxis_neg (n : Nat) (c : Int) (h : c < 0) : wrapAxis true n c = (n : Int) - 1 := by
  simp only [wrapAxis, if_true, if_pos h, if_neg (show ¬ (n : Int) - 1 ≥ n by omega)]

theorem wrapAxis_ge (n : Nat) (c : Int) (h : (n : Int) ≤ c) : wrapAxis true n c = 0 := by
  simp only [wrapAxis, if_true, if_neg (show ¬ c < 0 by omega), if_pos (show c ≥ n from h)]

theorem neg_one_emod (n : Nat) (hn : 0 < n) : (-1 : Int) % (n : Int) = (n : Int) - 1 := by
  have h : (-1 : Int) / (n : Int) = -1 := Int.ediv_eq_neg_one_of_neg_of_le (by decide) (by omega)
  rw [Int.emod_def, h]; ring

theorem axisStep_geom (p : Bool) (n i : Nat) (a : Int) (hi : i < n) (ha : a = -1 ∨ a = 0 ∨ a = 1) :
    axisStep p n i a = geomAxis p n ((i : Int) + a) := by
  unfold geomAxis
  split_ifs with h1 h2
  · exact (axisStep_eq_some_iff hi (by omega)).mpr ⟨by omega, by omega⟩
  · refine (axisStep_eq_some_iff hi (by omega)).mpr ?_
    rcases (by omega : (i : Int) + a = -1 ∨ (i : Int) + a = n) with e | e <;> rw [e]
    · rw [neg_one_emod n (by omega)]; exact ⟨by omega, .inr ⟨h2, by omega⟩⟩
    · rw [Int.emod_self]; exact ⟨by omega, .inr ⟨h2, by simp⟩⟩
  · exact (axisStep_eq_none_iff hi).mpr ⟨eq_false_of_ne_true h2, by omega⟩

theorem axisStep_lt (p : Bool) (n i : Nat) (a : Int) (x : Nat) (h : axisStep p n i a = some x) : x < n := by
  simp only [axisStep] at h
  split_ifs at h with hw
  obtain rfl := Option.some.inj h
  omega

/-- the right side of `axisStep_eq_some_iff` is symmetric under `(i, a) ↔ (x, -a)` -/
theorem axisStep_mutual (p : Bool) (n i : Nat) (a : Int) (x : Nat) (hi : i < n)
    (ha : a = -1 ∨ a = 0 ∨ a = 1) (h : axisStep p n i a = some x) :
    axisStep p n x (-a) = some i := by
  obtain ⟨hx, hk | ⟨hp, hk⟩⟩ := (axisStep_eq_some_iff hi (by omega)).mp h
  · exact (axisStep_eq_some_iff hx (by omega)).mpr ⟨hi, .inl (by omega)⟩
  · exact (axisStep_eq_some_iff hx (by omega)).mpr ⟨hi, .inr ⟨hp, by omega⟩⟩

theorem getD_set_ne {β : Type} (l : List β) {i k : Nat} (x d : β) (h : k ≠ i) : (l.set i x).getD k d = l.getD k d := by
  simp [List.getD_eq_getElem?_getD, List.getElem?_set_ne (Ne.symm h)]

theorem getD_set_list {β : Type} (l : List β) (i k : Nat) (v d : β) (hi : i < l.length) :
    (l.set i v).getD k d = if k = i then v else l.getD k d := by
  by_cases h : k = i
  · subst h; simp [List.getD_eq_getElem?_getD, hi]
  · rw [if_neg h, getD_set_ne l v d h]

theorem set_getD_self {β : Type} (l : List β) (k : Nat) (d : β) : l.set k (l.getD k d) = l := by
  by_cases h : k < l.length
  · simp [List.getD_eq_getElem?_getD, h]
  · rw [List.set_eq_of_length_le (by omega)]

section writes
variable {ε α ρ : Type} (key : ε → Nat) (r : ε → List α → ρ) (h : ε → α → ρ → α) (d : α)

theorem foldl_write_length (vs : List ε) (cells : List α) :
    (vs.foldl (fun cs v => cs.set (key v) (h v (cs.getD (key v) d) (r v cs))) cells).length = cells.length := by
  induction vs generalizing cells with
  | nil => rfl
  | cons v vs ih => rw [List.foldl_cons, ih, List.length_set]

/-- Every event `v` writes `h v old (r v state)` at position `key v`, where what `r v` reads is not touched by any write.
Then position `i` ends as the fold, over the events that write to `i`, of `h` with the readings taken in the INITIAL state. -/
theorem foldl_write_getD (vs : List ε)
    (hr : ∀ v ∈ vs, ∀ u ∈ vs, ∀ (cs : List α) (x : α), r v (cs.set (key u) x) = r v cs) :
    ∀ cells : List α, (∀ v ∈ vs, key v < cells.length) → ∀ i,
    (vs.foldl (fun cs v => cs.set (key v) (h v (cs.getD (key v) d) (r v cs))) cells).getD i d
      = (vs.filter fun v => key v = i).foldl (fun a v => h v a (r v cells)) (cells.getD i d) := by
  induction vs with
  | nil => intro cells _ i; rfl
  | cons v vs ih =>
    intro cells hk i
    have hmem : ∀ w ∈ vs, w ∈ v :: vs := fun w hw => List.mem_cons_of_mem _ hw
    rw [List.foldl_cons, ih (fun a ha b hb => hr a (hmem a ha) b (hmem b hb)) _
      (fun w hw => by rw [List.length_set]; exact hk w (hmem w hw)) i, getD_set_list _ _ _ _ _ (hk v (List.mem_cons_self ..))]
    rw [List.foldl_ext _ (fun a w => h w a (r w cells)) _ fun a w hw => by
      rw [hr w (hmem w (List.mem_of_mem_filter hw)) v (List.mem_cons_self ..)]]
    by_cases e : key v = i
    · rw [List.filter_cons_of_pos (by simpa using e), List.foldl_cons, if_pos e.symm, e]
    · rw [List.filter_cons_of_neg (by simpa using e), if_neg (Ne.symm e)]

theorem filter_key_of_nodup (vs : List ε) (hnd : (vs.map key).Nodup) (v : ε) (hv : v ∈ vs) :
    (vs.filter fun w => key w = key v) = [v] := by
  induction vs with
  | nil => cases hv
  | cons u us ih =>
    rw [List.map_cons, List.nodup_cons] at hnd
    rcases List.mem_cons.mp hv with rfl | hin
    · rw [List.filter_cons_of_pos (by simp), List.filter_eq_nil_iff.mpr fun w hw => by
        simp only [decide_eq_true_eq]; exact fun e => hnd.1 (e ▸ List.mem_map_of_mem (f := key) hw)]
    · rw [List.filter_cons_of_neg (by
        simp only [decide_eq_true_eq]; exact fun e => hnd.1 (e ▸ List.mem_map_of_mem (f := key) hin)), ih hnd.2 hin]
end writes

theorem outToIn_lt : ∀ d, d < 27 → outToInDir d < 27 := by decide
theorem offsetOf_outToInDir : ∀ d, d < 27 →
    offsetOf (outToInDir d) = (-(offsetOf d).1, -(offsetOf d).2.1, -(offsetOf d).2.2) := by decide
theorem dirOfOffset_offsetOf : ∀ d, d < 27 → dirOfOffset (offsetOf d) = d := by decide
theorem loopOffsets_nodup : (loopOffsets.map dirOfOffset).Nodup := by decide
theorem offsetOf_mem : ∀ d, d < 27 → offsetOf d ∈ loopOffsets := by decide
theorem mem_loopOffsets (o : Int × Int × Int) : o ∈ loopOffsets ↔
    (o.1 = -1 ∨ o.1 = 0 ∨ o.1 = 1) ∧ (o.2.1 = -1 ∨ o.2.1 = 0 ∨ o.2.1 = 1) ∧ (o.2.2 = -1 ∨ o.2.2 = 0 ∨ o.2.2 = 1) := by
  obtain ⟨a, b, c⟩ := o
  simp only [loopOffsets, List.mem_flatMap, List.mem_map, List.mem_cons, List.not_mem_nil, or_false, Prod.mk.injEq]
  constructor
  · rintro ⟨a', ha, b', hb, c', hc, rfl, rfl, rfl⟩; exact ⟨ha, hb, hc⟩
  · rintro ⟨ha, hb, hc⟩; exact ⟨a, ha, b, hb, c, hc, rfl, rfl, rfl⟩
theorem offsetOf_small (d : Nat) (hd : d < 27) :
    ((offsetOf d).1 = -1 ∨ (offsetOf d).1 = 0 ∨ (offsetOf d).1 = 1) ∧ ((offsetOf d).2.1 = -1 ∨ (offsetOf d).2.1 = 0 ∨ (offsetOf d).2.1 = 1)
      ∧ ((offsetOf d).2.2 = -1 ∨ (offsetOf d).2.2 = 0 ∨ (offsetOf d).2.2 = 1) :=
  (mem_loopOffsets _).mp (offsetOf_mem d hd)
theorem dirOfOffset_lt : ∀ o ∈ loopOffsets, dirOfOffset o < 27 := by decide

theorem decide_scaled_neg (a : Int) (m : Nat) (hm : 0 < m) : decide (a * (m : Int) < 0) = decide (a < 0) := by
  have hm' : (0 : Int) < m := by exact_mod_cast hm
  exact decide_eq_decide.mpr ⟨fun h => neg_of_mul_neg_left h hm'.le, fun h => mul_neg_of_neg_of_pos h hm'⟩

theorem decide_scaled_tdiv_pos (a : Int) (m : Nat) (hm : 0 < m) :
    decide ((a * (m : Int)).tdiv (m : Int) > 0) = decide (a > 0) := by
  have : (m : Int) ≠ 0 := by omega
  rw [Int.mul_tdiv_cancel _ this]

theorem outputDirection_scaled (L : Layout) (hx : 0 < L.mx) (hy : 0 < L.my) (hz : 0 < L.mz)
    (o : Int × Int × Int) :
    (outputDirection L.cells (o.1 * L.mx, o.2.1 * L.my, o.2.2 * L.mz)).toNat = dirOfOffset o := by
  unfold outputDirection dirOfOffset maskOf maskOfOffset Layout.cells
  simp only [decide_scaled_neg _ _ hx, decide_scaled_neg _ _ hy, decide_scaled_neg _ _ hz,
    decide_scaled_tdiv_pos _ _ hx, decide_scaled_tdiv_pos _ _ hy, decide_scaled_tdiv_pos _ _ hz]

theorem getD_replicate_none (n d : Nat) : (List.replicate n (none : Option Nat)).getD d none = none := by
  rw [List.getD_eq_getElem?_getD, List.getElem?_replicate]; split <;> rfl

/-- the neighbour loop as a fold of point writes: an iteration that finds no subgrid writes the old entry back -/
theorem createSubgrid_eq (L : Layout) (hx : 0 < L.mx) (hy : 0 < L.my) (hz : 0 < L.mz) (s : Nat) :
    createSubgrid L s = loopOffsets.foldl (fun t o => t.set (dirOfOffset o) ((ngbAt L s o).or (t.getD (dirOfOffset o) none)))
      (List.replicate 27 none) := by
  unfold createSubgrid
  apply List.foldl_ext
  intro t o _
  rw [outputDirection_scaled L hx hy hz o]
  cases ngbAt L s o
  · exact (set_getD_self t _ none).symm
  · rfl

/-- the table entry of direction `d` is the body of the neighbour loop evaluated at the offset of `d` -/
theorem ngb_eq_ngbAt (L : Layout) (hx : 0 < L.mx) (hy : 0 < L.my) (hz : 0 < L.mz) (s d : Nat) (hd : d < 27) :
    ngb L s d = ngbAt L s (offsetOf d) := by
  unfold ngb
  have hf := filter_key_of_nodup dirOfOffset loopOffsets loopOffsets_nodup (offsetOf d) (offsetOf_mem d hd)
  rw [dirOfOffset_offsetOf d hd] at hf
  -- an iteration reads nothing of the table but the entry it writes: the reader `r` is trivial
  rw [createSubgrid_eq L hx hy hz,
    foldl_write_getD (key := dirOfOffset) (r := fun _ _ => ()) (h := fun o a _ => (ngbAt L s o).or a) (d := none)
      loopOffsets (fun _ _ _ _ _ _ => rfl) _ (fun o ho => by simpa using dirOfOffset_lt o ho) d, hf,
    getD_replicate_none, List.foldl_cons, List.foldl_nil, Option.or_none]

theorem createSubgrid_length (L : Layout) (hx : 0 < L.mx) (hy : 0 < L.my) (hz : 0 < L.mz) (s : Nat) :
    (createSubgrid L s).length = 27 := by
  rw [createSubgrid_eq L hx hy hz,
    foldl_write_length (key := dirOfOffset) (r := fun _ _ => ()) (h := fun o a _ => (ngbAt L s o).or a)]
  simp

/-- the neighbour of `s` in direction `d` as geometry defines it: the subgrid at `pos s + offset d`,
taken modulo the layout on periodic axes; nothing if that falls outside on a non-periodic axis -/
def geomNeighbour (L : Layout) (s d : Nat) : Option Nat :=
  let p := gridPosition L s
  let o := offsetOf d
  combine L (geomAxis L.px L.nx ((p.1 : Int) + o.1)) (geomAxis L.py L.ny ((p.2.1 : Int) + o.2.1))
    (geomAxis L.pz L.nz ((p.2.2 : Int) + o.2.2))

theorem ngbAt_geom (L : Layout) (s d : Nat) (hs : s < L.size) (hd : d < 27) :
    ngbAt L s (offsetOf d) = geomNeighbour L s d := by
  obtain ⟨h1, h2, h3⟩ := gridPosition_lt L s hs
  obtain ⟨o1, o2, o3⟩ := offsetOf_small d hd
  unfold ngbAt geomNeighbour
  simp only [axisStep_geom _ _ _ _ h1 o1, axisStep_geom _ _ _ _ h2 o2, axisStep_geom _ _ _ _ h3 o3]

theorem combine_eq_some {L : Layout} {ox oy oz : Option Nat} {t : Nat} :
    combine L ox oy oz = some t ↔ ∃ x y z, ox = some x ∧ oy = some y ∧ oz = some z ∧ t = indexOf L x y z := by
  cases ox <;> cases oy <;> cases oz <;> simp [combine, eq_comm]

theorem combine_eq_none {L : Layout} {ox oy oz : Option Nat} :
    combine L ox oy oz = none ↔ ox = none ∨ oy = none ∨ oz = none := by
  cases ox <;> cases oy <;> cases oz <;> simp [combine]

def axN (L : Layout) : Nat → Nat | 0 => L.nx | 1 => L.ny | _ => L.nz
def axM (L : Layout) : Nat → Nat | 0 => L.mx | 1 => L.my | _ => L.mz
def axP (L : Layout) : Nat → Bool | 0 => L.px | 1 => L.py | _ => L.pz
def posAx (p : Nat × Nat × Nat) : Nat → Nat | 0 => p.1 | 1 => p.2.1 | _ => p.2.2
def compK {K : Type} (v : K × K × K) : Nat → K | 0 => v.1 | 1 => v.2.1 | _ => v.2.2

theorem posAx_lt (L : Layout) (s : Nat) (hs : s < L.size) (ax : Nat) (hax : ax < 3) :
    posAx (gridPosition L s) ax < axN L ax := by
  obtain ⟨h1, h2, h3⟩ := gridPosition_lt L s hs
  revert ax; exact Axis.forall_lt_three h1 h2 h3

theorem axM_pos (L : Layout) (hx : 0 < L.mx) (hy : 0 < L.my) (hz : 0 < L.mz) (ax : Nat) : 0 < axM L ax := by
  unfold axM; split <;> assumption

theorem comp_small (d : Nat) (hd : d < 27) (ax : Nat) :
    comp (offsetOf d) ax = -1 ∨ comp (offsetOf d) ax = 0 ∨ comp (offsetOf d) ax = 1 := by
  obtain ⟨h1, h2, h3⟩ := offsetOf_small d hd
  unfold comp; split <;> assumption

theorem comp_neg (o : Int × Int × Int) (ax : Nat) : comp (-o.1, -o.2.1, -o.2.2) ax = -comp o ax := by
  unfold comp; split <;> rfl

theorem comp_outToIn (d : Nat) (hd : d < 27) (ax : Nat) :
    comp (offsetOf (outToInDir d)) ax = -comp (offsetOf d) ax := by
  rw [offsetOf_outToInDir d hd, comp_neg]

theorem comp_startIndex (d : Nat) (L : Layout) (c : Int × Int × Int) (ax : Nat) (hax : ax < 3) :
    comp (startIndex d L.cells c) ax = startIndexAxis (idxClassAt d ax) (axM L ax) (comp c ax) := by
  revert ax; exact Axis.forall_lt_three rfl rfl rfl

theorem compK_updatePosition {K : Type} [Mul K] [OfScientific K] (d : Nat) (nF h pos : K × K × K) (ax : Nat) (hax : ax < 3) :
    compK (updatePosition d nF h pos) ax = updatePosAxis (pinAt d ax) (compK nF ax) (compK h ax) (compK pos ax) := by
  revert ax; exact Axis.forall_lt_three rfl rfl rfl

theorem ngbAt_eq_some_iff (L : Layout) (s t : Nat) (o : Int × Int × Int) :
    ngbAt L s o = some t ↔ ∀ ax, ax < 3 →
      axisStep (axP L ax) (axN L ax) (posAx (gridPosition L s) ax) (comp o ax) = some (posAx (gridPosition L t) ax) := by
  constructor
  · intro h ax hax
    obtain ⟨x, y, z, hx, hy, hz, rfl⟩ := combine_eq_some.mp h
    rw [gridPosition_indexOf L x y z (axisStep_lt _ _ _ _ _ hy) (axisStep_lt _ _ _ _ _ hz)]
    revert ax; exact Axis.forall_lt_three hx hy hz
  · intro h
    exact combine_eq_some.mpr ⟨_, _, _, h 0 (by decide), h 1 (by decide), h 2 (by decide), (indexOf_gridPosition L t).symm⟩

theorem ngbAt_lt (L : Layout) (s t : Nat) (o : Int × Int × Int) (h : ngbAt L s o = some t) : t < L.size := by
  obtain ⟨x, y, z, hx, hy, hz, rfl⟩ := combine_eq_some.mp h
  exact indexOf_lt L x y z (axisStep_lt _ _ _ _ _ hx) (axisStep_lt _ _ _ _ _ hy) (axisStep_lt _ _ _ _ _ hz)

theorem ngbAt_mutual (L : Layout) (s : Nat) (hs : s < L.size) (o : Int × Int × Int)
    (ho : ∀ ax, comp o ax = -1 ∨ comp o ax = 0 ∨ comp o ax = 1) (t : Nat) (h : ngbAt L s o = some t) :
    ngbAt L t (-o.1, -o.2.1, -o.2.2) = some s :=
  (ngbAt_eq_some_iff L t s _).mpr fun ax hax => by
    rw [comp_neg]
    exact axisStep_mutual _ _ _ _ _ (posAx_lt L s hs ax hax) (ho ax) ((ngbAt_eq_some_iff L s t o).mp h ax hax)

theorem ngb_axis (L : Layout) (hx : 0 < L.mx) (hy : 0 < L.my) (hz : 0 < L.mz) (s d t : Nat)
    (hd : d < 27) (h : ngb L s d = some t) (ax : Nat) (hax : ax < 3) :
    axisStep (axP L ax) (axN L ax) (posAx (gridPosition L s) ax) (comp (offsetOf d) ax) = some (posAx (gridPosition L t) ax) :=
  (ngbAt_eq_some_iff L s t _).mp (ngb_eq_ngbAt L hx hy hz s d hd ▸ h) ax hax

theorem ngb_none_axis (L : Layout) (hx : 0 < L.mx) (hy : 0 < L.my) (hz : 0 < L.mz) (s d : Nat)
    (hd : d < 27) (h : ngb L s d = none) :
    ∃ ax, ax < 3 ∧ axisStep (axP L ax) (axN L ax) (posAx (gridPosition L s) ax) (comp (offsetOf d) ax) = none := by
  rw [ngb_eq_ngbAt L hx hy hz s d hd] at h
  rcases combine_eq_none.mp h with h | h | h
  exacts [⟨0, by decide, h⟩, ⟨1, by decide, h⟩, ⟨2, by decide, h⟩]

theorem ngb_lt (L : Layout) (hx : 0 < L.mx) (hy : 0 < L.my) (hz : 0 < L.mz) (s d t : Nat)
    (hd : d < 27) (h : ngb L s d = some t) : t < L.size :=
  ngbAt_lt L s t _ (ngb_eq_ngbAt L hx hy hz s d hd ▸ h)

theorem ngb_self (L : Layout) (hx : 0 < L.mx) (hy : 0 < L.my) (hz : 0 < L.mz) (s : Nat) (hs : s < L.size) :
    ngb L s 0 = some s := by
  rw [ngb_eq_ngbAt L hx hy hz s 0 (by decide), show offsetOf 0 = (0, 0, 0) by decide]
  exact (ngbAt_eq_some_iff L s s _).mpr fun ax hax => by
    rw [show comp (0, 0, 0) ax = 0 by unfold comp; split <;> rfl]; exact axisStep_zero _ _ _ (posAx_lt L s hs ax hax)

/-- class code (as in the tables `pin` / `idxClass`) of an offset component: 0 ↦ 0 (coordinate untouched / index
computed), negative ↦ 1 (lower wall), positive ↦ 2 (upper wall) -/
def clsOfOffset (a : Int) : Nat := if a = 0 then 0 else if a < 0 then 1 else 2

/-- exit class of one component of the local cell index: -1 below the subgrid, 1 above, 0 inside -/
def exitClass (m : Nat) (idx : Int) : Int := if idx < 0 then -1 else if (m : Int) ≤ idx then 1 else 0

theorem exitClass_low (m : Nat) (idx : Int) : decide (idx < 0) = decide (exitClass m idx < 0) := by
  unfold exitClass; split_ifs <;> simp <;> omega

theorem exitClass_high (m : Nat) (hm : 0 < m) (idx : Int) : decide (idx.tdiv (m : Int) > 0) = decide (exitClass m idx > 0) := by
  have h := Axis.tdiv_pos_iff hm idx
  unfold exitClass; split_ifs <;> simp <;> omega

/-- `get_output_direction(three_index)` only looks at the exit class of every component -/
theorem outputDirection_exitClass (m : Nat × Nat × Nat) (h1 : 0 < m.1) (h2 : 0 < m.2.1) (h3 : 0 < m.2.2)
    (idx : Int × Int × Int) :
    outputDirection m idx = maskDir (maskOfOffset (exitClass m.1 idx.1, exitClass m.2.1 idx.2.1, exitClass m.2.2 idx.2.2)) := by
  unfold outputDirection maskOf maskOfOffset
  simp only [exitClass_low m.1 idx.1, exitClass_low m.2.1 idx.2.1, exitClass_low m.2.2 idx.2.2,
    exitClass_high m.1 h1 idx.1, exitClass_high m.2.1 h2 idx.2.1, exitClass_high m.2.2 h3 idx.2.2]

theorem exitClass_small (m : Nat) (idx : Int) : exitClass m idx = -1 ∨ exitClass m idx = 0 ∨ exitClass m idx = 1 := by
  unfold exitClass; split_ifs <;> simp

theorem exitClass_cases (m : Nat) (idx : Int) (hidx : -1 ≤ idx ∧ idx ≤ m) :
    (idx = -1 ∧ exitClass m idx = -1) ∨ (0 ≤ idx ∧ idx < m ∧ exitClass m idx = 0) ∨ (idx = m ∧ exitClass m idx = 1) := by
  unfold exitClass; split_ifs <;> omega

theorem startIndexAxis_exit_low (m : Nat) (c : Int) :
    startIndexAxis (clsOfOffset (-(-1 : Int))) m c = (m : Int) - 1 := rfl
theorem startIndexAxis_exit_none (m : Nat) (c : Int) : startIndexAxis (clsOfOffset (-(0 : Int))) m c = c := rfl
theorem startIndexAxis_exit_high (m : Nat) (c : Int) : startIndexAxis (clsOfOffset (-(1 : Int))) m c = 0 := rfl

theorem wrap_amount (p : Bool) (n i j : Nat) (a : Int) (hi : i < n) (ha : a = -1 ∨ a = 0 ∨ a = 1)
    (hj : axisStep p n i a = some j) :
    ∃ k : Int, (j : Int) = (i : Int) + a + k * n ∧ (k = 0 ∨ (p = true ∧ (k = 1 ∨ k = -1))) := by
  obtain ⟨_, h | ⟨hp, h | h⟩⟩ := (axisStep_eq_some_iff hi (by omega)).mp hj
  exacts [⟨0, by omega, .inl rfl⟩, ⟨1, by omega, .inr ⟨hp, .inl rfl⟩⟩, ⟨-1, by omega, .inr ⟨hp, .inr rfl⟩⟩]

/-- One axis of the hand-over, indices.  A packet in subgrid coordinate `i` (of `n`, `m` cells each) whose local
cell index became `idx ∈ [-1, m]` continues in subgrid `j = axisStep …`.  The start index the entry code chooses
(`c` = the computed index, used only on an axis that is not crossed) undoes the exit class, so from `j` it names
the global cell `i m + idx` again — up to `k` whole grid lengths, `k ≠ 0` only on a periodic axis that wrapped. -/
theorem handover_index (p : Bool) (n m i j : Nat) (idx c : Int) (hi : i < n) (hm : 0 < m)
    (hidx : -1 ≤ idx ∧ idx ≤ m) (hj : axisStep p n i (exitClass m idx) = some j)
    (hc : exitClass m idx = 0 → c = idx) :
    ∃ k : Int, (k = 0 ∨ (p = true ∧ (k = 1 ∨ k = -1)))
      ∧ (j : Int) * m = i * m + exitClass m idx * m + k * ((n * m : Nat) : Int)
      ∧ exitClass m idx * m + startIndexAxis (clsOfOffset (-(exitClass m idx))) m c = idx
      ∧ 0 ≤ startIndexAxis (clsOfOffset (-(exitClass m idx))) m c
      ∧ startIndexAxis (clsOfOffset (-(exitClass m idx))) m c < m := by
  obtain ⟨k, hk, hk01⟩ := wrap_amount p n i j _ hi (exitClass_small m idx) hj
  refine ⟨k, hk01, by rw [hk]; push_cast; ring, ?_⟩
  have hm' : (0 : Int) < m := by exact_mod_cast hm
  rcases exitClass_cases m idx hidx with ⟨rfl, he⟩ | ⟨h0, h1, he⟩ | ⟨rfl, he⟩
  · rw [he, startIndexAxis_exit_low]; exact ⟨by ring, by omega, by omega⟩
  · rw [he, startIndexAxis_exit_none, hc he]; exact ⟨by ring, h0, h1⟩
  · rw [he, startIndexAxis_exit_high]; exact ⟨by ring, le_refl _, hm'⟩

theorem block_in_grid {j n : Nat} (m : Nat) (hj : j < n) :
    0 ≤ (j : Int) * m ∧ (j : Int) * m + m ≤ ((n * m : Nat) : Int) :=
  ⟨by positivity, by exact_mod_cast Nat.succ_mul j m ▸ Nat.mul_le_mul_right m hj⟩

/-- One axis of the hand-over, cells (on an axis that is not crossed the computed index is the current one): the start
index in the neighbour is the cell `wrapAxis p (n m) (i m + idx)` of the undivided grid, i.e. the same global cell,
taken modulo the grid on a periodic axis. -/
theorem handover_cell_axis (p : Bool) (n m i : Nat) (idx : Int) (hi : i < n) (hm : 0 < m)
    (hidx : -1 ≤ idx ∧ idx ≤ m) (j : Nat) (hj : axisStep p n i (exitClass m idx) = some j) :
    (j : Int) * m + startIndexAxis (clsOfOffset (-(exitClass m idx))) m idx = wrapAxis p (n * m) ((i : Int) * m + idx)
      ∧ 0 ≤ wrapAxis p (n * m) ((i : Int) * m + idx) ∧ wrapAxis p (n * m) ((i : Int) * m + idx) < ((n * m : Nat) : Int) := by
  obtain ⟨k, hk01, hjm, hst, hst0, hstm⟩ := handover_index p n m i j idx idx hi hm hidx hj fun _ => rfl
  have hI := block_in_grid m hi
  have hJ := block_in_grid m (axisStep_lt _ _ _ _ _ hj)
  generalize startIndexAxis (clsOfOffset (-(exitClass m idx))) m idx = st at hst hst0 hstm ⊢
  -- the global index seen from the neighbour: the same cell, up to `k` whole grid lengths
  have hc : (i : Int) * m + idx = j * m + st - k * ((n * m : Nat) : Int) := by omega
  rcases hk01 with rfl | ⟨rfl, rfl | rfl⟩
  · rw [hc, wrapAxis_of_mem _ _ _ (by omega) (by omega)]; omega
  · rw [hc, wrapAxis_neg _ _ (by omega)]; omega
  · rw [hc, wrapAxis_ge _ _ (by omega)]; omega

theorem handover_cell_axis_none (p : Bool) (n m i : Nat) (idx : Int) (hi : i < n) (hidx : -1 ≤ idx ∧ idx ≤ m)
    (hn : axisStep p n i (exitClass m idx) = none) :
    p = false ∧ ((i : Int) * m + idx < 0 ∨ ((n * m : Nat) : Int) ≤ (i : Int) * m + idx) := by
  obtain ⟨hp, h⟩ := (axisStep_eq_none_iff hi).mp hn
  refine ⟨hp, ?_⟩
  -- outside by one step: below from the first subgrid, above from the last
  rcases exitClass_cases m idx hidx with ⟨rfl, he⟩ | ⟨_, _, he⟩ | ⟨rfl, he⟩ <;> rw [he] at h
  · left; obtain rfl : i = 0 := by omega
    simp
  · omega
  · right; obtain rfl : i + 1 = n := by omega
    exact le_of_eq (by push_cast; ring)

section field
variable {K : Type} [Field K] [CharZero K]

/-- One axis of the hand-over, positions, relative to the neighbour's anchor (exact arithmetic; `m` cells of size
`h`, `a` the offset of the exit direction on this axis).  A packet on the wall it crosses (`hexit`) is put on the
opposite wall of the neighbour, i.e. moved by one subgrid side against the offset; a coordinate that is not crossed
is kept. -/
theorem updatePosAxis_handover (m : Nat) (a : Int) (h x xloc : K) (ha : a = -1 ∨ a = 0 ∨ a = 1)
    (hexit : (a = 1 → xloc = (m : K) * h) ∧ (a = -1 → xloc = 0)) (hx : a = 0 → x = xloc) :
    updatePosAxis (clsOfOffset (-a)) (m : K) h x = xloc - (a : K) * ((m : K) * h) := by
  rcases ha with rfl | rfl | rfl
  · show (m : K) * h = _; rw [hexit.2 rfl]; push_cast; ring
  · show x = _; rw [hx rfl]; push_cast; ring
  · show (0.0 : K) = _; rw [hexit.1 rfl, show (0.0 : K) = 0 by norm_num]; push_cast; ring
end field

theorem offsetOf_dirOfOffset : ∀ o ∈ loopOffsets, offsetOf (dirOfOffset o) = o := by decide

theorem maskDir_maskOfOffset : ∀ o ∈ loopOffsets, maskDir (maskOfOffset o) = ((dirOfOffset o : Nat) : Int) := by decide

theorem outputDirection_offset (m : Nat × Nat × Nat) (h1 : 0 < m.1) (h2 : 0 < m.2.1) (h3 : 0 < m.2.2)
    (idx : Int × Int × Int) :
    (outputDirection m idx).toNat < 27 ∧ offsetOf (outputDirection m idx).toNat
      = (exitClass m.1 idx.1, exitClass m.2.1 idx.2.1, exitClass m.2.2 idx.2.2) := by
  have hmem := (mem_loopOffsets (exitClass m.1 idx.1, exitClass m.2.1 idx.2.1, exitClass m.2.2 idx.2.2)).mpr
    ⟨exitClass_small m.1 idx.1, exitClass_small m.2.1 idx.2.1, exitClass_small m.2.2 idx.2.2⟩
  rw [outputDirection_exitClass m h1 h2 h3, maskDir_maskOfOffset _ hmem, Int.toNat_natCast]
  exact ⟨dirOfOffset_lt _ hmem, offsetOf_dirOfOffset _ hmem⟩

theorem classes_agree_with_offset : ∀ d, d < 27 → ∀ ax, ax < 3 →
    pinAt d ax = clsOfOffset (comp (offsetOf d) ax) ∧ idxClassAt d ax = clsOfOffset (comp (offsetOf d) ax) := by decide

/-! ## chained runs: a stuttering simulation argument -/

section sim
variable {X A B M : Type} [AddCommMonoid M]

/-- run a deposit-producing step function with fuel: total of the deposits, and the last state -/
def runSum (step : X → Option (M × X)) : Nat → X → M × X
  | 0, x => (0, x)
  | f + 1, x =>
    match step x with
    | none => (0, x)
    | some (m, x') => (m + (runSum step f x').1, (runSum step f x').2)

/-- the run from `x` is over within `f` steps -/
def Halts (step : X → Option (M × X)) (f : Nat) (x : X) : Prop := step (runSum step f x).2 = none

theorem runSum_of_none (step : X → Option (M × X)) (f : Nat) (x : X) (h : step x = none) :
    runSum step f x = (0, x) := by
  cases f with
  | zero => rfl
  | succ f => simp [runSum, h]

theorem runSum_succ_some (step : X → Option (M × X)) (f : Nat) (x x' : X) (m : M) (h : step x = some (m, x')) :
    runSum step (f + 1) x = (m + (runSum step f x').1, (runSum step f x').2) := by
  simp only [runSum, h]

theorem halts_succ_iff (step : X → Option (M × X)) (f : Nat) (x x' : X) (m : M) (h : step x = some (m, x')) :
    Halts step (f + 1) x ↔ Halts step f x' := by
  unfold Halts; rw [runSum_succ_some step f x x' m h]

theorem runSum_succ_of_halts (step : X → Option (M × X)) (f : Nat) (x : X) (h : Halts step f x) :
    runSum step (f + 1) x = runSum step f x := by
  induction f generalizing x with
  | zero =>
    unfold Halts at h; simp only [runSum] at h
    simp [runSum, h]
  | succ f ih =>
    cases hs : step x with
    | none => simp [runSum, hs]
    | some v =>
      obtain ⟨m, x'⟩ := v
      have h' := (halts_succ_iff step f x x' m hs).mp h
      rw [runSum_succ_some step (f + 1) x x' m hs, runSum_succ_some step f x x' m hs, ih x' h']

theorem halts_succ (step : X → Option (M × X)) (f : Nat) (x : X) (h : Halts step f x) : Halts step (f + 1) x := by
  unfold Halts; rw [runSum_succ_of_halts step f x h]; exact h

/-- **Single-step commutation** between a split run (`stepA`) and the run over the undivided grid (`stepB`)
under a state correspondence `R`: when the split run is over so is the other; a step of the split run is
either matched by a step of the other run with the same deposit, or deposits nothing and leaves the other
run where it is (a hand-over, or the zero-length step after re-entering on a cell wall). -/
structure StepCommutes (stepA : A → Option (M × A)) (stepB : B → Option (M × B)) (R : A → B → Prop) : Prop where
  halt : ∀ a b, R a b → stepA a = none → stepB b = none
  step : ∀ a b m a', R a b → stepA a = some (m, a') →
    (∃ b', stepB b = some (m, b') ∧ R a' b') ∨ (m = 0 ∧ R a' b)

theorem sim_totals (stepA : A → Option (M × A)) (stepB : B → Option (M × B)) (R : A → B → Prop)
    (hc : StepCommutes stepA stepB R) :
    ∀ (f : Nat) (a : A) (b : B), R a b → Halts stepA f a →
      (runSum stepA f a).1 = (runSum stepB f b).1 ∧ R (runSum stepA f a).2 (runSum stepB f b).2 ∧ Halts stepB f b := by
  intro f
  induction f with
  | zero =>
    intro a b hR hh
    unfold Halts at hh ⊢; simp only [runSum] at hh ⊢
    exact ⟨trivial, hR, hc.halt a b hR hh⟩
  | succ f ih =>
    intro a b hR hh
    cases hs : stepA a with
    | none =>
      have hb := hc.halt a b hR hs
      rw [runSum_of_none stepA _ a hs, runSum_of_none stepB _ b hb]
      exact ⟨rfl, hR, by unfold Halts; rw [runSum_of_none stepB _ b hb]; exact hb⟩
    | some v =>
      obtain ⟨m, a'⟩ := v
      have hh' := (halts_succ_iff stepA f a a' m hs).mp hh
      rcases hc.step a b m a' hR hs with ⟨b', hb, hR'⟩ | ⟨hm0, hR'⟩
      · obtain ⟨i1, i2, i3⟩ := ih a' b' hR' hh'
        rw [runSum_succ_some stepA f a a' m hs, runSum_succ_some stepB f b b' m hb]
        exact ⟨by simp only [i1], i2, (halts_succ_iff stepB f b b' m hb).mpr i3⟩
      · obtain ⟨i1, i2, i3⟩ := ih a' b hR' hh'
        have i3' := halts_succ stepB f b i3
        rw [runSum_succ_of_halts stepB f b i3, runSum_succ_some stepA f a a' m hs]
        exact ⟨by simp only [hm0, zero_add, i1], i2, i3'⟩

theorem runSum_add_of_halts (step : X → Option (M × X)) (f : Nat) (x : X) (h : Halts step f x) :
    ∀ k, runSum step (f + k) x = runSum step f x ∧ Halts step (f + k) x := by
  intro k
  induction k with
  | zero => exact ⟨rfl, h⟩
  | succ k ih =>
    refine ⟨?_, ?_⟩
    · rw [← Nat.add_assoc, runSum_succ_of_halts step (f + k) x ih.2, ih.1]
    · rw [← Nat.add_assoc]; exact halts_succ step (f + k) x ih.2

theorem runSum_halts_eq (step : X → Option (M × X)) (f f' : Nat) (x : X)
    (h : Halts step f x) (h' : Halts step f' x) : runSum step f x = runSum step f' x := by
  rcases Nat.le_total f f' with hle | hle
  · obtain ⟨k, rfl⟩ := Nat.exists_eq_add_of_le hle
    exact ((runSum_add_of_halts step f x h k).1).symm
  · obtain ⟨k, rfl⟩ := Nat.exists_eq_add_of_le hle
    exact (runSum_add_of_halts step f' x h' k).1

/-- a simulation whose unmatched (zero-deposit) steps strictly decrease a rank transfers termination
backwards: if the simulated run `B` is over, the simulating run `A` is over as well -/
theorem sim_reverse (stepA : A → Option (M × A)) (stepB : B → Option (M × B)) (R : A → B → Prop) (μ : A → Nat)
    (halt' : ∀ a b, R a b → stepB b = none → stepA a = none)
    (hstep : ∀ a b m a', R a b → stepA a = some (m, a') →
      (∃ b', stepB b = some (m, b') ∧ R a' b') ∨ (m = 0 ∧ R a' b ∧ μ a' < μ a)) :
    ∀ (g : Nat) (a : A) (b : B), R a b → Halts stepB g b → ∃ f, Halts stepA f a := by
  -- induction on the fuel of `B`, and inside it on a bound `n` of the rank
  suffices h : ∀ (g n : Nat) (a : A) (b : B), μ a < n → R a b → Halts stepB g b → ∃ f, Halts stepA f a from
    fun g a b => h g _ a b (Nat.lt_succ_self _)
  intro g
  induction g with
  | zero =>
    intro n a b _ hR hh
    exact ⟨0, halt' a b hR hh⟩
  | succ g ihg =>
    intro n
    induction n with
    | zero => intro a b hμ; exact absurd hμ (Nat.not_lt_zero _)
    | succ n ihn =>
      intro a b hμ hR hh
      cases hs : stepA a with
      | none => exact ⟨0, hs⟩
      | some v =>
        obtain ⟨m, a'⟩ := v
        obtain ⟨f, hf⟩ : ∃ f, Halts stepA f a' := by
          rcases hstep a b m a' hR hs with ⟨b', hb, hR'⟩ | ⟨_, hR', hlt⟩
          · exact ihg _ a' b' (Nat.lt_succ_self _) hR' ((halts_succ_iff stepB g b b' m hb).mp hh)
          · exact ihn a' b (by omega) hR' hh
        exact ⟨f + 1, (halts_succ_iff stepA f a a' m hs).mpr hf⟩

end sim

/-! ## the chained traversal as a deposit-producing step function -/

section split
variable {σ δ M : Type} [AddCommMonoid M]

/-- The chained traversal (`Model/Handover.lean`, `chainStep`: `interact` cell steps, and at an exit
`get_neighbour` / `output_to_input_direction` / re-entry) as a deposit-producing step function.  `val s dep`
is the contribution of a deposit made in subgrid `s` to the totals `M` — e.g. the function on global cells
that is `path·weight·σ` at the global cell of the deposit and zero elsewhere. -/
def splitStep (L : Layout) (localStep : Nat → σ → LocalStep σ δ) (enter : Nat → Nat → σ → σ) (val : Nat → δ → M) :
    ChainState σ → Option (M × ChainState σ) := fun x =>
  (chainStep L localStep enter x).map fun r =>
    ((match r.1 with
      | some (s, dep) => val s dep
      | none => 0), r.2)

/-- `splitStep` over an arbitrary neighbour table (originals and copies) -/
def splitStepN (nb : Nat → Nat → Option Nat) (localStep : Nat → σ → LocalStep σ δ) (enter : Nat → Nat → σ → σ)
    (val : Nat → δ → M) : ChainState σ → Option (M × ChainState σ) := fun x =>
  (chainStepN nb localStep enter x).map fun r =>
    ((match r.1 with
      | some (s, dep) => val s dep
      | none => 0), r.2)

theorem splitStep_eq_splitStepN (L : Layout) (localStep : Nat → σ → LocalStep σ δ) (enter : Nat → Nat → σ → σ)
    (val : Nat → δ → M) : splitStep L localStep enter val = splitStepN (ngb L) localStep enter val := by
  funext x; cases x <;> rfl

theorem splitStepN_inGrid (nb : Nat → Nat → Option Nat) (localStep : Nat → σ → LocalStep σ δ)
    (enter : Nat → Nat → σ → σ) (val : Nat → δ → M) (s : Nat) (x : σ) :
    splitStepN nb localStep enter val (.inGrid s x) =
      match localStep s x with
      | .move dep st' => some (val s dep, .inGrid s st')
      | .absorbed dep st' => some (val s dep, .absorbedIn s st')
      | .exit dep d st' =>
        match nb s d with
        | none => some (val s dep, .escaped s d st')
        | some t => some (val s dep, .inGrid t (enter t (outToInDir d) st')) := by
  unfold splitStepN chainStepN
  cases h : localStep s x with
  | move dep st' => simp only [h, Option.map_some]
  | absorbed dep st' => simp only [h, Option.map_some]
  | exit dep d st' => cases hn : nb s d <;> simp only [h, hn, Option.map_some]

def relabel (π : Nat → Nat) : ChainState σ → ChainState σ
  | .inGrid i x => .inGrid (π i) x
  | .absorbedIn i x => .absorbedIn (π i) x
  | .escaped i d x => .escaped (π i) d x

/-- A chained run over a neighbour table `nb` whose subgrids behave like their images under `π` is, step by
step and deposit by deposit, the run over the table `nb'` of the images, provided `nb` sends the members of a
family (`Mem`) to members of the family of the `nb'`-neighbour (for the exit directions `D` that occur). -/
theorem splitStepN_relabel (nb nb' : Nat → Nat → Option Nat) (π : Nat → Nat) (Mem D : Nat → Prop)
    (localStep : Nat → σ → LocalStep σ δ) (enter : Nat → Nat → σ → σ) (val : Nat → δ → M)
    (hD : ∀ s x dep d st', localStep s x = .exit dep d st' → D d)
    (hnb : ∀ i d, Mem i → D d → match nb' (π i) d with
        | none => nb i d = none
        | some t => ∃ j, nb i d = some j ∧ Mem j ∧ π j = t) :
    StepCommutes (splitStepN nb (fun i => localStep (π i)) (fun t => enter (π t)) (fun i => val (π i)))
      (splitStepN nb' localStep enter val)
      (fun a b => (∀ i x, a = .inGrid i x → Mem i) ∧ b = relabel π a) := by
  -- every step is matched: the relabelled successor is the successor of the relabelled state
  have key : ∀ a, (∀ i x, a = ChainState.inGrid i x → Mem i) →
      (splitStepN nb (fun i => localStep (π i)) (fun t => enter (π t)) (fun i => val (π i)) a).map
          (fun r => (r.1, relabel π r.2)) = splitStepN nb' localStep enter val (relabel π a)
      ∧ ∀ m a', splitStepN nb (fun i => localStep (π i)) (fun t => enter (π t)) (fun i => val (π i)) a = some (m, a') →
          ∀ i x, a' = ChainState.inGrid i x → Mem i := by
    intro a ha
    cases a with
    | absorbedIn i x => exact ⟨rfl, fun m a' h => by cases h⟩
    | escaped i d x => exact ⟨rfl, fun m a' h => by cases h⟩
    | inGrid i x =>
      have hi := ha i x rfl
      simp only [relabel, splitStepN_inGrid]
      cases h : localStep (π i) x with
      | move dep st' => exact ⟨rfl, fun m a' h' => by cases h'; exact fun _ _ e => by cases e; exact hi⟩
      | absorbed dep st' => exact ⟨rfl, fun m a' h' => by cases h'; exact fun _ _ e => by cases e⟩
      | exit dep d st' =>
        have hrel := hnb i d hi (hD _ _ _ _ _ h)
        cases hn : nb' (π i) d with
        | none =>
          rw [hn] at hrel
          simp only [] at hrel
          simp only [hrel, hn]
          exact ⟨rfl, fun m a' h' => by cases h'; exact fun _ _ e => by cases e⟩
        | some t =>
          rw [hn] at hrel
          obtain ⟨j, hj, hjm, rfl⟩ := hrel
          simp only [hj, hn]
          exact ⟨rfl, fun m a' h' => by cases h'; exact fun _ _ e => by cases e; exact hjm⟩
  refine ⟨fun a b hR ha => ?_, fun a b m a' hR ha => Or.inl ?_⟩
  · rw [hR.2, ← (key a hR.1).1, ha]; rfl
  · refine ⟨relabel π a', ?_, (key a hR.1).2 m a' ha, rfl⟩
    rw [hR.2, ← (key a hR.1).1, ha]; rfl

end split

end CMacVerif.SubgridLayout
