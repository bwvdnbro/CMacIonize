import CMacVerif.Lemmas.Octree
/-! Every position is stored by the Octree constructor (C16): for pairwise separated positions the
recursion of `add_position` ends within the 64 levels of the model's fuel. -/
namespace CMacVerif.Oct
open CMacVerif.GridNum

/-- two points are closer than the box sides at depth `k` on every axis (they can share a box of
depth `k`) -/
def Close (S : Box3 ℝ) (k : Nat) (a b : V3 ℝ) : Prop :=
  |a.x - b.x| < S.sx * (1 / 2 : ℝ) ^ k ∧ |a.y - b.y| < S.sy * (1 / 2 : ℝ) ^ k ∧ |a.z - b.z| < S.sz * (1 / 2 : ℝ) ^ k

/-- the sides of `b` are at most those of a box of depth `k` below `S` -/
def Small (S b : Box3 ℝ) (k : Nat) : Prop :=
  b.sx ≤ S.sx * (1 / 2 : ℝ) ^ k ∧ b.sy ≤ S.sy * (1 / 2 : ℝ) ^ k ∧ b.sz ≤ S.sz * (1 / 2 : ℝ) ^ k

theorem close_mono (S : Box3 ℝ) (hS : PosBox S) (k k' : Nat) (hk : k ≤ k') (a b : V3 ℝ) (h : Close S k' a b) :
    Close S k a b := by
  have hp : (1 / 2 : ℝ) ^ k' ≤ (1 / 2 : ℝ) ^ k :=
    pow_le_pow_of_le_one (by norm_num) (by norm_num) hk
  obtain ⟨h1, h2, h3⟩ := h
  obtain ⟨s1, s2, s3⟩ := hS
  exact ⟨lt_of_lt_of_le h1 (mul_le_mul_of_nonneg_left hp s1.le), lt_of_lt_of_le h2 (mul_le_mul_of_nonneg_left hp s2.le),
    lt_of_lt_of_le h3 (mul_le_mul_of_nonneg_left hp s3.le)⟩

theorem close_of_inBox (S b : Box3 ℝ) (k : Nat) (hs : Small S b k) (p q : V3 ℝ) (hp : InBox b p) (hq : InBox b q) :
    Close S k p q := by
  obtain ⟨p1, p2, p3, p4, p5, p6⟩ := hp
  obtain ⟨q1, q2, q3, q4, q5, q6⟩ := hq
  have key : ∀ a s u v : ℝ, a ≤ u → u < a + s → a ≤ v → v < a + s → |u - v| < s := fun a s u v h1 h2 h3 h4 =>
    abs_sub_lt_iff.2 ⟨by linarith, by linarith⟩
  exact ⟨(key _ _ _ _ p1 p2 q1 q2).trans_le hs.1, (key _ _ _ _ p3 p4 q3 q4).trans_le hs.2.1,
    (key _ _ _ _ p5 p6 q5 q6).trans_le hs.2.2⟩

theorem small_sub (S b : Box3 ℝ) (k : Nat) (hs : Small S b k) (p : V3 ℝ) : Small S (subBox b p) (k + 1) := by
  have key : ∀ x y : ℝ, x ≤ y * (1 / 2 : ℝ) ^ k → x * 0.5 ≤ y * (1 / 2 : ℝ) ^ (k + 1) := fun x y h => by
    rw [pow_succ, ← mul_assoc, lit05]; exact mul_le_mul_of_nonneg_right h (by norm_num)
  exact ⟨key _ _ hs.1, key _ _ hs.2.1, key _ _ hs.2.2⟩

/-- every node holds at least one position -/
def Full : OT ℝ → Prop
  | .empty => True
  | .leaf _ => True
  | .node b v kids => (∃ q, q ∈ leavesOf (OT.node b v kids)) ∧ ∀ k, Full (kids k)

theorem full_has_leaf (t : OT ℝ) (h : Full t) (hne : t ≠ .empty) : ∃ q, q ∈ leavesOf t := by
  cases t with
  | empty => exact absurd rfl hne
  | leaf i => exact ⟨i, by simp [leavesOf]⟩
  | node b v kids => exact h.1

theorem mem_getKid (kids : Fin 8 → OT ℝ) (c q : Nat) (h : q ∈ leavesOf (getKid kids c)) : ∃ k, q ∈ leavesOf (kids k) :=
  ⟨_, h⟩

theorem asNode_full (pos : Nat → V3 ℝ) (t : OT ℝ) (box : Box3 ℝ) (h : Full t) (k : Fin 8) :
    Full ((asNode pos t box).2 k) := by
  cases t with
  | empty => trivial
  | leaf old => simp only [asNode, setKid_apply]; split_ifs <;> trivial
  | node b v kids => exact h.2 k

theorem addPos_full (pos : Nat → V3 ℝ) (index : Nat) : ∀ (fuel : Nat) (t : OT ℝ) (b : Box3 ℝ),
    Full t → Full (addPos pos index fuel t b) := by
  intro fuel
  induction fuel with
  | zero => intro t b h; exact h
  | succ fuel ih =>
    intro t box ht
    have hfc := asNode_full pos t box ht
    rw [addPos_succ]
    have hg : (∃ q, q ∈ leavesOf (grow pos index fuel box (getKid (asNode pos t box).2 (cellOf (pos index) box)))) ∧
        Full (grow pos index fuel box (getKid (asNode pos t box).2 (cellOf (pos index) box))) := by
      unfold grow
      split
      · exact ⟨⟨index, by simp [leavesOf]⟩, trivial⟩
      · rename_i hne
        obtain ⟨q, hq⟩ := full_has_leaf _ (hfc _) hne
        exact ⟨⟨q, (addPos_leaves pos index fuel _ _ q).2 hq⟩, ih _ _ (hfc _)⟩
    obtain ⟨⟨q, hq⟩, hf⟩ := hg
    refine ⟨⟨q, (mem_setKid _ _ _ _ _ _).2 (Or.inl hq)⟩, fun j => ?_⟩
    rw [setKid_apply]
    split_ifs
    · exact hf
    · exact hfc j

/-- the new index is stored, given enough fuel for the depth that the separation of the positions
allows.  If the slot is taken, the stored position and the new one share the box of depth `k + 1`:
separation at depth 62 forces `k + 1 ≤ 62`, so the fuel `≥ 64 - (k + 1)` never runs out -/
theorem addPos_stores (pos : Nat → V3 ℝ) (index : Nat) (S : Box3 ℝ) (hS : PosBox S) :
    ∀ (fuel : Nat) (t : OT ℝ) (b : Box3 ℝ) (k : Nat), 64 ≤ k + fuel → k ≤ 62 → PosBox b → Small S b k →
      Boxed pos t b → Full t → InBox b (pos index) →
      (∀ q ∈ leavesOf t, ¬ Close S 62 (pos q) (pos index)) → index ∈ leavesOf (addPos pos index fuel t b) := by
  intro fuel
  induction fuel with
  | zero => intro t b k h1 h2; omega
  | succ fuel ih =>
    intro t box k hfuel hk hb hsm hbx hfull hin hsep
    rw [addPos_succ, mem_setKid]
    left
    unfold grow
    split
    · simp [leavesOf]
    · rename_i hne
      -- the slot is taken: its position and the new one share the sub-box, one level deeper
      have hinsub := (subBox_spec box (pos index) hb hin).2
      have hkid := getKid_boxed pos box _ hb hin _ (asNode_boxed pos t box hb hbx).2
      have hpsub := subBox_pos box (pos index) hb
      have hsmall := small_sub S box k hsm (pos index)
      have hfc := asNode_full pos t box hfull ⟨cellOf (pos index) box % 8, Nat.mod_lt _ (by decide)⟩
      have hsepc : ∀ q ∈ leavesOf (getKid (asNode pos t box).2 (cellOf (pos index) box)),
          ¬ Close S 62 (pos q) (pos index) :=
        fun q hq => hsep q ((asNode_leaves pos t box q).1 ⟨_, hq⟩)
      obtain ⟨q, hq⟩ := full_has_leaf _ hfc hne
      have hclose := close_of_inBox S _ (k + 1) hsmall (pos q) (pos index)
        (boxed_leaves pos _ _ hpsub hkid q hq) hinsub
      have hk1 : k + 1 ≤ 62 := by
        by_contra hcon
        exact hsepc q hq (close_mono S hS 62 (k + 1) (by omega) _ _ hclose)
      exact ih _ _ (k + 1) (by omega) hk1 hpsub hsmall hkid hfc hinsub hsepc

theorem buildTree_all (pos : Nat → V3 ℝ) (n : Nat) (box : Box3 ℝ) (hb : PosBox box)
    (hin : ∀ i < n, InBox box (pos i))
    (sep : ∀ i j, i < n → j < n → i ≠ j → ¬ Close box 62 (pos i) (pos j)) :
    ∀ m, m + 1 ≤ n → Full (buildTree pos box m) ∧ ∀ q ≤ m, q ∈ leavesOf (buildTree pos box m) := by
  intro m
  induction m with
  | zero => exact fun _ => ⟨trivial, fun q hq => by simp [buildTree, leavesOf]; omega⟩
  | succ m ih =>
    intro hm
    obtain ⟨hfull, hl⟩ := ih (by omega)
    obtain ⟨hbx, hle⟩ := buildTree_boxed pos n box hb hin m (by omega)
    rw [buildTree_succ]
    refine ⟨addPos_full pos (m + 1) 64 _ box hfull, fun q hq => ?_⟩
    rcases Nat.lt_or_ge q (m + 1) with h | h
    · exact (addPos_leaves pos (m + 1) 64 _ box q).2 (hl q (by omega))
    · rw [show q = m + 1 by omega]
      refine addPos_stores pos (m + 1) box hb 64 _ box 0 (by omega) (by omega) hb ?_ hbx hfull (hin _ (by omega))
        fun r hr => sep r (m + 1) (by have := hle r hr; omega) (by omega) (by have := hle r hr; omega)
      simp [Small]

theorem build_all_stored (pos : Nat → V3 ℝ) (n : Nat) (box : Box3 ℝ) (h : Nat → ℝ) (hb : PosBox box)
    (hin : ∀ i < n, InBox box (pos i))
    (sep : ∀ i j, i < n → j < n → i ≠ j → ¬ Close box 62 (pos i) (pos j)) :
    ∀ q < n, q ∈ leavesOf (build pos n box h) := by
  intro q hq
  unfold build
  rw [if_neg (by omega)]
  simp only [setVar_leaves]
  exact (buildTree_all pos n box hb hin sep (n - 1) (by omega)).2 q (by omega)

end CMacVerif.Oct
