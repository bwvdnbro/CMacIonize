import CMacVerif.Model.GridNum
import Mathlib.Algebra.Order.Archimedean.Real.Basic
import Mathlib.Algebra.Order.Floor.Ring
import Mathlib.Tactic.Linarith
import Mathlib.Tactic.NormNum
/-! What all C16 grids share: the `ℝ` instances of the numeric front end, the facts about the truncating conversion
the proofs use, membership of a point in a box (`InBox`, `PosBox`), and the last step of the optical depth
accounting of a traversal (`used_up`). -/
namespace CMacVerif.GridNum

noncomputable instance : Trunc ℝ := ⟨fun x => if 0 ≤ x then ⌊x⌋ else -⌊-x⌋⟩
noncomputable instance : OfInt ℝ := ⟨fun i => (i : ℝ)⟩

theorem ofNat_real (n : Nat) : (OfInt.ofNat n : ℝ) = (n : ℝ) := by
  simp [OfInt.ofNat, OfInt.ofInt]

theorem ofInt_real (i : Int) : (OfInt.ofInt i : ℝ) = (i : ℝ) := rfl

theorem toInt_real_nonneg (x : ℝ) (h : 0 ≤ x) : Trunc.toInt x = ⌊x⌋ := by
  simp [Trunc.toInt, h]

theorem toNat_eq_iff (x : ℝ) (h : 0 ≤ x) (n : Nat) :
    Trunc.toNat x = n ↔ ((n : ℝ) ≤ x ∧ x < (n : ℝ) + 1) := by
  unfold Trunc.toNat
  rw [toInt_real_nonneg x h]
  have h0 : 0 ≤ ⌊x⌋ := Int.floor_nonneg.mpr h
  constructor
  · intro hn
    have e : ⌊x⌋ = (n : Int) := by omega
    have := Int.floor_eq_iff.mp e
    exact_mod_cast this
  · rintro ⟨h1, h2⟩
    have : ⌊x⌋ = (n : Int) := Int.floor_eq_iff.mpr ⟨by exact_mod_cast h1, by exact_mod_cast h2⟩
    omega

/-- `x` stands for the quotient in whatever form the caller computes it (`hx`) -/
theorem toInt_cell (p a s : ℝ) (n : Int) (hs : 0 < s) (hn : 0 < n) (h1 : a ≤ p) (h2 : p < a + s)
    (x : ℝ) (hx : x = (p - a) / s * (n : ℝ)) :
    (0 ≤ (Trunc.toInt x : Int) ∧ Trunc.toInt x < n) ∧
    a + ((Trunc.toInt x : Int) : ℝ) * (s / (n : ℝ)) ≤ p ∧
    p < a + (((Trunc.toInt x : Int) + 1 : Int) : ℝ) * (s / (n : ℝ)) := by
  have hnR : (0 : ℝ) < (n : ℝ) := by exact_mod_cast hn
  have hq1 : (p - a) / s < 1 := (div_lt_one hs).2 (by linarith)
  have hx0 : 0 ≤ x := hx ▸ mul_nonneg (div_nonneg (by linarith) hs.le) hnR.le
  have hxn : x < (n : ℝ) := by rw [hx]; exact (mul_lt_mul_of_pos_right hq1 hnR).trans_eq (one_mul _)
  have hxs : x * (s / (n : ℝ)) = p - a := by
    rw [hx, mul_assoc, mul_div_cancel₀ _ hnR.ne', div_mul_cancel₀ _ hs.ne']
  have hcs : 0 < s / (n : ℝ) := div_pos hs hnR
  rw [toInt_real_nonneg x hx0]
  generalize s / (n : ℝ) = c at *
  refine ⟨⟨Int.floor_nonneg.mpr hx0, by exact_mod_cast (Int.floor_le x).trans_lt hxn⟩, ?_, ?_⟩
  · have := mul_le_mul_of_nonneg_right (Int.floor_le x) hcs.le
    linarith
  · have := mul_lt_mul_of_pos_right (Int.lt_floor_add_one x) hcs
    push_cast
    linarith

/-- half-open membership of a point in a box -/
def InBox (b : Box3 ℝ) (p : V3 ℝ) : Prop :=
  b.ax ≤ p.x ∧ p.x < b.ax + b.sx ∧ b.ay ≤ p.y ∧ p.y < b.ay + b.sy ∧ b.az ≤ p.z ∧ p.z < b.az + b.sz

def PosBox (b : Box3 ℝ) : Prop := 0 < b.sx ∧ 0 < b.sy ∧ 0 < b.sz

/-- the accounting at the end of a traversal (Cartesian and AMR grid alike), `S` the depth of the deposits: once
the remaining depth `od` is used up, `S` is the whole target `tau`, so for `tau > 0` a cell was traversed -/
theorem used_up {tau od S : ℝ} {β : Type} {last : Option β} (htau : 0 < tau) (h1 : 0 ≤ od → tau - od = S)
    (h2 : od < 0 → S = tau) (h3 : last = none → S = 0) (hle : od ≤ 0) : S = tau ∧ last ≠ none := by
  have hsum : S = tau := by
    rcases lt_or_eq_of_le hle with h | h
    · exact h2 h
    · have := h1 h.ge; rw [h] at this; linarith
  exact ⟨hsum, fun hl => by rw [h3 hl] at hsum; linarith⟩

end CMacVerif.GridNum
