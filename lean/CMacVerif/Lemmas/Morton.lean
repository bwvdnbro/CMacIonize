import CMacVerif.Model.Morton
import Mathlib.Tactic.Ring
import Mathlib.Tactic.Linarith
/-! The loop of `get_key` computes the bit interleaving `spread`; bounds, inverse and monotonicity
of `spread` (C16). -/
namespace CMacVerif.Morton

theorem bitAt_le (v i : Nat) : bitAt v i ≤ 1 := by
  unfold bitAt; omega

theorem bitAt_zero (v : Nat) : bitAt v 0 = v % 2 := by simp [bitAt]

theorem bitAt_div_two (v i : Nat) : bitAt (v / 2) i = bitAt v (i + 1) := by
  unfold bitAt
  rw [Nat.div_div_eq_div_mul, pow_succ, Nat.mul_comm]

theorem digit_le (x y z i : Nat) : digit x y z i ≤ 7 := by
  unfold digit
  have := bitAt_le x i; have := bitAt_le y i; have := bitAt_le z i
  omega

theorem spread_succ (n x y z : Nat) : spread (n + 1) x y z =
    (4 * (x % 2) + 2 * (y % 2) + z % 2) + 8 * spread n (x / 2) (y / 2) (z / 2) := rfl

/-- the top group splits off: the MSB-first view of `spread` -/
theorem spread_succ_top (n : Nat) : ∀ x y z : Nat,
    spread (n + 1) x y z = digit x y z n * 8 ^ n + spread n x y z := by
  induction n with
  | zero => intro x y z; simp [spread, digit, bitAt_zero]
  | succ n ih =>
    intro x y z
    rw [spread_succ, ih, spread_succ]
    have hd : digit (x / 2) (y / 2) (z / 2) n = digit x y z (n + 1) := by
      simp [digit, bitAt_div_two]
    rw [hd, pow_succ]; ring

/-- the loop computes `spread` (with the already accumulated key shifted up) -/
theorem interleaveFrom_eq (n : Nat) : ∀ key x y z : Nat,
    interleaveFrom n key x y z = key * 8 ^ n + spread n x y z := by
  induction n with
  | zero => intro key x y z; simp [interleaveFrom, spread]
  | succ n ih =>
    intro key x y z
    rw [interleaveFrom, ih, spread_succ_top, pow_succ]; ring

theorem mortonKey_eq (x y z : Nat) : mortonKey x y z = spread 21 x y z := by
  simp [mortonKey, interleaveFrom_eq]

theorem spread_lt (n : Nat) : ∀ x y z : Nat, spread n x y z < 8 ^ n := by
  induction n with
  | zero => intro x y z; simp [spread]
  | succ n ih =>
    intro x y z
    have := ih (x / 2) (y / 2) (z / 2)
    simp only [spread_succ, pow_succ]; omega

theorem unspread_spread (n : Nat) : ∀ x y z : Nat,
    unspread n (spread n x y z) = (x % 2 ^ n, y % 2 ^ n, z % 2 ^ n) := by
  induction n with
  | zero => intro x y z; simp [unspread, Nat.mod_one]
  | succ n ih =>
    intro x y z
    -- the lowest group `4a + 2b + c` of the key holds the lowest bit of every coordinate
    have key : ∀ a b c S : Nat, a < 2 → b < 2 → c < 2 →
        (4 * a + 2 * b + c + 8 * S) / 8 = S ∧ (4 * a + 2 * b + c + 8 * S) % 8 / 4 = a ∧
          (4 * a + 2 * b + c + 8 * S) % 8 / 2 % 2 = b ∧ (4 * a + 2 * b + c + 8 * S) % 2 = c := by
      intro a b c S ha hb hc; omega
    obtain ⟨k1, k2, k3, k4⟩ := key (x % 2) (y % 2) (z % 2) (spread n (x / 2) (y / 2) (z / 2))
      (Nat.mod_lt _ two_pos) (Nat.mod_lt _ two_pos) (Nat.mod_lt _ two_pos)
    simp only [unspread, spread_succ, k1, k2, k3, k4, ih, pow_succ', Nat.mod_mul]

theorem spread_split (n : Nat) : ∀ x y z : Nat,
    spread n x y z = 4 * spread n 0 0 x + 2 * spread n 0 0 y + spread n 0 0 z := by
  induction n with
  | zero => intro x y z; rfl
  | succ n ih =>
    intro x y z
    simp only [spread_succ, Nat.zero_div, Nat.zero_mod]
    rw [ih (x / 2) (y / 2) (z / 2)]; omega

theorem spread_strict (n : Nat) : ∀ z z' : Nat, z < z' → z' < 2 ^ n →
    spread n 0 0 z < spread n 0 0 z' := by
  induction n with
  | zero => intro z z' h h'; simp at h'; omega
  | succ n ih =>
    intro z z' h h'
    simp only [spread_succ, Nat.zero_div, Nat.zero_mod]
    rw [pow_succ] at h'
    by_cases hh : z / 2 < z' / 2
    · have := ih (z / 2) (z' / 2) hh (by omega)
      omega
    · have e : z / 2 = z' / 2 := by omega
      rw [e]; omega

end CMacVerif.Morton
