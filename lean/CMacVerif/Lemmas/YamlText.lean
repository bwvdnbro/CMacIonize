import CMacVerif.Lemmas.Yaml
/-!
Text level of C20: the lexer (`is_comment_line`, `is_empty_line`, `strip_comments_line`,
`read_keyvaluepair`, `strip_whitespace_line`, `is_indented_line`) reads back the tokens the printer
writes, provided names contain no '#' and do not begin or end with a blank (names cut out of a
flat key never contain ':'), and values likewise.
-/
namespace CMacVerif.Yaml

/-- no '#', no blank at either end (may be empty) -/
def Clean (s : Str) : Prop :=
  '#' ∉ s ∧ (∀ c r, s = c :: r → isWs c = false) ∧ (∀ c r, s.reverse = c :: r → isWs c = false)

instance (s : Str) : Decidable (Clean s) :=
  have h : ∀ l : Str, (∀ c r, l = c :: r → isWs c = false) ↔ ∀ c ∈ l.head?, isWs c = false :=
    fun l => by cases l <;> simp
  decidable_of_iff
    ('#' ∉ s ∧ (∀ c ∈ s.head?, isWs c = false) ∧ ∀ c ∈ s.reverse.head?, isWs c = false)
    (by unfold Clean; rw [h, h])

/-- what the lexer returns for the text printed after `key:` -/
def lexVal (v : Str) : Str :=
  if v.isEmpty then [] else stripWs ((' ' :: v).takeWhile (fun c => c ≠ '#'))

theorem isWs_space : isWs ' ' = true := by decide
theorem isWs_colon : isWs ':' = false := by decide
theorem isWs_hash : isWs '#' = false := by decide

theorem all_ws_replicate (n : Nat) : ∀ c ∈ List.replicate n ' ', isWs c = true := by
  intro c hc
  rw [List.eq_of_mem_replicate hc]; exact isWs_space

theorem takeWhile_not_hash {l : Str} (h : '#' ∉ l) (t : Str) :
    (l ++ t).takeWhile (fun c => c ≠ '#') = l ++ t.takeWhile (fun c => c ≠ '#') :=
  List.takeWhile_append_of_pos fun _ hc => decide_eq_true fun e => h (e ▸ hc)

theorem stripWs_pad (a u b : Str) (ha : ∀ c ∈ a, isWs c = true) (hb : ∀ c ∈ b, isWs c = true)
    (h1 : ∀ c r, u = c :: r → isWs c = false) (h2 : ∀ c r, u.reverse = c :: r → isWs c = false) :
    stripWs (a ++ u ++ b) = u := by
  unfold stripWs
  cases u with
  | nil =>
    rw [List.append_nil, List.dropWhile_append_of_pos ha, ← List.append_nil b,
      List.dropWhile_append_of_pos hb]
    rfl
  | cons c r =>
    have hc : isWs c = false := h1 c r rfl
    rw [List.append_assoc, List.dropWhile_append_of_pos ha, List.cons_append,
      List.dropWhile_cons_of_neg (by simp [hc])]
    have hrev : (c :: (r ++ b)).reverse = b.reverse ++ (c :: r).reverse := by simp
    rw [hrev, List.dropWhile_append_of_pos (by
      intro x hx; exact hb x (List.mem_reverse.1 hx))]
    rcases hr : (c :: r).reverse with _ | ⟨d, r'⟩
    · simp at hr
    · have hd : isWs d = false := h2 d r' hr
      rw [List.dropWhile_cons_of_neg (by simp [hd]), ← hr, List.reverse_reverse]

theorem splitColon_append (a t : Str) (ha : ':' ∉ a) : splitColon (a ++ ':' :: t) = some (a, t) := by
  induction a with
  | nil => simp [splitColon]
  | cons c a ih =>
    have hc : c ≠ ':' := fun h => ha (by simp [h])
    have ha' : ':' ∉ a := fun h => ha (by simp [h])
    simp [splitColon, hc, ih ha']

theorem lexLine_key_colon (n : Nat) (key t : Str) (hk : Clean key) (hcol : ':' ∉ key) :
    lexLine (List.replicate n ' ' ++ key ++ ':' :: t) =
      .line ⟨n, key, stripWs (t.takeWhile (fun c => c ≠ '#'))⟩ := by
  obtain ⟨hhash, hhead, hlast⟩ := hk
  -- the first character after the indentation: no blank, no '#'
  obtain ⟨c, r, hcr, hws, hne⟩ : ∃ c r, key ++ [':'] = c :: r ∧ isWs c = false ∧ c ≠ '#' := by
    cases key with
    | nil => exact ⟨':', [], rfl, isWs_colon, by decide⟩
    | cons c r => exact ⟨c, r ++ [':'], rfl, hhead c r rfl, fun h => hhash (h ▸ List.mem_cons_self)⟩
  have hline : ∀ t' : Str, List.replicate n ' ' ++ key ++ ':' :: t' =
      List.replicate n ' ' ++ c :: (r ++ t') := fun t' => by
    rw [List.append_assoc, List.append_cons key, hcr]; rfl
  have hws' : ¬ isWs c = true := by rw [hws]; exact Bool.false_ne_true
  have hdrop : ∀ s : Str, (List.replicate n ' ' ++ c :: s).dropWhile isWs = c :: s := fun s => by
    rw [List.dropWhile_append_of_pos (all_ws_replicate n), List.dropWhile_cons_of_neg hws']
  have hindent : ∀ s : Str, indentOf (List.replicate n ' ' ++ c :: s) = n := fun s => by
    rw [indentOf, hdrop, List.isEmpty_cons, if_neg Bool.false_ne_true,
      List.takeWhile_append_of_pos (all_ws_replicate n),
      List.takeWhile_cons_of_neg hws', List.append_nil, List.length_replicate]
  -- comment stripping only touches the text after the colon
  have hstrip : stripComments (List.replicate n ' ' ++ key ++ ':' :: t) =
      List.replicate n ' ' ++ key ++ ':' :: t.takeWhile (fun c => c ≠ '#') := by
    have h1 : '#' ∉ List.replicate n ' ' ++ key := fun h =>
      (List.mem_append.1 h).elim (fun h => absurd (List.eq_of_mem_replicate h) (by decide)) hhash
    rw [stripComments, takeWhile_not_hash h1, List.takeWhile_cons_of_pos (by decide)]
  have hnc : ':' ∉ List.replicate n ' ' ++ key := fun h =>
    (List.mem_append.1 h).elim (fun h => absurd (List.eq_of_mem_replicate h) (by decide)) hcol
  have hkey : stripWs (List.replicate n ' ' ++ key) = key := by
    have := stripWs_pad (List.replicate n ' ') key [] (all_ws_replicate n) (by simp) hhead hlast
    rwa [List.append_nil] at this
  rw [lexLine, hstrip, isCommentLine, isEmptyLine, hline t, hdrop]
  dsimp only
  simp only [decide_eq_false hne, List.isEmpty_cons, Bool.not_false, Bool.and_self, if_true]
  rw [splitColon_append _ _ hnc, hline, hindent]
  dsimp only
  rw [hkey]

theorem lexLine_renderLine (l : Line) (hk : Clean l.key) (hcol : ':' ∉ l.key) :
    lexLine (renderLine l) = .line ⟨l.indent, l.key, lexVal l.value⟩ := by
  obtain ⟨n, key, v⟩ := l
  cases v with
  | nil => exact lexLine_key_colon n key [] hk hcol
  | cons c r => exact lexLine_key_colon n key (' ' :: c :: r) hk hcol

/-- tokens read back from a rendered token list -/
def relex (l : Line) : Line := ⟨l.indent, l.key, lexVal l.value⟩

theorem lexAll_render (ls : List Line) (h : ∀ l ∈ ls, Clean l.key ∧ ':' ∉ l.key) :
    lexAll (ls.map renderLine) = some (ls.map relex) := by
  induction ls with
  | nil => rfl
  | cons l ls ih =>
    have hl := h l (by simp)
    simp only [List.map_cons, lexAll, lexLine_renderLine l hl.1 hl.2]
    rw [ih (fun x hx => h x (by simp [hx]))]
    rfl

/-! ### which names the printer writes -/

theorem key_mem_of_mem_headers (ind : Nat) (ks : List Str) (l : Line) (h : l ∈ headers ind ks) : l.key ∈ ks := by
  induction ks generalizing ind with
  | nil => exact absurd h List.not_mem_nil
  | cons k ks ih =>
    rcases List.mem_cons.1 h with rfl | h
    · exact List.mem_cons_self
    · exact List.mem_cons_of_mem _ (ih _ h)

theorem Rendering.key_mem {kgp : List Str} {d : Dict} {ls : List Line} (h : Rendering kgp d ls)
    (l : Line) (hl : l ∈ ls) : ∃ kv ∈ d, l.key ∈ groups kv.1 ∨ l.key = (splitKey kv.1).2 := by
  induction h with
  | nil => exact absurd hl List.not_mem_nil
  | @cons kgp k v rest ls i hi _ ih =>
    rcases List.mem_append.1 hl with h | h
    · exact ⟨(k, v), List.mem_cons_self,
        Or.inl (List.mem_of_mem_drop (key_mem_of_mem_headers _ _ l h))⟩
    · rcases List.mem_cons.1 h with rfl | h
      · exact ⟨(k, v), List.mem_cons_self, Or.inr rfl⟩
      · obtain ⟨kv', hkv', hh⟩ := ih h
        exact ⟨kv', List.mem_cons_of_mem _ hkv', hh⟩

theorem map_relex_headers (ind : Nat) (ks : List Str) :
    (headers ind ks).map relex = headers ind ks := by
  induction ks generalizing ind with
  | nil => rfl
  | cons k ks ih => simp [headers, relex, lexVal, ih]

theorem Rendering.map_relex {kgp : List Str} {d : Dict} {ls : List Line} (h : Rendering kgp d ls) :
    Rendering kgp (d.map fun kv => (kv.1, lexVal kv.2)) (ls.map relex) := by
  induction h with
  | nil kgp => exact .nil kgp
  | @cons kgp k v rest ls i hi _ ih =>
    rw [List.map_cons, List.map_append, List.map_cons, map_relex_headers]
    exact .cons i hi ih

/-- every group and the name of every key is `Clean` (then so is every name the printer writes) -/
def CleanKeys (d : Dict) : Prop :=
  ∀ kv ∈ d, (∀ g ∈ groups kv.1, Clean g) ∧ Clean (splitKey kv.1).2

theorem Sorted.map_values {d : Dict} (hs : Sorted d) (f : Str → Str → Str) :
    Sorted (d.map fun kv => (kv.1, f kv.1 kv.2)) := by
  unfold Sorted at hs ⊢
  rw [List.pairwise_map]
  exact hs

theorem CleanKeys.map_values {d : Dict} (hk : CleanKeys d) (f : Str → Str → Str) :
    CleanKeys (d.map fun kv => (kv.1, f kv.1 kv.2)) :=
  List.forall_mem_map.2 hk

theorem Rendering.parseText_eq {d : Dict} {ls : List Line} (h : Rendering [] d ls) (hs : Sorted d)
    (hk : CleanKeys d) (hv : ∀ kv ∈ d, lexVal kv.2 ≠ []) :
    parseText (ls.map renderLine) = some (d.map fun kv => (kv.1, lexVal kv.2)) := by
  have hl : ∀ l ∈ ls, Clean l.key ∧ ':' ∉ l.key := fun l hl => by
    obtain ⟨kv, hkv, h | h⟩ := h.key_mem l hl
    · exact ⟨(hk kv hkv).1 _ h, splitKey_no_colon kv.1 _ h⟩
    · rw [h]; exact ⟨(hk kv hkv).2, splitKey_name_no_colon kv.1⟩
  rw [parseText, lexAll_render ls hl]
  exact h.map_relex.parse_eq (hs.map_values fun _ v => lexVal v) (List.forall_mem_map.2 hv)

theorem lexVal_append (u b t : Str) (hne : u ≠ []) (hc : Clean u) (hb : ∀ c ∈ b, isWs c = true)
    (ht : ∀ c r, t = c :: r → c = '#') : lexVal (u ++ b ++ t) = u := by
  obtain ⟨hhash, hhead, hlast⟩ := hc
  have hve : (u ++ b ++ t).isEmpty = false := List.isEmpty_eq_false_iff.2
    (List.append_ne_nil_of_left_ne_nil (List.append_ne_nil_of_left_ne_nil hne b) t)
  have h1 : '#' ∉ [' '] ++ u ++ b := fun h =>
    (List.mem_append.1 h).elim
      (fun h => (List.mem_append.1 h).elim (fun h => absurd (List.mem_singleton.1 h) (by decide)) hhash)
      fun h => absurd (hb _ h) (by decide)
  have h2 : t.takeWhile (fun c => c ≠ '#') = [] := by
    cases t with
    | nil => rfl
    | cons c r => rw [ht c r rfl]; rfl
  rw [lexVal, hve, if_neg Bool.false_ne_true,
    show ' ' :: (u ++ b ++ t) = [' '] ++ u ++ b ++ t from rfl,
    takeWhile_not_hash h1, h2, List.append_nil]
  exact stripWs_pad [' '] u b (fun c hc => by rw [List.mem_singleton.1 hc]; rfl) hb hhead hlast

theorem lexVal_clean (v : Str) (hne : v ≠ []) (hc : Clean v) : lexVal v = v := by
  simpa using lexVal_append v [] [] hne hc (by simp) (by simp)

/-- in the used-values dump `used # (original)` the comment is dropped and `used` is read -/
theorem lexVal_used (u rest : Str) (hne : u ≠ []) (hc : Clean u) :
    lexVal (u ++ ' ' :: '#' :: rest) = u := by
  simpa using lexVal_append u [' '] ('#' :: rest) hne hc (by simp [isWs_space]) (by simp)

end CMacVerif.Yaml
