import CMacVerif.Model.Predicates
import Mathlib.Tactic.Ring
import Mathlib.Tactic.Linarith
import Mathlib.Tactic.NormNum
import Mathlib.Algebra.Order.AbsoluteValue.Basic
import Mathlib.Algebra.Order.Ring.Abs

/-!
The fixed-width (`FW w`) instantiation of the exact routines computes the same integers as the `Int`
instantiation as soon as `w ≥ 162` (orientation) resp. `w ≥ 272` (in-sphere), for all mantissas of at
most 53 bits.  `Fits x v B` tracks, operation by operation, that the fixed-width number `x` holds the
integer `v` and that `|v| ≤ B`; every `Fits.add/sub/mul` step has the side condition that the bound
still fits in `w` bits.
-/
set_option exponentiation.threshold 1200
namespace CMacVerif.Predicates

theorem wrapSM_eq {w : Nat} {x : Int} (h : |x| < 2 ^ w) : wrapSM w x = x := by
  obtain ⟨h1, h2⟩ := abs_lt.mp h
  unfold wrapSM
  split_ifs with hx
  · rw [Int.emod_eq_of_lt (neg_nonneg.2 hx.le) (neg_lt.1 h1), neg_neg]
  · exact Int.emod_eq_of_lt (not_lt.1 hx) h2

namespace FW
variable {w : Nat}
@[simp] theorem add_v (a b : FW w) : (a + b).v = wrapSM w (a.v + b.v) := rfl
@[simp] theorem sub_v (a b : FW w) : (a - b).v = wrapSM w (a.v - b.v) := rfl
@[simp] theorem mul_v (a b : FW w) : (a * b).v = wrapSM w (a.v * b.v) := rfl
end FW

structure Fits {w : Nat} (x : FW w) (v B : Int) : Prop where
  eq : x.v = v
  le : |v| ≤ B

/-- a coordinate mantissa of at most 53 bits -/
def M53 (m : Int) : Prop := 0 ≤ m ∧ m < 2 ^ 53
def Mant53 (p : V3 Int) : Prop := M53 p.x ∧ M53 p.y ∧ M53 p.z

theorem mantissa_range (bits : Nat) : 0 ≤ mantissa bits ∧ mantissa bits < 2 ^ 52 := by
  have : bits % 2 ^ 52 < 2 ^ 52 := Nat.mod_lt _ (by norm_num)
  exact ⟨Int.natCast_nonneg _, Int.ofNat_lt.2 this⟩

theorem mant53_of_bits (p : V3 Nat) : Mant53 (p.map mantissa) := by
  have h : ∀ b, M53 (mantissa b) := fun b =>
    ⟨(mantissa_range b).1, (mantissa_range b).2.trans (by norm_num)⟩
  exact ⟨h _, h _, h _⟩

theorem lt_two_pow_of_le {w k : Nat} {B : Int} (h : B < 2 ^ k) (hw : k ≤ w) : B < 2 ^ w :=
  lt_of_lt_of_le h (pow_le_pow_right₀ (by norm_num) hw)

namespace Fits
variable {w : Nat} {x y : FW w} {vx vy Bx By : Int}

theorem add (hx : Fits x vx Bx) (hy : Fits y vy By) (h : Bx + By < 2 ^ w) :
    Fits (x + y) (vx + vy) (Bx + By) := by
  have hb : |vx + vy| ≤ Bx + By := (abs_add_le _ _).trans (add_le_add hx.le hy.le)
  exact ⟨by rw [FW.add_v, hx.eq, hy.eq]; exact wrapSM_eq (lt_of_le_of_lt hb h), hb⟩

theorem sub (hx : Fits x vx Bx) (hy : Fits y vy By) (h : Bx + By < 2 ^ w) :
    Fits (x - y) (vx - vy) (Bx + By) := by
  have hb : |vx - vy| ≤ Bx + By := (abs_sub _ _).trans (add_le_add hx.le hy.le)
  exact ⟨by rw [FW.sub_v, hx.eq, hy.eq]; exact wrapSM_eq (lt_of_le_of_lt hb h), hb⟩

theorem mul (hx : Fits x vx Bx) (hy : Fits y vy By) (h : Bx * By < 2 ^ w) :
    Fits (x * y) (vx * vy) (Bx * By) := by
  have hb : |vx * vy| ≤ Bx * By := by
    rw [abs_mul]; exact mul_le_mul hx.le hy.le (abs_nonneg _) ((abs_nonneg _).trans hx.le)
  exact ⟨by rw [FW.mul_v, hx.eq, hy.eq]; exact wrapSM_eq (lt_of_le_of_lt hb h), hb⟩

theorem mono {B' : Int} (hx : Fits x vx Bx) (h : Bx ≤ B') : Fits x vx B' := ⟨hx.eq, hx.le.trans h⟩

/-- difference of two mantissas: at most 53 bits again (both are non-negative) -/
theorem diff (hw : 53 ≤ w) (hx : M53 vx) (hy : M53 vy) :
    Fits (FW.ofInt w vx - FW.ofInt w vy) (vx - vy) (2 ^ 53) := by
  have h53 : (2 : Int) ^ 53 ≤ 2 ^ w := pow_le_pow_right₀ (by norm_num) hw
  have e : ∀ {v : Int}, M53 v → wrapSM w v = v := fun h =>
    wrapSM_eq (by rw [abs_of_nonneg h.1]; exact h.2.trans_le h53)
  have hb : |vx - vy| < 2 ^ 53 := abs_sub_lt_of_nonneg_of_lt hx.1 hx.2 hy.1 hy.2
  refine ⟨?_, hb.le⟩
  show wrapSM w (wrapSM w vx - wrapSM w vy) = vx - vy
  rw [e hx, e hy]
  exact wrapSM_eq (hb.trans_le h53)
end Fits

/-- all three components are 53-bit differences held exactly -/
structure VFits {w : Nat} (P : V3 (FW w)) (p : V3 Int) : Prop where
  x : Fits P.x p.x (2 ^ 53)
  y : Fits P.y p.y (2 ^ 53)
  z : Fits P.z p.z (2 ^ 53)

theorem vfits_vsub {w : Nat} (hw : 53 ≤ w) {a e : V3 Int} (ha : Mant53 a) (he : Mant53 e) :
    VFits (vsub (toFW w a) (toFW w e)) (vsub a e) := by
  obtain ⟨ax, ay, az⟩ := ha
  obtain ⟨ex, ey, ez⟩ := he
  exact ⟨Fits.diff hw ax ex, Fits.diff hw ay ey, Fits.diff hw az ez⟩

theorem fits_minor2 {w : Nat} (hw : 108 ≤ w) {P Q : V3 (FW w)} {p q : V3 Int}
    (hp : VFits P p) (hq : VFits Q q) : Fits (minor2 P Q) (minor2 p q) (2 ^ 107) := by
  have l106 : ((2:Int) ^ 53 * 2 ^ 53) < 2 ^ w := lt_two_pow_of_le (k := 108) (by norm_num) hw
  have r := Fits.sub (Fits.mul hp.x hq.y l106) (Fits.mul hq.x hp.y l106)
    (lt_two_pow_of_le (k := 108) (by norm_num) hw)
  exact r.mono (by norm_num)

/-- three products, the first two combined by `op` (`Fits.add`: `cda`, `dab`, `orient3d_exact`, the
squared norms; `Fits.sub`: `abc`, `bcd`, the head of `insphereCombine`), the third added -/
theorem fits_dot3 {w : Nat} {f : FW w → FW w → FW w} {g : Int → Int → Int}
    (op : ∀ {x y : FW w} {vx vy Bx By : Int}, Fits x vx Bx → Fits y vy By → Bx + By < 2 ^ w →
      Fits (f x y) (g vx vy) (Bx + By))
    {z1 z2 z3 m1 m2 m3 : FW w} {vz1 vz2 vz3 vm1 vm2 vm3 B C D : Int}
    (h1 : Fits z1 vz1 B) (h2 : Fits z2 vz2 B) (h3 : Fits z3 vz3 B) (k1 : Fits m1 vm1 C)
    (k2 : Fits m2 vm2 C) (k3 : Fits m3 vm3 C) (hD : B * C + B * C + B * C ≤ D) (hw : D < 2 ^ w) :
    Fits (f (z1 * m1) (z2 * m2) + z3 * m3) (g (vz1 * vm1) (vz2 * vm2) + vz3 * vm3) D := by
  have hBC : 0 ≤ B * C := mul_nonneg ((abs_nonneg _).trans h1.le) ((abs_nonneg _).trans k1.le)
  have l3 : B * C + B * C + B * C < 2 ^ w := hD.trans_lt hw
  have l2 : B * C + B * C < 2 ^ w := (le_add_of_nonneg_right hBC).trans_lt l3
  have l1 : B * C < 2 ^ w := (le_add_of_nonneg_right hBC).trans_lt l2
  exact (Fits.add (op (Fits.mul h1 k1 l1) (Fits.mul h2 k2 l1) l2) (Fits.mul h3 k3 l1) l3).mono hD

theorem fits_nrm2 {w : Nat} (hw : 108 ≤ w) {P : V3 (FW w)} {p : V3 Int}
    (hp : VFits P p) : Fits (nrm2 P) (nrm2 p) (3 * 2 ^ 106) :=
  fits_dot3 Fits.add hp.x hp.y hp.z hp.x hp.y hp.z (by norm_num)
    (lt_two_pow_of_le (k := 108) (by norm_num) hw)

/-- the orientation value of three difference vectors (`orient3d_exact` after its nine
subtractions), in any number type: their 3x3 determinant, expanded along the `z` column (the `abc`, …
of `insphereParts` are instances) -/
def orientVec {ι : Type} [Add ι] [Sub ι] [Mul ι] (p q r : V3 ι) : ι :=
  p.z * minor2 q r + q.z * minor2 r p + r.z * minor2 p q

theorem orientExactVal_eq {ι : Type} [Add ι] [Sub ι] [Mul ι] (a b c d : V3 ι) :
    orientExactVal a b c d = orientVec (vsub a d) (vsub b d) (vsub c d) := rfl

theorem orient_fits (w : Nat) (hw : 162 ≤ w) (a b c d : V3 Int) (ha : Mant53 a) (hb : Mant53 b)
    (hc : Mant53 c) (hd : Mant53 d) :
    (orientExactVal (toFW w a) (toFW w b) (toFW w c) (toFW w d)).v = orientExactVal a b c d
    ∧ |orientExactVal a b c d| < 2 ^ 162 := by
  have h53 : 53 ≤ w := by omega
  have h108 : 108 ≤ w := by omega
  have ad := vfits_vsub h53 ha hd
  have bd := vfits_vsub h53 hb hd
  have cd := vfits_vsub h53 hc hd
  rw [orientExactVal_eq, orientExactVal_eq]
  have h := fits_dot3 Fits.add (D := 3 * 2 ^ 160) ad.z bd.z cd.z (fits_minor2 h108 bd cd)
    (fits_minor2 h108 cd ad) (fits_minor2 h108 ad bd) (by norm_num)
    (lt_two_pow_of_le (k := 162) (by norm_num) hw)
  exact ⟨h.eq, h.le.trans_lt (by norm_num)⟩

/-- the four 3x3 minors fit in 162 bits, the four squared norms in 108, the combination in 272 -/
theorem fits_insphereCombine {w : Nat} (hw : 272 ≤ w) {A B C D : V3 (FW w)} {a b c d : V3 Int}
    (ha : VFits A a) (hb : VFits B b) (hc : VFits C c) (hd : VFits D d) :
    Fits (insphereCombine (insphereParts A B C D)) (insphereCombine (insphereParts a b c d))
      (4 * (3 * 2 ^ 106 * (3 * 2 ^ 160))) := by
  have h108 : 108 ≤ w := by omega
  have ab := fits_minor2 h108 ha hb
  have bc := fits_minor2 h108 hb hc
  have cd := fits_minor2 h108 hc hd
  have da := fits_minor2 h108 hd ha
  have ac := fits_minor2 h108 ha hc
  have bd := fits_minor2 h108 hb hd
  have hD : (2 : Int) ^ 53 * 2 ^ 107 + 2 ^ 53 * 2 ^ 107 + 2 ^ 53 * 2 ^ 107 ≤ 3 * 2 ^ 160 := by
    norm_num
  have hD' : (3 : Int) * 2 ^ 160 < 2 ^ w := lt_two_pow_of_le (k := 162) (by norm_num) (by omega)
  have abc := fits_dot3 Fits.sub ha.z hb.z hc.z bc ac ab hD hD'
  have bcd := fits_dot3 Fits.sub hb.z hc.z hd.z cd bd bc hD hD'
  have cda := fits_dot3 Fits.add hc.z hd.z ha.z da ac cd hD hD'
  have dab := fits_dot3 Fits.add hd.z ha.z hb.z ab bd da hD hD'
  have l : ∀ {n : Int}, n < 2 ^ 272 → n < 2 ^ w := fun h => lt_two_pow_of_le h hw
  have r := Fits.sub (fits_dot3 Fits.sub (fits_nrm2 h108 hd) (fits_nrm2 h108 hc) (fits_nrm2 h108 hb)
    abc dab cda le_rfl (l (by norm_num))) (Fits.mul (fits_nrm2 h108 ha) bcd (l (by norm_num)))
    (l (by norm_num))
  exact r.mono (by norm_num)

theorem insphere_fits (w : Nat) (hw : 272 ≤ w) (a b c d e : V3 Int) (ha : Mant53 a)
    (hb : Mant53 b) (hc : Mant53 c) (hd : Mant53 d) (he : Mant53 e) :
    (insphereExactVal (toFW w a) (toFW w b) (toFW w c) (toFW w d) (toFW w e)).v
      = insphereExactVal a b c d e
    ∧ |insphereExactVal a b c d e| < 2 ^ 272 := by
  have h53 : 53 ≤ w := by omega
  have h := fits_insphereCombine hw (vfits_vsub h53 ha he) (vfits_vsub h53 hb he)
    (vfits_vsub h53 hc he) (vfits_vsub h53 hd he)
  exact ⟨h.eq, h.le.trans_lt (by norm_num)⟩

end CMacVerif.Predicates
