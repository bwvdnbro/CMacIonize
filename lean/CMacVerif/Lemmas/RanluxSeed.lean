import CMacVerif.Lemmas.Ranlux
import Mathlib.Tactic.Ring
/-!
`set_seed` fills the state with the complemented output of the
31 bit shift register `b(n+31) = b(n) xor b(n+18)` started from the bits of the seed.
-/
namespace CMacVerif.Ranlux

/-- the shift register sequence of seed `i`: the 31 seed bits (least significant first), then
`b(n) = b(n-31) xor b(n-13)` -/
def lfsr (i : Nat) (n : Nat) : Nat :=
  if h : n < 31 then (i / 2 ^ n) % 2 else (lfsr i (n - 31) + lfsr i (n - 13)) % 2
termination_by n
decreasing_by all_goals omega

theorem lfsr_lt (i n : Nat) (h : n < 31) : lfsr i n = (i / 2 ^ n) % 2 := by
  rw [lfsr]; simp [h]

theorem lfsr_ge (i n : Nat) : lfsr i (n + 31) = (lfsr i n + lfsr i (n + 18)) % 2 := by
  rw [lfsr]
  have : ¬ n + 31 < 31 := by omega
  simp only [this, dite_false]
  congr 3

theorem lfsr_le_one (i n : Nat) : lfsr i n ≤ 1 := by
  rw [lfsr]; split <;> omega

/-- the generated bit: complement of the register output -/
def ybit (i n : Nat) : Int := (((lfsr i n + 1) % 2 : Nat) : Int)

theorem ybit_01 (i n : Nat) : 0 ≤ ybit i n ∧ ybit i n ≤ 1 := by
  unfold ybit; omega

theorem ybit_eq (i n : Nat) : ybit i n = 1 - (lfsr i n : Int) := by
  have := lfsr_le_one i n
  unfold ybit; omega

/-- before iteration `n` the circular buffer holds `b(n) … b(n+30)` -/
structure ShiftAt (i n : Nat) (t : Shift) : Prop where
  win : Window 31 t.xbit 0 (lfsr i) n
  ib  : t.ibit = n % 31
  jb  : t.jbit = (n + 18) % 31

theorem seedBit_spec (R : Rnd) (i n : Nat) (x : Int) (t : Shift) (h : ShiftAt i n t) :
    (seedBit R x t).1 = R (x + R (x + ybit i n)) ∧ ShiftAt i (n + 1) (seedBit R x t).2 := by
  have vi : t.xbit.getD (n % 31) 0 = lfsr i n := h.win.get n (le_refl n) (by omega)
  have vj : t.xbit.getD ((n + 18) % 31) 0 = lfsr i (n + 18) := h.win.get (n + 18) (by omega) (by omega)
  unfold seedBit
  rw [h.ib, h.jb, vi, vj, ← lfsr_ge]
  exact ⟨rfl, h.win.push (by omega), Nat.mod_add_mod _ _ _,
    (Nat.mod_add_mod _ _ _).trans (by rw [Nat.add_right_comm])⟩

/-- the first `k` generated bits from position `n` on, read as a binary number -/
def pre (i : Nat) : Nat → Nat → Int
  | _, 0 => 0
  | n, k + 1 => ybit i n * 2 ^ k + pre i (n + 1) k

/-- the same number built from the other end -/
theorem pre_succ (i n k : Nat) : pre i n (k + 1) = 2 * pre i n k + ybit i (n + k) := by
  induction k generalizing n with
  | zero => simp [pre]
  | succ k ih =>
    rw [pre, ih (n + 1), pre]
    have : n + 1 + k = n + (k + 1) := by omega
    rw [this]; ring

theorem pre_bnd (i n k : Nat) : 0 ≤ pre i n k ∧ pre i n k < 2 ^ k := by
  induction k with
  | zero => simp [pre]
  | succ k ih =>
    have := ybit_01 i (n + k)
    rw [pre_succ, pow_succ]
    omega

theorem pre48_bnd (i n : Nat) : 0 ≤ pre i n 48 ∧ pre i n 48 < B := by
  have := pre_bnd i n 48
  rw [B_val]
  norm_num at this
  exact this

theorem pre_zero_bits (i n k : Nat) (h : pre i n k = 0) : ∀ m, m < k → ybit i (n + m) = 0 := by
  induction k with
  | zero => intro m hm; omega
  | succ k ih =>
    intro m hm
    have y := ybit_01 i (n + k)
    rw [pre_succ] at h
    by_cases e : m = k
    · subst e; omega
    · exact ih (by omega) m (by omega)

/-- a state word is never zero: 48 zero bits in a row would be 48 ones of the register, but
`b(n+31) = b(n) xor b(n+18)` -/
theorem pre48_ne_zero (i n : Nat) : pre i n 48 ≠ 0 := by
  intro h
  have z := pre_zero_bits i n 48 h
  have e0 : ybit i n = 0 := z 0 (by omega)
  have e18 := z 18 (by omega)
  have e31 := z 31 (by omega)
  rw [ybit_eq] at e0 e18 e31
  have := lfsr_ge i n
  omega

/-- the `m` loop: after `m` iterations `x` holds the first `m` generated bits of the word; no
operation rounds -/
theorem seedWord_spec (R : Rnd) (hR : RExact R) (i n : Nat) :
    ∀ (k m : Nat) (t : Shift), ShiftAt i (n + m) t → m + k ≤ 48 →
      (seedWord R k (pre i n m) t).1 = pre i n (m + k)
        ∧ ShiftAt i (n + m + k) (seedWord R k (pre i n m) t).2 := by
  intro k
  induction k with
  | zero => intro m t h _; exact ⟨rfl, h⟩
  | succ k ih =>
    intro m t h hk
    obtain ⟨e, hs⟩ := seedBit_spec R i (n + m) (pre i n m) t h
    -- `x < 2^m ≤ 2^47` keeps `x + y` and `x + (x + y)` below the `2^49` up to which `R` is exact
    have b := pre_bnd i n m
    have hm : (2 : Int) ^ m ≤ 2 ^ 47 := pow_le_pow_right₀ (by norm_num) (by omega)
    have h47 : (2 : Int) ^ 47 = 140737488355328 := by norm_num
    have y := ybit_01 i (n + m)
    rw [hR (_ + ybit i (n + m)) (by omega) (by omega), hR _ (by omega) (by omega), ← add_assoc,
      ← two_mul, ← pre_succ] at e
    rw [seedWord, show seedBit R (pre i n m) t = (_, (seedBit R (pre i n m) t).2) from Prod.ext e rfl,
      ← Nat.add_assoc m, Nat.add_right_comm m, ← Nat.add_assoc (n + m),
      Nat.add_right_comm (n + m)]
    exact ih (m + 1) _ hs (by omega)

/-- the `k` loop: the words of the state are consecutive 48 bit groups of the generated bits -/
theorem seedWords_spec (R : Rnd) (hR : RExact R) (i : Nat) :
    ∀ (k n : Nat) (t : Shift), ShiftAt i n t →
      seedWords R 48 k t = (List.range k).map (fun j => pre i (n + 48 * j) 48) := by
  intro k
  induction k with
  | zero => intro n t _; rfl
  | succ k ih =>
    intro n t h
    have hw : (seedWord R 48 0 t).1 = pre i n 48 ∧ ShiftAt i (n + 48) (seedWord R 48 0 t).2 :=
      seedWord_spec R hR i n 48 0 t h (by omega)
    have hp := pre48_bnd i n
    rw [B_val] at hp
    have hr : R (pre i n 48) = pre i n 48 := hR _ (by omega) (by omega)
    rw [seedWords]
    generalize seedWord R 48 0 t = w at hw ⊢
    obtain ⟨wx, wt⟩ := w
    dsimp only at hw ⊢
    rw [hw.1, hr, ih (n + 48) _ hw.2, List.range_succ_eq_map, List.map_cons, List.map_map]
    simp only [Function.comp_def, Nat.mul_zero, Nat.add_zero, Nat.mul_succ, Nat.add_assoc,
      Nat.add_comm 48]

theorem seedBits_getD : ∀ (n i q : Nat), q < n → (seedBits n i).getD q 0 = (i / 2 ^ q) % 2 := by
  intro n
  induction n with
  | zero => intro i q h; omega
  | succ n ih =>
    intro i q h
    cases q with
    | zero => simp [seedBits]
    | succ q =>
      rw [seedBits, List.getD_cons_succ, ih (i / 2) q (by omega), Nat.div_div_eq_div_mul,
        Nat.pow_succ']

theorem seedBits_length : ∀ (n i : Nat), (seedBits n i).length = n := by
  intro n
  induction n with
  | zero => intro i; rfl
  | succ n ih => intro i; simp [seedBits, ih]

theorem shiftAt_init (i : Nat) : ShiftAt i 0 { xbit := (seedBits 31 i).toArray, ibit := 0, jbit := 18 } := by
  refine ⟨⟨by simp [seedBits_length], fun q _ hq => ?_⟩, rfl, rfl⟩
  rw [Nat.mod_eq_of_lt hq, lfsr_lt i q hq, ← seedBits_getD 31 i q hq]
  simp [Array.getD_eq_getD_getElem?, List.getD_eq_getElem?_getD]

/-- the 31 bit value the shift register is started from: `0 ↦ 1`, then `seed & 0x7FFFFFFF` -/
def effSeed (seed : Int) : Nat := ((if seed = 0 then 1 else seed) % 2147483648).toNat

theorem effSeed_cast (seed : Int) :
    (effSeed seed : Int) = (if seed = 0 then 1 else seed) % 2147483648 :=
  Int.toNat_of_nonneg (Int.emod_nonneg _ (by norm_num))

theorem seedState_eq (R : Rnd) (hR : RExact R) (seed : Int) :
    seedState R seed =
      ⟨((List.range 12).map (fun j => pre (effSeed seed) (48 * j) 48)).toArray,
        0, 11, 7, 0, 397⟩ := by
  unfold seedState
  dsimp only
  rw [seedWords_spec R hR _ 12 0 _ (shiftAt_init _)]
  simp only [Nat.zero_add]
  rfl

theorem seedState_R (R : Rnd) (hR : RExact R) (seed : Int) : seedState R seed = seedState exact seed := by
  rw [seedState_eq R hR, seedState_eq exact exact_RExact]

theorem seedState_rd (seed : Int) (p : Nat) (hp : p < 12) :
    rd (seedState exact seed).x p = pre (effSeed seed) (48 * p) 48 := by
  rw [seedState_eq exact exact_RExact seed]
  simp only [rd, Array.getD_eq_getD_getElem?, List.getElem?_toArray, List.getElem?_map,
    List.getElem?_range hp, Option.map_some, Option.getD_some]

theorem seedState_bnd (seed : Int) : Bnd (seedState exact seed).x := by
  refine ⟨by rw [seedState_eq exact exact_RExact seed]; simp, ?_⟩
  intro p hp
  rw [seedState_rd seed p hp]
  exact pre48_bnd _ _

theorem pre_digits (i i' n k : Nat) (h : pre i n k = pre i' n k) :
    ∀ m, m < k → ybit i (n + m) = ybit i' (n + m) := by
  induction k with
  | zero => intro m hm; omega
  | succ k ih =>
    intro m hm
    rw [pre_succ, pre_succ] at h
    have := ybit_01 i (n + k)
    have := ybit_01 i' (n + k)
    by_cases e : m = k
    · subst e; omega
    · exact ih (by omega) m (by omega)

theorem word0_inj (i i' : Nat) (hi : i < 2 ^ 31) (hi' : i' < 2 ^ 31)
    (h : pre i 0 48 = pre i' 0 48) : i = i' := by
  -- the first 31 digits are the complemented bits of the seed, least significant first
  have low : ∀ k, k ≤ 31 → i % 2 ^ k = i' % 2 ^ k := by
    intro k
    induction k with
    | zero => intro _; simp [Nat.mod_one]
    | succ k ih =>
      intro hk
      have hd := pre_digits i i' 0 48 h k (by omega)
      rw [Nat.zero_add, ybit_eq, ybit_eq, lfsr_lt i k (by omega), lfsr_lt i' k (by omega)] at hd
      rw [Nat.mod_pow_succ, Nat.mod_pow_succ, ih (by omega),
        show i / 2 ^ k % 2 = i' / 2 ^ k % 2 by omega]
  have := low 31 (le_refl _)
  rwa [Nat.mod_eq_of_lt hi, Nat.mod_eq_of_lt hi'] at this

theorem effSeed_lt (seed : Int) : effSeed seed < 2 ^ 31 := by
  unfold effSeed; split <;> omega

theorem effSeed_of_range (a : Int) (h1 : 1 ≤ a) (h2 : a < 2147483648) : effSeed a = a.toNat := by
  unfold effSeed
  rw [if_neg (by omega), Int.emod_eq_of_lt (by omega) h2]

end CMacVerif.Ranlux
