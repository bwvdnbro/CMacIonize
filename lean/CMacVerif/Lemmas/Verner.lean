import CMacVerif.Model.Verner
import CMacVerif.Inst.Real
import CMacVerif.Lemmas.Samplers
import Mathlib.Tactic.NormNum
import Mathlib.Tactic.Positivity
/-!
# C18 — the Verner cross-section model over ℝ

The coded fits are the published formulae of the shipped row (`fitA_eq_published`, `fitB_eq_published`), which are
products of non-negative factors: `get_cross_section_verner` is 0 below the threshold (`csv_below`) and non-negative on a
well-formed row (`csv_nonneg`); the left-to-right sum of the C++ is the sum (`sumLeft_eq_sum`).
-/
namespace CMacVerif.Verner
open CMacVerif CMacVerif.Gen.Verner CMacVerif.Locate

theorem eVtoHz_pos : 0 < (eVtoHz : ℝ) := by
  unfold eVtoHz electronvolt planck; norm_num

/-- the published parameter ranges of a data row.  The proofs use `E_th > 0`, `E_0 > 0`, `σ₀ ≥ 0` of row A and `σ₀ ≥ 0`
of row B only; the other conjuncts (`y_a > 0`, `P > 0`, `y_w ≥ 0`, `E_0 > 0` of row B) are checked on the table, not needed -/
def RowAWF (a : RawA ℝ) : Prop := 0 < a.E_th ∧ 0 < a.E_0 ∧ 0 ≤ a.sigma_0 ∧ 0 < a.y_a ∧ 0 < a.P ∧ 0 ≤ a.y_w
def RowBWF (b : RawB ℝ) : Prop := 0 < b.E_0 ∧ 0 ≤ b.sigma_0 ∧ 0 < b.y_a ∧ 0 < b.P

/-- well-formedness of the rows one `get_cross_section_verner(nz, ne, is, ·)` call reads -/
def ShellWF (nz ne is : ℕ) : Prop := RowAWF (dataA nz ne is) ∧ RowBWF (dataB nz ne)

/-- threshold frequency (Hz) of a shell as the constructor stores it -/
noncomputable def shellThreshold (nz ne is : ℕ) : ℝ := (prepA (dataA (α := ℝ) nz ne is)).E_th

theorem shellThreshold_pos {nz ne is : ℕ} (h : RowAWF (dataA nz ne is)) : 0 < shellThreshold nz ne is := by
  unfold shellThreshold prepA; exact mul_pos h.1 eVtoHz_pos

theorem csv_below (nz ne is : ℕ) (e : ℝ) (h : e < shellThreshold nz ne is) :
    crossSectionVerner nz ne is e = 0 := by
  unfold shellThreshold at h
  unfold crossSectionVerner xsBranch
  rw [if_pos h]
  exact lit0

/-! ## the published fitting formulae, written out -/

/-- Verner & Yakovlev (1995), eq. (1):  σ(E) = σ₀ F(E/E₀) Mb,
`F(y) = [(y-1)² + y_w²] · y^(0.5 P - 5.5 - l) · (1 + √(y / y_a))^(-P)`; `E` in eV, result in m² -/
noncomputable def publishedA (r : RawA ℝ) (E : ℝ) : ℝ :=
  r.sigma_0 * 1e-22 *
    ((((E / r.E_0) - 1) ^ 2 + r.y_w ^ 2) * (E / r.E_0) ^ (0.5 * r.P - 5.5 - r.l) *
      (1 + Real.sqrt ((E / r.E_0) / r.y_a)) ^ (-r.P))

/-- Verner, Ferland, Korista & Yakovlev (1996), eq. (1):  σ(E) = σ₀ F(y) Mb, `x = E/E₀ - y₀`,
`y = √(x² + y₁²)`, `F(y) = [(x-1)² + y_w²] · y^(0.5 P - 5.5) · (1 + √(y / y_a))^(-P)` -/
noncomputable def publishedB (r : RawB ℝ) (E : ℝ) : ℝ :=
  r.sigma_0 * 1e-22 *
    ((((E / r.E_0 - r.y_0) - 1) ^ 2 + r.y_w ^ 2) *
      (Real.sqrt ((E / r.E_0 - r.y_0) ^ 2 + r.y_1 ^ 2)) ^ (0.5 * r.P - 5.5) *
      (1 + Real.sqrt (Real.sqrt ((E / r.E_0 - r.y_0) ^ 2 + r.y_1 ^ 2) / r.y_a)) ^ (-r.P))

theorem fitA_eq_published (r : RawA ℝ) (e : ℝ) : fitA (prepA r) e = publishedA r (e / eVtoHz) := by
  unfold fitA prepA publishedA
  simp only [pow_real, sqrt_real, lit1, mul_one_div, ← sq]
  rw [div_mul_eq_div_div_swap, mul_comm (1.0e-22 : ℝ), show (1.0e-22 : ℝ) = 1e-22 by norm_num]

theorem fitB_eq_published (r : RawB ℝ) (e : ℝ) : fitB (prepB r) e = publishedB r (e / eVtoHz) := by
  unfold fitB prepB publishedB
  simp only [pow_real, sqrt_real, lit1, mul_one_div, ← sq]
  rw [div_mul_eq_div_div_swap, mul_comm (1.0e-22 : ℝ), show (1.0e-22 : ℝ) = 1e-22 by norm_num]

theorem publishedA_nonneg (r : RawA ℝ) (E : ℝ) (hs : 0 ≤ r.sigma_0) (hE : 0 < r.E_0) (he : 0 ≤ E) :
    0 ≤ publishedA r E := by
  unfold publishedA; positivity

theorem publishedB_nonneg (r : RawB ℝ) (E : ℝ) (hs : 0 ≤ r.sigma_0) : 0 ≤ publishedB r E := by
  unfold publishedB; positivity

theorem csv_nonneg (nz ne is : ℕ) (e : ℝ) (h : ShellWF nz ne is) : 0 ≤ crossSectionVerner nz ne is e := by
  by_cases hb : e < shellThreshold nz ne is
  · rw [csv_below nz ne is e hb]
  · obtain ⟨hA, -, hsB, -⟩ := h
    have he : 0 ≤ e / eVtoHz := div_nonneg ((shellThreshold_pos hA).le.trans (not_lt.mp hb)) eVtoHz_pos.le
    obtain ⟨-, hE0, hsA, -⟩ := hA
    unfold crossSectionVerner
    cases xsBranch nz ne is e with
    | below | gtNout | gap => simp only; rw [lit0]
    | fitA => simp only; rw [fitA_eq_published]; exact publishedA_nonneg _ _ hsA hE0 he
    | fitB => simp only; rw [fitB_eq_published]; exact publishedB_nonneg _ _ hsB

theorem sumLeft_eq_sum (l : List ℝ) : sumLeft l = l.sum := by
  cases l with
  | nil => exact lit0
  | cons x xs => rw [sumLeft, List.sum_eq_foldl, List.foldl_cons, zero_add]

theorem ionShellsSpec_subset_used (ion : Ion) : ∀ s ∈ ionShellsSpec ion, s ∈ usedShellsSpec :=
  fun _ hs => List.mem_flatMap.2 ⟨ion, by cases ion <;> decide, hs⟩

end CMacVerif.Verner
