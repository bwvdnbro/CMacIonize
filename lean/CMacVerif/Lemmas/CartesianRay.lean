import CMacVerif.Lemmas.Cartesian
/-! Invariants of the `interact` loop of the Cartesian grid over `ℝ` (C16). -/
namespace CMacVerif.Cartesian
open CMacVerif.GridNum

def pathSum (l : List (Int × ℝ)) : ℝ := (l.map Prod.snd).sum

/-- opacity of a cell for this photon: `n (σ_H x_H + σ_He x_He)` -/
def kappa (m : Medium ℝ) (c : Int) : ℝ := m.dens c * (m.sigH * m.xH c + m.sigHe * m.xHe c)

def tauSum (m : Medium ℝ) (l : List (Int × ℝ)) : ℝ := (l.map fun e => kappa m e.1 * e.2).sum

theorem opticalDepth_eq (m : Medium ℝ) (c : Int) (ds : ℝ) : opticalDepth m c ds = kappa m c * ds := by
  unfold opticalDepth kappa; ring

theorem pathSum_cons (e : Int × ℝ) (l : List (Int × ℝ)) : pathSum (e :: l) = e.2 + pathSum l := by
  simp [pathSum]

theorem tauSum_cons (m : Medium ℝ) (e : Int × ℝ) (l : List (Int × ℝ)) :
    tauSum m (e :: l) = kappa m e.1 * e.2 + tauSum m l := by
  simp [tauSum]

/-- The loop body for `0 < od`: the photon advances by `t · ds` (`ds` the distance to the wall,
`0 < t ≤ 1`) and `od` drops by the depth `κ · ds` of the whole chord.  Either that exhausts `od`, then
`κ · t · ds` is what was left and the index stays; or `t = 1` and the index moves by the wall offsets. -/
theorem body_spec (big : ℝ) (g : Grid ℝ) (m : Medium ℝ) (d inv : V3 ℝ) (st : St ℝ) (hod : 0 < st.od) :
    let w := wallIntersection big st.pos d inv (cellBox g st.idx)
    let c := longIndex g.n st.idx
    let b := body big g m d inv st
    let ds := w.2.2
    let k := w.2.1
    ∃ t : ℝ, 0 < t ∧ t ≤ 1 ∧
      b.pos = ⟨st.pos.x + d.x * (t * ds), st.pos.y + d.y * (t * ds), st.pos.z + d.z * (t * ds)⟩ ∧
      b.path = (c, t * ds) :: st.path ∧
      b.od = st.od - kappa m c * ds ∧ b.last = some c ∧
      (b.od < 0 ∧ b.idx = st.idx ∧ kappa m c * (t * ds) = st.od ∨
       0 ≤ b.od ∧ t = 1 ∧ b.idx = ⟨st.idx.x + k.x, st.idx.y + k.y, st.idx.z + k.z⟩) := by
  intro w c b ds k
  simp only [ds, k]
  clear ds k
  have hw : w.1 = ⟨st.pos.x + d.x * w.2.2, st.pos.y + d.y * w.2.2, st.pos.z + d.z * w.2.2⟩ := rfl
  have hb : b = body big g m d inv st := rfl
  unfold body at hb
  simp only [lit0, opticalDepth_eq] at hb
  rw [show wallIntersection big st.pos d inv (cellBox g st.idx) = w from rfl,
    show longIndex g.n st.idx = c from rfl] at hb
  clear_value w c b
  by_cases hc : st.od - kappa m c * w.2.2 < 0
  · -- the correcting branch: the fraction travelled is `t = od / τ`
    rw [if_pos hc] at hb
    obtain ⟨hk, hds, t0, t1, hκ⟩ := Axis.absorb_frac hod (sub_neg.mp hc).le
    rw [Axis.absorb_path_add hk hds, hw] at hb
    simp only [Axis.absorb_pos hds] at hb
    subst hb
    exact ⟨_, t0, t1, rfl, rfl, rfl, rfl, Or.inl ⟨hc, rfl, hκ⟩⟩
  · rw [if_neg hc, hw] at hb
    subst hb
    exact ⟨1, one_pos, le_refl _, by simp only [one_mul], by simp only [one_mul], rfl, rfl,
      Or.inr ⟨not_lt.1 hc, rfl, rfl⟩⟩

theorem insideAxis_shift (per : Bool) (n : Int) (side : ℝ) (i : Int) (p : ℝ) :
    ∃ k : Int, (insideAxis per n side i p).2.2 = p + k * side ∧ (per = false → k = 0) := by
  unfold insideAxis
  cases per
  · exact ⟨0, by simp, fun _ => rfl⟩
  · simp only [Bool.not_true, Bool.false_eq_true, if_false]
    by_cases h1 : i < 0
    · have h2 : ¬ n - 1 ≥ n := by omega
      exact ⟨1, by simp [h1, h2], by simp⟩
    · by_cases h2 : i ≥ n
      · exact ⟨-1, by simp [h1, h2]; ring, by simp⟩
      · exact ⟨0, by simp [h1, h2], by simp⟩

/-- the flag one axis of `is_inside` returns, a function of the index alone -/
def axisFlag (per : Bool) (n i : Int) : Bool := if !per then decide (i ≥ 0 ∧ i < n) else true

theorem insideAxis_flag (per : Bool) (n : Int) (side : ℝ) (i : Int) (p : ℝ) :
    (insideAxis per n side i p).1 = axisFlag per n i := by
  cases per <;> rfl

/-- the wrap leaves the flag as it was: a periodic axis is inside whatever the index, any other keeps its index -/
theorem axisFlag_wrap (per : Bool) (n : Int) (side : ℝ) (i : Int) (p : ℝ) :
    axisFlag per n (insideAxis per n side i p).2.1 = axisFlag per n i := by
  cases per <;> rfl

/-- inside flag of the grid as a function of the index -/
def gridFlag (g : Grid ℝ) (i : I3) : Bool :=
  axisFlag g.px g.n.x i.x && axisFlag g.py g.n.y i.y && axisFlag g.pz g.n.z i.z

theorem isInside_flag (g : Grid ℝ) (i : I3) (p : V3 ℝ) : (isInside g i p).1 = gridFlag g i := by
  unfold isInside gridFlag
  simp only [insideAxis_flag]

/-- the cell `interact` returns: its last `is_inside` test is the flag of the final index -/
theorem interact_cell (big : ℝ) (g : Grid ℝ) (m : Medium ℝ) (p d inv : V3 ℝ) (tau : ℝ) (fuel : Nat) :
    (interact big g m p d inv tau fuel).cell =
      if gridFlag g (loop big g m d inv fuel ⟨p, cellIndices g p, tau, [], none, 0.0⟩).1.idx = true then
        (loop big g m d inv fuel ⟨p, cellIndices g p, tau, [], none, 0.0⟩).1.last else none :=
  congrArg (fun b : Bool => if b = true then _ else none) (isInside_flag g _ _)

theorem loop_succ (big : ℝ) (g : Grid ℝ) (m : Medium ℝ) (d inv : V3 ℝ) (fuel : Nat) (st : St ℝ) :
    loop big g m d inv (fuel + 1) st =
      if gridFlag g st.idx = true ∧ 0 < st.od then loop big g m d inv fuel (body big g m d inv (wrapSt g st))
      else (wrapSt g st, true) := by
  simp only [loop, Bool.and_eq_true, decide_eq_true_eq, lit0, isInside_flag g st.idx st.pos, gt_iff_lt]

/-- The loop as an invariant rule.  The test `is_inside(index, position)` updates its arguments in place, so the
state returned is the state `st'` the loop stops on, wrapped once more (`st'` itself when the fuel is used up). -/
theorem loop_inv (big : ℝ) (g : Grid ℝ) (m : Medium ℝ) (d inv : V3 ℝ) (P : St ℝ → Prop)
    (hstep : ∀ st, P st → gridFlag g st.idx = true → 0 < st.od → P (body big g m d inv (wrapSt g st))) :
    ∀ (fuel : Nat) (st : St ℝ), P st →
      ∃ st', P st' ∧ (loop big g m d inv fuel st = (st', false) ∨
        ¬ (gridFlag g st'.idx = true ∧ 0 < st'.od) ∧ loop big g m d inv fuel st = (wrapSt g st', true)) := by
  intro fuel
  induction fuel with
  | zero => exact fun st h => ⟨st, h, Or.inl rfl⟩
  | succ fuel ih =>
    intro st h
    rw [loop_succ]
    split_ifs with hc
    · exact ih _ (hstep st h hc.1 hc.2)
    · exact ⟨st, h, Or.inr ⟨hc, rfl⟩⟩

theorem wrap_flag (g : Grid ℝ) (st : St ℝ) : gridFlag g (wrapSt g st).idx = gridFlag g st.idx := by
  show gridFlag g (isInside g st.idx st.pos).2.1 = _
  unfold isInside gridFlag
  simp only [axisFlag_wrap]

/-- the point of the straight line at parameter `t`, shifted by `σ` -/
def lineAt (p : V3 ℝ) (t : ℝ) (d σ : V3 ℝ) : V3 ℝ :=
  ⟨p.x + t * d.x + σ.x, p.y + t * d.y + σ.y, p.z + t * d.z + σ.z⟩

/-- whole box lengths on periodic axes, nothing on the other axes -/
def Lattice (g : Grid ℝ) (σ : V3 ℝ) : Prop :=
  (∃ k : Int, σ.x = (k : ℝ) * g.box.sx ∧ (g.px = false → k = 0)) ∧
  (∃ k : Int, σ.y = (k : ℝ) * g.box.sy ∧ (g.py = false → k = 0)) ∧
  (∃ k : Int, σ.z = (k : ℝ) * g.box.sz ∧ (g.pz = false → k = 0))

theorem lattice_zero (g : Grid ℝ) : Lattice g ⟨0, 0, 0⟩ :=
  ⟨⟨0, by simp, fun _ => rfl⟩, ⟨0, by simp, fun _ => rfl⟩, ⟨0, by simp, fun _ => rfl⟩⟩

theorem shift_add {S a b : ℝ} {per : Bool} (ha : ∃ k : Int, a = (k : ℝ) * S ∧ (per = false → k = 0))
    (hb : ∃ k : Int, b = (k : ℝ) * S ∧ (per = false → k = 0)) :
    ∃ k : Int, a + b = (k : ℝ) * S ∧ (per = false → k = 0) := by
  obtain ⟨k, rfl, hk⟩ := ha
  obtain ⟨l, rfl, hl⟩ := hb
  exact ⟨k + l, by push_cast; ring, fun h => by rw [hk h, hl h]; rfl⟩

theorem lattice_add (g : Grid ℝ) (a b : V3 ℝ) (ha : Lattice g a) (hb : Lattice g b) :
    Lattice g ⟨a.x + b.x, a.y + b.y, a.z + b.z⟩ :=
  ⟨shift_add ha.1 hb.1, shift_add ha.2.1 hb.2.1, shift_add ha.2.2 hb.2.2⟩

/-- the position is the point of an image of the line (whole box lengths on periodic axes) at the
parameter reached, the sum of the recorded path lengths -/
def OnLine (g : Grid ℝ) (d p0 : V3 ℝ) (st : St ℝ) : Prop :=
  ∃ σ, Lattice g σ ∧ st.pos = lineAt p0 (pathSum st.path) d σ

theorem wrap_onLine (g : Grid ℝ) (d p0 : V3 ℝ) (st : St ℝ) (h : OnLine g d p0 st) : OnLine g d p0 (wrapSt g st) := by
  obtain ⟨σ, hσ, hpos⟩ := h
  obtain ⟨k1, e1, z1⟩ := insideAxis_shift g.px g.n.x g.box.sx st.idx.x st.pos.x
  obtain ⟨k2, e2, z2⟩ := insideAxis_shift g.py g.n.y g.box.sy st.idx.y st.pos.y
  obtain ⟨k3, e3, z3⟩ := insideAxis_shift g.pz g.n.z g.box.sz st.idx.z st.pos.z
  refine ⟨_, lattice_add g σ ⟨(k1 : ℝ) * g.box.sx, (k2 : ℝ) * g.box.sy, (k3 : ℝ) * g.box.sz⟩ hσ
    ⟨⟨k1, rfl, z1⟩, ⟨k2, rfl, z2⟩, ⟨k3, rfl, z3⟩⟩, ?_⟩
  show (isInside g st.idx st.pos).2.2 = _
  simp only [isInside]
  rw [e1, e2, e3, hpos]
  simp only [lineAt, wrapSt]
  congr 1 <;> ring

theorem body_line (big : ℝ) (g : Grid ℝ) (m : Medium ℝ) (p0 d inv σ : V3 ℝ) (st : St ℝ) (hod : 0 < st.od)
    (h : st.pos = lineAt p0 (pathSum st.path) d σ) :
    ∃ ds, (body big g m d inv st).path = (longIndex g.n st.idx, ds) :: st.path ∧
      (body big g m d inv st).pos = lineAt p0 (pathSum st.path + ds) d σ ∧
      (body big g m d inv st).pos = lineAt p0 (pathSum (body big g m d inv st).path) d σ := by
  obtain ⟨t, -, -, hp, hpath, -⟩ := body_spec big g m d inv st hod
  have hb : (body big g m d inv st).pos = lineAt p0 (pathSum st.path +
      t * (wallIntersection big st.pos d inv (cellBox g st.idx)).2.2) d σ := by
    rw [hp, h]
    simp only [lineAt]
    congr 1 <;> ring
  exact ⟨_, hpath, hb, by rw [hb, hpath, pathSum_cons, add_comm]⟩

theorem loop_onLine (big : ℝ) (g : Grid ℝ) (m : Medium ℝ) (p0 d inv : V3 ℝ) (fuel : Nat) (st : St ℝ)
    (h : OnLine g d p0 st) : OnLine g d p0 (loop big g m d inv fuel st).1 := by
  obtain ⟨st', h', e | ⟨-, e⟩⟩ := loop_inv big g m d inv (OnLine g d p0) (fun st h _ hod => by
    obtain ⟨σ, hσ, hpos⟩ := wrap_onLine g d p0 st h
    obtain ⟨-, -, -, hon⟩ := body_line big g m p0 d inv σ (wrapSt g st) hod hpos
    exact ⟨σ, hσ, hon⟩) fuel st h <;> rw [e]
  · exact h'
  · exact wrap_onLine g d p0 st' h'

/-- while `od ≥ 0` the depth used up is `tau0 - od`; once `od < 0` the deposits add up to `tau0` and
the index is inside the grid -/
structure TauInv (g : Grid ℝ) (m : Medium ℝ) (tau0 : ℝ) (st : St ℝ) : Prop where
  nonneg : 0 ≤ st.od → tau0 - st.od = tauSum m st.path
  neg : st.od < 0 → tauSum m st.path = tau0 ∧ gridFlag g st.idx = true
  last : st.last = none ↔ st.path = []

theorem wrap_tauInv (g : Grid ℝ) (m : Medium ℝ) (tau0 : ℝ) (st : St ℝ) (h : TauInv g m tau0 st) :
    TauInv g m tau0 (wrapSt g st) :=
  ⟨h.nonneg, fun hneg => ⟨(h.neg hneg).1, (wrap_flag g st).trans (h.neg hneg).2⟩, h.last⟩

theorem body_tauInv (big : ℝ) (g : Grid ℝ) (m : Medium ℝ) (tau0 : ℝ) (d inv : V3 ℝ) (st : St ℝ)
    (hod : 0 < st.od) (hflag : gridFlag g st.idx = true) (h : TauInv g m tau0 st) :
    TauInv g m tau0 (body big g m d inv st) := by
  have hsum := h.nonneg hod.le
  obtain ⟨t, -, -, -, hpath, hbod, hlast, ⟨hneg, hi, hk⟩ | ⟨hnn, rfl, -⟩⟩ := body_spec big g m d inv st hod
  · refine ⟨fun hn => absurd hneg (not_lt.2 hn), fun _ => ⟨?_, by rw [hi]; exact hflag⟩, ?_⟩
    · rw [hpath, tauSum_cons, ← hsum]; simp only; linarith
    · rw [hlast, hpath]; simp
  · refine ⟨fun _ => ?_, fun hn => absurd hn (not_lt.2 hnn), by rw [hlast, hpath]; simp⟩
    rw [hpath, tauSum_cons, ← hsum, hbod]; simp only; ring

theorem loop_exit (big : ℝ) (g : Grid ℝ) (m : Medium ℝ) (tau0 : ℝ) (d inv : V3 ℝ) (fuel : Nat) (st : St ℝ)
    (h : TauInv g m tau0 st) (hfin : (loop big g m d inv fuel st).2 = true) :
    TauInv g m tau0 (loop big g m d inv fuel st).1 ∧
      ¬ (gridFlag g (loop big g m d inv fuel st).1.idx = true ∧ 0 < (loop big g m d inv fuel st).1.od) := by
  obtain ⟨st', h', e | ⟨hc, e⟩⟩ := loop_inv big g m d inv (TauInv g m tau0) (fun st h hf hod =>
    body_tauInv big g m tau0 d inv _ hod ((wrap_flag g st).trans hf) (wrap_tauInv g m tau0 st h)) fuel st h
  · rw [e] at hfin; exact absurd hfin Bool.false_ne_true
  · rw [e]
    exact ⟨wrap_tauInv g m tau0 st' h', by rw [wrap_flag g st']; exact hc⟩

end CMacVerif.Cartesian
