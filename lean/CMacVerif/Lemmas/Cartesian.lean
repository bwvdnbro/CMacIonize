import CMacVerif.Model.Cartesian
import CMacVerif.Lemmas.GridNum
import CMacVerif.Lemmas.AxisTravel
import CMacVerif.Lemmas.RealArith
import Mathlib.Tactic.Ring
import Mathlib.Tactic.FieldSimp
import Mathlib.Tactic.Linarith
/-! The Cartesian grid over `ℝ` (C16): cell index of a coordinate and intervals of one axis, long
index, neighbours, the clamp of `get_cell_indices`. -/
namespace CMacVerif.Cartesian
open CMacVerif.GridNum

/-- one axis of `get_cell_indices` / `get_cell` in exact arithmetic: the index of a position in
`[a, a+S)` is in range and the cell's interval contains the position -/
theorem axis_index (n : Int) (hn : 0 < n) (a S p : ℝ) (hS : 0 < S) (h1 : a ≤ p) (h2 : p < a + S) :
    let cs := S / (OfInt.ofInt n : ℝ)
    let i := Trunc.toInt ((p - a) * (1.0 / cs))
    0 ≤ i ∧ i < n ∧ a + cs * (OfInt.ofInt i : ℝ) ≤ p ∧ p < a + cs * (OfInt.ofInt i : ℝ) + cs := by
  intro cs i
  have hn' : (n : ℝ) ≠ 0 := by exact_mod_cast hn.ne'
  obtain ⟨⟨i0, i1⟩, i2, i3⟩ := toInt_cell p a S n hS hn h1 h2 ((p - a) * (1.0 / cs))
    (by simp only [cs, ofInt_real]; norm_num; field_simp)
  push_cast at i3
  rw [add_mul, one_mul, ← add_assoc] at i3
  rw [mul_comm _ (S / (n : ℝ))] at i2 i3
  exact ⟨i0, i1, i2, i3⟩

theorem axis_unique {n : Int} (hn : 0 < n) {a S p : ℝ} (hS : 0 < S) {i j : Int}
    (hi1 : a + S / (n : ℝ) * (i : ℝ) ≤ p) (hi2 : p < a + S / (n : ℝ) * (i : ℝ) + S / n)
    (hj1 : a + S / (n : ℝ) * (j : ℝ) ≤ p) (hj2 : p < a + S / (n : ℝ) * (j : ℝ) + S / n) : i = j := by
  have hcs : 0 < S / (n : ℝ) := div_pos hS (by exact_mod_cast hn)
  generalize S / (n : ℝ) = c at *
  exact Axis.cell_unique (x := p - a) hcs (by linarith) (by linarith) (by linarith) (by linarith)

/-- a point of the closed cell `i` that lies on the wall the offset `k = ±1` points to lies in the
closed cell `i + k` -/
theorem shift_cell {a cs v : ℝ} {i k : Int} (l1 : a + cs * (i : ℝ) ≤ v) (l2 : v ≤ a + cs * (i : ℝ) + cs)
    (k1 : k = 1 → v = a + cs * (i : ℝ) + cs) (k2 : k = -1 → v = a + cs * (i : ℝ)) (kr : k = 0 ∨ k = 1 ∨ k = -1) :
    a + cs * ((i + k : Int) : ℝ) ≤ v ∧ v ≤ a + cs * ((i + k : Int) : ℝ) + cs := by
  rcases kr with rfl | rfl | rfl
  · simpa using ⟨l1, l2⟩
  · have := k1 rfl; push_cast; rw [mul_add, mul_one]; constructor <;> linarith
  · have := k2 rfl; push_cast; rw [mul_add, mul_neg, mul_one]; constructor <;> linarith

theorem cell_sub_box {a S v : ℝ} {n i : Int} (hS : 0 < S) (hn : 0 < n) (hi : 0 ≤ i ∧ i < n)
    (l1 : a + S / (n : ℝ) * (i : ℝ) ≤ v) (l2 : v ≤ a + S / (n : ℝ) * (i : ℝ) + S / (n : ℝ)) :
    a ≤ v ∧ v ≤ a + S := by
  have hn' : (0 : ℝ) < (n : ℝ) := by exact_mod_cast hn
  have hcs : 0 < S / (n : ℝ) := div_pos hS hn'
  have e : S / (n : ℝ) * (n : ℝ) = S := div_mul_cancel₀ S hn'.ne'
  have hi0 : 0 ≤ S / (n : ℝ) * (i : ℝ) := mul_nonneg hcs.le (by exact_mod_cast hi.1)
  have hi1 : S / (n : ℝ) * ((i : ℝ) + 1) ≤ S / (n : ℝ) * (n : ℝ) :=
    mul_le_mul_of_nonneg_left (by exact_mod_cast hi.2) hcs.le
  rw [mul_add, mul_one, e] at hi1
  generalize S / (n : ℝ) = c at *
  constructor <;> linarith

/-- row `i` of `n` rows of `m` entries each -/
theorem row_le {i n m : Int} (hi : 0 ≤ i ∧ i < n) (hm : 0 < m) : 0 ≤ i * m ∧ i * m + m ≤ n * m := by
  have := Int.mul_le_mul_of_nonneg_right (show i + 1 ≤ n by omega) hm.le
  rw [Int.add_mul, Int.one_mul] at this
  exact ⟨Int.mul_nonneg hi.1 hm.le, this⟩

theorem longIndex_roundtrip (n i : I3) (h1 : 0 ≤ i.y ∧ i.y < n.y) (h2 : 0 ≤ i.z ∧ i.z < n.z) :
    indicesOf n (longIndex n i) = i := by
  have hy : 0 < n.y := by omega
  have hz : 0 < n.z := by omega
  have hyz : 0 < n.y * n.z := Int.mul_pos hy hz
  obtain ⟨r0, r1⟩ := row_le h1 hz
  have hr0 : 0 ≤ i.y * n.z + i.z := by omega
  have hr1 : i.y * n.z + i.z < n.y * n.z := by omega
  have e1 : longIndex n i / (n.y * n.z) = i.x := by
    unfold longIndex
    rw [show i.x * (n.y * n.z) + i.y * n.z + i.z = (i.y * n.z + i.z) + i.x * (n.y * n.z) by ring,
      Int.add_mul_ediv_right _ _ hyz.ne', Int.ediv_eq_zero_of_lt hr0 hr1]; simp
  have e2 : (longIndex n i - i.x * n.y * n.z) / n.z = i.y := by
    unfold longIndex
    rw [show i.x * (n.y * n.z) + i.y * n.z + i.z - i.x * n.y * n.z = i.z + i.y * n.z by ring,
      Int.add_mul_ediv_right _ _ hz.ne', Int.ediv_eq_zero_of_lt h2.1 h2.2]; simp
  unfold indicesOf
  simp only [e1, e2]
  cases i with
  | mk x y z => simp only [longIndex]; congr 1; ring

theorem longIndex_range (n i : I3) (hx : 0 ≤ i.x ∧ i.x < n.x) (hy : 0 ≤ i.y ∧ i.y < n.y)
    (hz : 0 ≤ i.z ∧ i.z < n.z) : 0 ≤ longIndex n i ∧ longIndex n i < n.x * n.y * n.z := by
  unfold longIndex
  have hny : 0 < n.y := by omega
  have hnz : 0 < n.z := by omega
  have hyz : 0 < n.y * n.z := Int.mul_pos hny hnz
  obtain ⟨a1, b1⟩ := row_le hx hyz
  obtain ⟨a2, b2⟩ := row_le hy hnz
  have e3 : n.x * n.y * n.z = n.x * (n.y * n.z) := by ring
  constructor
  · omega
  · rw [e3]; omega

theorem ngbAxis_mutual (periodic : Bool) (n i j : Int) (up : Bool) (hi : 0 ≤ i ∧ i < n)
    (h : ngbAxis periodic n i up = some j) :
    0 ≤ j ∧ j < n ∧ ngbAxis periodic n j (!up) = some i := by
  unfold ngbAxis at h ⊢
  cases up <;> simp only [Bool.not_true, Bool.not_false, Bool.false_eq_true, if_true, if_false] at h ⊢ <;>
    split_ifs at h with c1 c2 <;> obtain rfl := Option.some.inj h
  · exact ⟨by omega, by omega, by rw [if_pos (by omega)]; congr 1; omega⟩
  · -- wrap: `i = 0`, `j = n - 1`
    exact ⟨by omega, by omega, by rw [if_neg (by omega), if_pos c2]; congr 1; omega⟩
  · exact ⟨by omega, by omega, by rw [if_pos (by omega)]; congr 1; omega⟩
  · -- wrap: `i = n - 1`, `j = 0`
    exact ⟨by omega, by omega, by rw [if_neg (by omega), if_pos c2]; congr 1; omega⟩

section clamp
variable {α : Type} [LE α] [DecidableLE α]

theorem clampTop_inactive (n i : Int) (p top : α) (h : i < n) : clampTop n i p top = i := by
  unfold clampTop; rw [if_neg]; intro hc; omega

/-- whatever the rounding of the product was: a raw index in `[0, n]` of a position not above the
top face becomes an index of an existing cell -/
theorem clampTop_range (n i : Int) (p top : α) (hn : 0 < n) (h0 : 0 ≤ i) (h1 : i ≤ n) (hp : p ≤ top) :
    0 ≤ clampTop n i p top ∧ clampTop n i p top < n := by
  unfold clampTop
  by_cases h : i = n
  · rw [if_pos ⟨h, hp⟩]; omega
  · rw [if_neg (fun hc => h hc.1)]; omega
end clamp

end CMacVerif.Cartesian
