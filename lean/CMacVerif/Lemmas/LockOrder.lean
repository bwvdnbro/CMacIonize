import CMacVerif.Lemmas.HydroGraph
/-! The locks of a hydro task: `lockset` is the touched subgrids, each once (`lockset_eq`); `lockOrder` takes
the same locks, lower subgrid index first. -/
namespace CMacVerif.HydroGraph

theorem subIndex_inj {L : Layout} {a b : Sub} (ha : valid L a = true) (hb : valid L b = true)
    (h : subIndex L a = subIndex L b) : a = b := by
  rw [valid_iff] at ha hb
  obtain ⟨a1, a2, a3⟩ := a
  obtain ⟨b1, b2, b3⟩ := b
  simp only [subIndex, Nat.mul_assoc] at h
  obtain ⟨rfl, rfl, rfl⟩ := MixedRadix.index_inj ha.2.1 ha.2.2 hb.2.1 hb.2.2 h
  rfl

/-- a pair sweep along a periodic axis of one subgrid locks that subgrid once; otherwise the locks
are the touched subgrids -/
theorem lockset_eq (L : Layout) (t : Task) :
    lockset L t = if pairNgb L t = some t.g then [t.g] else footprint L t := by
  obtain ⟨g, s⟩ := t
  cases s with
  | gradUp ax | fluxUp ax =>
    cases h : ngbUp L ax g with
    | none => simp only [lockset, footprint, pairNgb, h, reduceCtorEq, if_false]
    | some n => simp only [lockset, footprint, pairNgb, h, Option.some.injEq]
  | _ => rfl

theorem lockset_valid {L : Layout} {t : Task} (ht : valid L t.g = true) : ∀ x ∈ lockset L t, valid L x = true := by
  rw [lockset_eq]
  split_ifs
  · exact List.forall_mem_singleton.mpr ht
  · exact footprint_valid ht

/-- a lock set never contains the same lock twice (a task never try-locks a lock it already holds) -/
theorem lockset_nodup (L : Layout) (t : Task) : (lockset L t).Nodup := by
  rw [lockset_eq]
  split_ifs with e
  · exact List.nodup_singleton _
  · rw [footprint_eq]
    cases h : pairNgb L t with
    | none => exact List.nodup_singleton _
    | some n =>
      exact List.nodup_cons.mpr ⟨fun hm => e (by rw [h, List.mem_singleton.mp hm]), List.nodup_singleton _⟩

theorem lockset_covers_footprint (L : Layout) (t : Task) : ∀ x ∈ footprint L t, x ∈ lockset L t := by
  rw [lockset_eq]
  split_ifs with e
  · rw [footprint_eq, e]
    exact List.forall_mem_cons.mpr ⟨List.mem_singleton_self _, fun x hx => hx⟩
  · exact fun x hx => hx

theorem lockOrder_perm (L : Layout) (t : Task) : (lockOrder L t).Perm (lockset L t) := by
  unfold lockOrder
  split
  · next a b h =>
    rw [h]
    split_ifs
    · exact List.Perm.refl _
    · exact List.Perm.swap a b []
  · exact List.Perm.refl _

/-- **the locks are taken in strictly increasing subgrid index** -/
theorem lockOrder_sorted (L : Layout) (t : Task) (ht : valid L t.g = true) :
    (lockOrder L t).Pairwise (fun a b => subIndex L a < subIndex L b) := by
  unfold lockOrder
  rw [lockset_eq]
  split_ifs with e
  · exact List.pairwise_singleton _ _
  · rw [footprint_eq]
    cases hp : pairNgb L t with
    | none => exact List.pairwise_singleton _ _
    | some n =>
      have : subIndex L t.g ≠ subIndex L n :=
        fun h => e (by rw [hp, subIndex_inj ht (pairNgb_valid ht hp) h])
      simp only [Option.toList]
      split_ifs with hlt
      · exact List.pairwise_pair.mpr hlt
      · exact List.pairwise_pair.mpr (by omega)

end CMacVerif.HydroGraph
