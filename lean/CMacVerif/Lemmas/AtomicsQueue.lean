import CMacVerif.Lemmas.AtomicsLock
/-!
C08 lemmas: the task queue.

* `QueueInv`: for every queue `q` and task index `x`:
  (#x in the queue) + Σ_threads (#x popped by the thread) = Σ_threads (#x added by the thread)
* `StabInv`: while a thread is inside the scan of `get_task` (it holds the queue lock), the
  queue entry it looked at is still there — this is where the mutual exclusion of the queue lock
  is used: `get_task` re-reads `_queue[index]` after `lock_dependency` succeeded.
-/
namespace CMacVerif.Atomics

def cntPop (q x : Nat) (th : Thread) : Nat := th.popLog.count (q, x)
def cntAdd (q x : Nat) (th : Thread) : Nat := th.addLog.count (q, x)

def QueueInv (s : State) : Prop :=
  ∀ q x, (s.mem.items q).count x + sumT (cntPop q x) s.threads = sumT (cntAdd q x) s.threads

theorem count_eraseIdx (l : List Nat) (j x t : Nat) (h : l[j]? = some t) :
    (l.eraseIdx j).count x + ind (x = t) = l.count x := by
  induction l generalizing j with
  | nil => simp at h
  | cons a l ih =>
    cases j with
    | zero =>
      simp at h; subst h
      simp only [List.eraseIdx_cons_zero, count_cons_ind]
    | succ n =>
      simp at h
      have := ih n h
      simp only [List.eraseIdx_cons_succ, count_cons_ind]; omega

theorem count_pair_cons (l : List (Nat × Nat)) (q x q' t : Nat) :
    ((q', t) :: l).count (q, x) = l.count (q, x) + ind (q = q' ∧ x = t) := by
  by_cases h : q = q' ∧ x = t
  · obtain ⟨rfl, rfl⟩ := h; simp [ind]
  · have : ¬ ((q', t) = (q, x)) := by
      intro h'; apply h; simp only [Prod.mk.injEq] at h'; exact ⟨h'.1.symm, h'.2.symm⟩
    simp [ind, h, this]

theorem count_upd_append (items : Nat → List Nat) (q q' x t : Nat) :
    (upd items q' (items q' ++ [t]) q).count x = (items q).count x + ind (q = q' ∧ x = t) := by
  by_cases h : q = q'
  · subst h
    rw [upd_same, List.count_append, count_cons_ind]
    simp [ind]
  · rw [upd_other _ _ _ _ h]; simp [ind, h]

theorem count_upd_eraseIdx (items : Nat → List Nat) (q q' x j t : Nat) (h : (items q')[j]? = some t) :
    (upd items q' ((items q').eraseIdx j) q).count x + ind (q = q' ∧ x = t) = (items q).count x := by
  by_cases e : q = q'
  · subst e
    rw [upd_same, ← count_eraseIdx (items q) j x t h]
    simp [ind]
  · rw [upd_other _ _ _ _ e]; simp [ind, e]

theorem exec_queue (cfg : Cfg) (m : Mem) (th : Thread) (q x : Nat) :
    ((exec cfg m th).1.items q).count x + cntPop q x (exec cfg m th).2 + cntAdd q x th
      = (m.items q).count x + cntPop q x th + cntAdd q x (exec cfg m th).2 := by
  refine exec_sched_cases cfg m th (fun _ _ => rfl)
    (fun c rest _ _ => by
      have h := dispatch_frame cfg { th with prog := rest } c
      simp only [cntPop, cntAdd, congrArg (·.popLog) h, congrArg (·.addLog) h])
    ?own fun hs hold hnew => ?other
  case own =>
    rintro th pc l r rfl hs
    cases hs
    case enqueue q' t k => simp only [cntPop, cntAdd, count_pair_cons, count_upd_append]; omega
    case takeEntry q' j t t' ht =>
      have := count_upd_eraseIdx m.items q q' x j t' ht
      simp only [cntPop, cntAdd, count_pair_cons]; omega
    -- no other rule writes a queue or a log: `rfl`; the nine rules that end `lock_dependency` return through `tlSucc` /
    -- `tlFail`, which compute only once the calling context is known: `rfl` after `cases` on it
    all_goals first | rfl | (cases ‹Ctx› <;> rfl)
  case other =>
    unfold cntPop cntAdd
    rw [hs.items, hs.addLog, hs.popLog]

theorem queueInv_step (cfg : Cfg) (s : State) (tid : Nat) (h : QueueInv s) : QueueInv (step cfg s tid) := by
  refine step_inv cfg _ s tid h fun th hth => ?_
  intro q x
  have hp := sumT_set (cntPop q x) s.threads tid th (exec cfg s.mem th).2 hth
  have ha := sumT_set (cntAdd q x) s.threads tid th (exec cfg s.mem th).2 hth
  have hloc := exec_queue cfg s.mem th q x
  have := h q x
  simp only
  omega

theorem queueInv_init (progs : List (List Cmd)) : QueueInv (init progs) := by
  intro q x
  rw [sumT_init _ _ fun _ => rfl, sumT_init _ _ fun _ => rfl]
  rfl

theorem queueInv_run (cfg : Cfg) (progs : List (List Cmd)) (sched : List Nat) :
    QueueInv (run cfg (init progs) sched) :=
  run_inv cfg QueueInv (queueInv_step cfg) _ sched (queueInv_init progs)

/-- the queue entry a thread inside `get_task`'s scan has looked at: (queue, position, task) -/
def pcQueueRef : PC → Option (Nat × Nat × Nat)
  | .tlStart (.pop q i) t => some (q, i - 1, t)
  | .tl0 (.pop q i) t => some (q, i - 1, t)
  | .tl1 (.pop q i) t => some (q, i - 1, t)
  | .tlBack (.pop q i) t => some (q, i - 1, t)
  | .popRemove q j t => some (q, j, t)
  | _ => none

/-- the queue entry the thread has looked at (`pcQueueRef`) is still where it was -/
def RefOk (m : Mem) (th : Thread) : Prop :=
  ∀ q j t, pcQueueRef th.pc = some (q, j, t) → (m.items q)[j]? = some t

/-- a task the pop is about to return is in the thread's `tasks` (its locks are counted) -/
def RetOk (th : Thread) : Prop := ∀ q x, th.pc = .popUnlock q (some x) → x ∈ th.tasks

theorem ref_holds_queue (cfg : Cfg) (pc : PC) (q j t : Nat) (h : pcQueueRef pc = some (q, j, t)) :
    pcHoldL cfg pc (.queue q) ≥ 1 := by
  cases pc
  case tlStart c t' | tl0 c t' | tl1 c t' | tlBack c t' => cases c <;> cases h <;> simp [pcHoldL, ctxHold, ind]
  case popRemove q' j' t' => cases h; simp [pcHoldL, ind]
  all_goals cases h

/-- only a thread that holds the queue lock changes the queue content -/
theorem exec_items_frame (cfg : Cfg) (m : Mem) (th : Thread) (q : Nat)
    (h : pcHoldL cfg th.pc (.queue q) = 0) : (exec cfg m th).1.items q = m.items q := by
  refine exec_sched_cases cfg m th (fun _ _ => rfl) (fun _ _ _ _ => rfl) ?own fun hs hold hnew => ?other
  case own =>
    rintro th pc l r rfl hs
    have ne_of_ind : ∀ q', ind (LockId.queue q = .queue q') = 0 → q ≠ q' := by
      rintro q' h rfl; simp [ind] at h
    cases hs
    case enqueue q' t k => exact upd_other _ _ _ _ (ne_of_ind q' h)
    case takeEntry q' j t t' _ => exact upd_other _ _ _ _ (ne_of_ind q' (Nat.eq_zero_of_add_eq_zero_right h))
    all_goals rfl
  case other =>
    rw [hs.items]

theorem ref_dispatch (cfg : Cfg) (th : Thread) (c : Cmd) :
    pcQueueRef (dispatch cfg th c).pc = none ∧ ∀ q x, (dispatch cfg th c).pc ≠ .popUnlock q (some x) := by
  cases c <;> simp only [dispatch] <;> (repeat' split) <;> exact ⟨rfl, nofun⟩

theorem pcQueueRef_of_part (pc : PC) (h : pc.part ≠ some .sched) : pcQueueRef pc = none := by
  cases pc <;> first | rfl | exact absurd rfl h

theorem stab_of_ref_none (m : Mem) (th : Thread) (h1 : pcQueueRef th.pc = none)
    (h2 : ∀ q x, th.pc ≠ .popUnlock q (some x)) : RefOk m th ∧ RetOk th :=
  ⟨fun q j t hh => (by rw [h1] at hh; cases hh), fun q x hx => absurd hx (h2 q x)⟩

theorem exec_stab (cfg : Cfg) (m : Mem) (th : Thread) (h : RefOk m th ∧ RetOk th) :
    RefOk (exec cfg m th).1 (exec cfg m th).2 ∧ RetOk (exec cfg m th).2 := by
  refine exec_sched_cases cfg m th (fun _ _ => h)
    (fun c rest _ _ => stab_of_ref_none _ _ (ref_dispatch cfg _ c).1 (ref_dispatch cfg _ c).2) ?own
    fun _ hold hnew => stab_of_ref_none _ _ (pcQueueRef_of_part _ hnew) fun q x hx => hnew (by rw [hx]; rfl)
  rintro th pc l r rfl hs
  cases hs
  case scanCandidate q i t _ ht => exact ⟨fun q' j' t' hh => (by cases hh; exact ht), nofun⟩
  case takeEntry q j t t' ht =>
    rw [h.1 q j t rfl] at ht; cases ht
    exact ⟨nofun, fun q' x hx => (by cases hx; exact List.mem_cons_self)⟩
  -- inside `lock_dependency` the queue is not written: the scanned entry stays, or the candidate is dropped
  case hasDependency c t a _ | secondBusy c t a b _ _ | firstOfTwo c t a b _ _ => cases c <;> exact ⟨h.1, nofun⟩
  -- success: from a pop the entry stays (first alternative), called alone the thread returns and refers to nothing
  case noDependency c t _ | onlyLock c t a _ _ | firstAbsent c t d1 _ | secondLock c t a b _ _ | secondAbsent c t a _
      | bothAbsent c t d1 _ => cases c <;> first | exact ⟨h.1, nofun⟩ | exact stab_of_ref_none _ _ rfl nofun
  case firstBusy c t a d1 _ _ | rollBack c t a d1 _ | rollBackNothing c t d1 _ =>
    cases c <;> exact stab_of_ref_none _ _ rfl nofun
  all_goals exact stab_of_ref_none _ _ rfl nofun

/-- stability of the scanned queue entry + returned task is counted, for every thread -/
def StabInv (s : State) : Prop := ∀ (k : Nat) (th : Thread), s.threads[k]? = some th → RefOk s.mem th ∧ RetOk th

theorem stabInv_step (cfg : Cfg) (s : State) (tid : Nat) (hl : LockInv cfg s) (h : StabInv s) :
    StabInv (step cfg s tid) := by
  refine step_inv cfg _ s tid h fun thu hth => ?_
  intro k th hk
  rcases getElem?_set_cases _ _ _ _ _ _ hth hk with ⟨rfl, rfl⟩ | ⟨hkt, hk⟩
  · exact exec_stab cfg s.mem thu (h tid thu hth)
  · refine ⟨?_, (h k th hk).2⟩
    intro q j t href
    have hold := (h k th hk).1 q j t href
    -- `th` holds the queue lock, so the mover `thu` does not
    have h0 := hl.pc_excl (.queue q) hk hth (Ne.symm hkt) (ref_holds_queue cfg th.pc q j t href)
    rw [exec_items_frame cfg s.mem thu q h0]
    exact hold

theorem stabInv_init (progs : List (List Cmd)) : StabInv (init progs) := by
  intro k th hk
  obtain ⟨p, _, rfl⟩ := List.mem_map.mp (List.mem_of_getElem? hk)
  exact stab_of_ref_none _ _ rfl nofun

theorem stabInv_run (cfg : Cfg) (progs : List (List Cmd)) (sched : List Nat) :
    StabInv (run cfg (init progs) sched) :=
  run_ind cfg progs StabInv (stabInv_init progs)
    (fun pre tid => stabInv_step cfg _ tid (lockInv_run cfg progs pre)) sched

end CMacVerif.Atomics
