import Mathlib.LinearAlgebra.Matrix.Determinant.Basic

/-! Homogeneous coordinates: a determinant whose last column consists of ones is the determinant
of the differences from the last row. -/
namespace CMacVerif.Predicates
open Matrix

theorem det_of_last_col_one {R : Type*} [CommRing R] {n : ℕ}
    (A : Matrix (Fin (n + 1)) (Fin (n + 1)) R) (h : ∀ i, A i (Fin.last n) = 1) :
    A.det =
      (Matrix.of fun i j : Fin n => A i.castSucc j.castSucc - A (Fin.last n) j.castSucc).det := by
  -- `B`: the last row subtracted from all others; its last column is `(0, …, 0, 1)`
  let B : Matrix (Fin (n + 1)) (Fin (n + 1)) R :=
    Matrix.of fun i j => if i = Fin.last n then A i j else A i j - A (Fin.last n) j
  have hAB : A.det = B.det :=
    det_eq_of_forall_row_eq_smul_add_const (fun i => if i = Fin.last n then 0 else 1) (Fin.last n)
      (if_pos rfl) fun i j => by by_cases hi : i = Fin.last n <;> simp [B, hi]
  have hB : ∀ i : Fin n, B i.castSucc (Fin.last n) = 0 := fun i => by
    simp [B, (Fin.castSucc_lt_last i).ne, h]
  have hBl : B (Fin.last n) (Fin.last n) = 1 := by simp [B, h]
  have hsign : (-1 : R) ^ ((Fin.last n : ℕ) + (Fin.last n : ℕ)) = 1 := Even.neg_one_pow ⟨_, rfl⟩
  rw [hAB, det_succ_column B (Fin.last n), Fin.sum_univ_castSucc]
  simp only [hB, mul_zero, zero_mul, Finset.sum_const_zero, zero_add]
  rw [hBl, mul_one, Fin.succAbove_last, hsign, one_mul]
  congr 1
  ext i j
  simp [B, (Fin.castSucc_lt_last i).ne]

end CMacVerif.Predicates
