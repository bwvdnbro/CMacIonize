import CMacVerif.Lemmas.AtomicsFrame
/-!
C08 lemmas: atomic counters (`AtomicValue` increments/decrements/adds and the
`LockFree::add` compare-exchange loop).  Invariant: value + Σ_threads (net effect of the calls
the thread still has to make, including the one in progress) is constant.
-/
namespace CMacVerif.Atomics

def indI (p : Prop) [Decidable p] : Int := if p then 1 else 0

/-- net effect of a call on counter `c` -/
def cmdNet (c : Nat) : Cmd → Int
  | .inc c' => indI (c = c')
  | .dec c' => - indI (c = c')
  | .postInc c' => indI (c = c')
  | .preAdd c' v => indI (c = c') * v
  | .postAdd c' v => indI (c = c') * v
  | .preSub c' v => - (indI (c = c') * v)
  | .lfAdd c' v => indI (c = c') * v
  | _ => 0

/-- net effect still to come from the call in progress -/
def pcNet (c : Nat) : PC → Int
  | .cInc c' => indI (c = c')
  | .cDec c' => - indI (c = c')
  | .cPostInc c' => indI (c = c')
  | .cPreAdd c' v => indI (c = c') * v
  | .cPostAdd c' v => indI (c = c') * v
  | .cPreSub c' v => - (indI (c = c') * v)
  | .lfLoad c' v => indI (c = c') * v
  | .lfCas c' v _ => indI (c = c') * v
  | _ => 0

def progNet (c : Nat) (prog : List Cmd) : Int := (prog.map (cmdNet c)).sum

def net (c : Nat) (th : Thread) : Int := pcNet c th.pc + progNet c th.prog

theorem net_dispatch (cfg : Cfg) (c : Nat) (th : Thread) (c0 : Cmd) :
    pcNet c (dispatch cfg th c0).pc = cmdNet c c0 := by
  cases c0 <;> simp only [dispatch] <;> (repeat' split) <;> rfl

theorem progNet_cons (c : Nat) (c0 : Cmd) (rest : List Cmd) :
    progNet c (c0 :: rest) = cmdNet c c0 + progNet c rest := by
  simp only [progNet, List.map_cons, List.sum_cons]

theorem upd_add_apply (f : Nat → Int) (a x : Nat) (d : Int) :
    upd f a (f a + d) x = f x + indI (x = a) * d := by
  unfold upd indI
  split
  · rename_i e; rw [e]; omega
  · omega

theorem pcNet_of_part (c : Nat) (pc : PC) (h : pc.part ≠ some .ctr) : pcNet c pc = 0 := by
  cases pc <;> first | rfl | exact absurd rfl h

theorem exec_net (cfg : Cfg) (m : Mem) (th : Thread) (c : Nat) :
    (exec cfg m th).1.ctr c + net c (exec cfg m th).2 = m.ctr c + net c th := by
  refine exec_cases cfg m th .ctr (fun _ _ => rfl)
    (fun c0 rest hpc hprog => by
      simp only [net, net_dispatch, congrArg (·.prog) (dispatch_frame cfg { th with prog := rest } c0), hprog,
        progNet_cons]
      rw [hpc]; show _ = _ + (0 + _); omega)  -- `pcNet c .idle` is `0`
    (fun hp => ?own) fun q hq hp hold hnew => ?other
  case own =>
    obtain ⟨pc⟩ := th
    cases pc <;> cases hp <;> simp only [exec]
    case cInc c' | cPostInc c' | cPreAdd c' v
        | cPostAdd c' v =>
      simp only [net, pcNet, ret, upd_add_apply]; omega
    case cDec c' | cPreSub c' v =>
      simp only [net, pcNet, ret, Int.sub_eq_add_neg, upd_add_apply, Int.mul_neg]; omega
    case lfCas c' v old =>
      split
      · rename_i e; subst e
        simp only [net, pcNet, ret, upd_add_apply]; omega
      · rfl
    all_goals (repeat' split) <;> rfl
  case other =>
    unfold net
    rw [exec_ctr_frame cfg m th q hp hq, exec_prog cfg m th q hp,
      pcNet_of_part c _ (hnew), pcNet_of_part c th.pc hold]

def ctrTotal (c : Nat) (s : State) : Int := s.mem.ctr c + sumTI (net c) s.threads

theorem ctrTotal_step (cfg : Cfg) (c : Nat) (s : State) (tid : Nat) :
    ctrTotal c (step cfg s tid) = ctrTotal c s := by
  refine step_inv cfg (ctrTotal c · = ctrTotal c s) s tid rfl fun th hth => ?_
  have hfr := sumTI_set (net c) s.threads tid th (exec cfg s.mem th).2 hth
  have hloc := exec_net cfg s.mem th c
  simp only [ctrTotal]
  omega

theorem ctrTotal_run (cfg : Cfg) (c : Nat) (s : State) (sched : List Nat) :
    ctrTotal c (run cfg s sched) = ctrTotal c s :=
  run_inv cfg (fun s' => ctrTotal c s' = ctrTotal c s) (fun s' tid h => by rw [ctrTotal_step]; exact h) s sched rfl

end CMacVerif.Atomics
