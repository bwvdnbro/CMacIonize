import CMacVerif.Lemmas.Recomb
/-!
# C18 — interval bounds that close the positivity of the total metal recombination rates

For N³⁺→N²⁺ (`N_p2`), O⁺→O (`O_n`) and O²⁺→O⁺ (`O_p1`) the Nussbaumer & Storey polynomial `a/x + b + c x + d x²`
(`x = T/10⁴ K`) has `a < 0` and is negative at low temperature; a cut `Tc` is chosen above its sign change.  Below `Tc`
the dielectronic term is bounded below by `1e-12 · a · (j+3)!/f^(j+3) · xc^j` (`exp(-f/x) ≤ k! (x/f)^k`,
`x^(-1.5) ≤ x^(-2)` for `x ≤ 1`) and the radiative fit by its value with the denominator enlarged on `(0, Tc]`
(`√` and `rpow` bounded by rational numbers); above `Tc` the polynomial is non-negative.
-/
namespace CMacVerif.Verner
open CMacVerif CMacVerif.Gen.Verner

/-- `base^p ≤ q` from `base ≤ q^m`, `p ≤ 1/m` (a rational certificate for a real power) -/
theorem rpow_le_of_le_pow {base p q : ℝ} (m : ℕ) (hm : 0 < m) (hb : 1 ≤ base) (hp : p ≤ 1 / m)
    (hq : 0 ≤ q) (h : base ≤ q ^ m) : base ^ p ≤ q := by
  have hm' : (0 : ℝ) < m := by exact_mod_cast hm
  calc base ^ p ≤ base ^ (1 / (m : ℝ)) := Real.rpow_le_rpow_of_exponent_le hb hp
    _ ≤ (q ^ m) ^ (1 / (m : ℝ)) := Real.rpow_le_rpow (zero_le_one.trans hb) h (by positivity)
    _ = q := by
      rw [← Real.rpow_natCast, ← Real.rpow_mul hq, mul_one_div_cancel hm'.ne', Real.rpow_one]

/-- rational certificate that bounds the denominator of formula (4) on `(0, Tc]`:
`z ≥ √(Tc/t₁)`, `q ≥ (1+z)^b₁` (through `q^m ≥ 1+z`, `b₁ ≤ 1/m`), `w ≥ √(Tc/t₂)`, and `b₂ ≤ 2`.
The side conditions are closed by `norm_num` where a certificate is written down. -/
structure DenCert (t1 t2 b1 b2 Tc : ℝ) where
  z : ℝ
  q : ℝ
  w : ℝ
  m : ℕ
  hm : 0 < m := by norm_num
  hbm : b1 ≤ 1 / m := by norm_num
  hb2 : b2 ≤ 2 := by norm_num
  hz : 0 ≤ z := by norm_num
  hz2 : Tc / t1 ≤ z ^ 2 := by norm_num
  hq : 0 ≤ q := by norm_num
  hqm : 1 + z ≤ q ^ m := by norm_num
  hw : 0 ≤ w := by norm_num
  hw2 : Tc / t2 ≤ w ^ 2 := by norm_num

def DenCert.bound {t1 t2 b1 b2 Tc : ℝ} (C : DenCert t1 t2 b1 b2 Tc) : ℝ := C.z * C.q * (1 + C.w) ^ 2

theorem vfDen_le {t1 t2 b1 b2 T Tc : ℝ} (C : DenCert t1 t2 b1 b2 Tc) (h1 : 0 < t1) (h2 : 0 < t2) (hTc : T ≤ Tc) :
    vfDen t1 t2 b1 b2 T ≤ C.bound := by
  unfold vfDen DenCert.bound
  have s1 := Real.sqrt_nonneg (T / t1)
  have s2 := Real.sqrt_nonneg (T / t2)
  have sz : Real.sqrt (T / t1) ≤ C.z :=
    Real.sqrt_le_iff.mpr ⟨C.hz, (div_le_div_of_nonneg_right hTc h1.le).trans C.hz2⟩
  have sw : Real.sqrt (T / t2) ≤ C.w :=
    Real.sqrt_le_iff.mpr ⟨C.hw, (div_le_div_of_nonneg_right hTc h2.le).trans C.hw2⟩
  have p1 : (1 + Real.sqrt (T / t1)) ^ b1 ≤ C.q :=
    rpow_le_of_le_pow C.m C.hm (le_add_of_nonneg_right s1) C.hbm C.hq ((add_le_add le_rfl sz).trans C.hqm)
  have p2 : (1 + Real.sqrt (T / t2)) ^ b2 ≤ (1 + C.w) ^ 2 :=
    calc (1 + Real.sqrt (T / t2)) ^ b2
        ≤ (1 + Real.sqrt (T / t2)) ^ (2 : ℝ) := Real.rpow_le_rpow_of_exponent_le (le_add_of_nonneg_right s2) C.hb2
      _ = (1 + Real.sqrt (T / t2)) ^ 2 := Real.rpow_two _
      _ ≤ (1 + C.w) ^ 2 := pow_le_pow_left₀ (one_add_sqrt_pos _).le (add_le_add le_rfl sw) 2
  exact mul_le_mul (mul_le_mul sz p1 (Real.rpow_nonneg (one_add_sqrt_pos _).le _) C.hz) p2
    (Real.rpow_nonneg (one_add_sqrt_pos _).le _) (mul_nonneg C.hz C.hq)

theorem tail_bound (x f : ℝ) (j : ℕ) (hx : 0 < x) (hx1 : x ≤ 1) (hf : 0 < f) :
    (1 / x) * x ^ (-1.5 : ℝ) * Real.exp (-f * (1 / x)) ≤ ((j + 3).factorial : ℝ) / f ^ (j + 3) * x ^ j := by
  have h15 : x ^ (-1.5 : ℝ) ≤ (x ^ 2)⁻¹ := by
    calc x ^ (-1.5 : ℝ) ≤ x ^ (-(2 : ℝ)) := Real.rpow_le_rpow_of_exponent_ge hx hx1 (by norm_num)
      _ = (x ^ 2)⁻¹ := by rw [Real.rpow_neg hx.le, ← Real.rpow_natCast]; norm_num
  have hy : 0 < f / x := div_pos hf hx
  have hexp : Real.exp (-f * (1 / x)) ≤ ((j + 3).factorial : ℝ) / (f / x) ^ (j + 3) := by
    rw [show -f * (1 / x) = -(f / x) by ring, Real.exp_neg]
    exact (inv_anti₀ (by positivity) (Real.pow_div_factorial_le_exp (f / x) hy.le (j + 3))).trans_eq
      (inv_div _ _)
  calc (1 / x) * x ^ (-1.5 : ℝ) * Real.exp (-f * (1 / x))
      ≤ (1 / x) * (x ^ 2)⁻¹ * (((j + 3).factorial : ℝ) / (f / x) ^ (j + 3)) :=
        mul_le_mul (mul_le_mul_of_nonneg_left h15 (by positivity)) hexp (Real.exp_pos _).le (by positivity)
    _ = ((j + 3).factorial : ℝ) / f ^ (j + 3) * x ^ j := by
        rw [div_pow, pow_add x j 3]; field_simp

/-- lower bound of a Nussbaumer & Storey term with `a ≤ 0` where only `a/x` is negative
(`0 < x = T/10⁴ ≤ xc ≤ 1`) -/
theorem nsFit_lower (a b c d f T xc : ℝ) (j : ℕ) (hT : 0 < T) (hxc : T * 1e-4 ≤ xc) (hxc1 : xc ≤ 1)
    (hf : 0 < f) (ha : a ≤ 0) (hp : 0 ≤ b + c * (T * 1e-4) + d * (T * 1e-4) * (T * 1e-4)) :
    1e-12 * a * (((j + 3).factorial : ℝ) / f ^ (j + 3) * xc ^ j) ≤ nsFit a b c d f T := by
  rw [nsFit_eq]
  have hx : 0 < T * 1e-4 := mul_pos hT (by norm_num)
  have hε : (0 : ℝ) ≤ 1e-12 := by norm_num
  generalize T * 1e-4 = x at *
  have tb := (tail_bound x f j hx (hxc.trans hxc1) hf).trans
    (mul_le_mul_of_nonneg_left (pow_le_pow_left₀ hx.le hxc j) (by positivity))
  have hR := Real.rpow_nonneg hx.le (-1.5)
  have hE := (Real.exp_pos (-f * (1 / x))).le
  generalize (1e-12 : ℝ) = ε at *
  generalize x ^ (-1.5 : ℝ) = R at *
  generalize Real.exp (-f * (1 / x)) = E at *
  generalize ((j + 3).factorial : ℝ) / f ^ (j + 3) * xc ^ j = K at *
  calc ε * a * K ≤ ε * a * (1 / x * R * E) :=
        mul_le_mul_of_nonpos_left tb (mul_nonpos_of_nonneg_of_nonpos hε ha)
    _ = ε * (a * (1 / x)) * (R * E) := by ring
    _ ≤ ε * (a * (1 / x) + b + c * x + d * x * x) * (R * E) :=
        mul_le_mul_of_nonneg_right (mul_le_mul_of_nonneg_left (by linarith) hε) (mul_nonneg hR hE)
    _ = _ := by ring

/-- the argument above over the coefficients: `C` bounds the radiative fit from below on `(0, Tc]`; with `d' ≤ min d 0` in
place of `d` the polynomial is concave, so its sign at the cut (`hl`) and at `x = 10`, i.e. 10⁵ K, with `a/x` kept at its
value at the cut (`hu`; `a ≤ 0`, so that is the smaller) give the sign in between, and `hb`, `hl` the sign of the polynomial
without `a/x` below the cut; `hnum` compares the two bounds -/
theorem recNew_add_nsFit_pos (row : RecRow ℝ) (a b c d d' f T Tc : ℝ)
    (C : DenCert row.rnew2 row.rnew3 (1 - row.rnew1) (1 + row.rnew1) Tc) (j : ℕ)
    (h0 : 0 < row.rnew0) (h2 : 0 < row.rnew2) (h3 : 0 < row.rnew3) (hT : 0 < T) (hT5 : T ≤ 1e5)
    (hTc0 : 0 < Tc * 1e-4) (hTc1 : Tc * 1e-4 ≤ 1) (hf : 0 < f) (ha : a ≤ 0) (hd' : d' ≤ 0) (hdd : d' ≤ d)
    (hb : 0 ≤ b)
    (hl : 0 ≤ a * (1 / (Tc * 1e-4)) + b + c * (Tc * 1e-4) + d' * (Tc * 1e-4) * (Tc * 1e-4))
    (hu : 0 ≤ a * (1 / (Tc * 1e-4)) + b + c * 10 + d' * 10 * 10)
    (hnum : 0 < row.rnew0 / C.bound +
      1e-12 * a * (((j + 3).factorial : ℝ) / f ^ (j + 3) * (Tc * 1e-4) ^ j)) :
    0 < recNew row T + nsFit a b c d f T := by
  have h4 : (0 : ℝ) ≤ 1e-4 := by norm_num
  have hden := vfDen_pos (t2 := row.rnew3) (b1 := 1 - row.rnew1) (b2 := 1 + row.rnew1) h2 hT
  rw [recNew_eq_vfFit, vfFit_eq]
  rcases le_or_gt T Tc with hc | hc
  · set x := T * 1e-4
    set xc := Tc * 1e-4
    have hx : x ≤ xc := mul_le_mul_of_nonneg_right hc h4
    have hx0 : 0 ≤ x := mul_nonneg hT.le h4
    -- without `a/x` and with `d'` for `d` the polynomial is concave, non-negative at 0 and (`a/xc ≤ 0`) at the cut
    have hcut : 0 ≤ b + c * xc + d' * xc * xc := by
      linarith only [hl, mul_nonpos_of_nonpos_of_nonneg ha (one_div_pos.2 hTc0).le]
    have hq : 0 ≤ b + c * x + d' * x * x :=
      quadratic_nonneg_of_concave (l := 0) hd' hx0 hx (by rwa [mul_zero, mul_zero, add_zero, add_zero]) hcut
    have hp : 0 ≤ b + c * x + d * x * x :=
      hq.trans (add_le_add_right (mul_le_mul_of_nonneg_right (mul_le_mul_of_nonneg_right hdd hx0) hx0) _)
    exact lt_of_lt_of_le hnum (add_le_add
      (div_le_div_of_nonneg_left h0.le hden (vfDen_le C h2 h3 hc))
      (nsFit_lower a b c d f T _ j hT hx hTc1 hf ha hp))
  · exact add_pos_of_pos_of_nonneg (div_pos h0 hden)
      (nsFit_nonneg a b c d f T hT.le (nsPoly_nonneg_of_concave ha hd' hdd hTc0
        (mul_le_mul_of_nonneg_right hc.le h4) ((mul_le_mul_of_nonneg_right hT5 h4).trans (by norm_num)) hl hu))

/-! ## the three ions: the row `rnew0…3`, what `z`, `q`, `w` certify, and the two bounds `hnum` compares -/

/-- N³⁺ → N²⁺, cut 700 K.  Row `7.039e-10, 0.8607, 2.203, 3.029e6`: `17.9² ≥ 700/2.203`,
`2.09⁴ ≥ 18.9` (`1 - 0.8607 ≤ 1/4`), `0.016² ≥ 700/3.029e6`; `1.82e-11 > 3.0e-12`. -/
theorem rateCgs_pos_N_p2 (T : ℝ) (h0 : 0 < T) (h1 : T ≤ 1e5) : 0 < rateCgs .N_p2 T := by
  show 0 < recNew (recRow 7 5) T + _
  rw [recRow_7_5]
  apply recNew_add_nsFit_pos (Tc := 700) (C := ?C) (j := 5) (hT := h0) (hT5 := h1) (hdd := le_rfl)
  case C => exact { z := 17.9, q := 2.09, w := 0.016, m := 4 }
  case hnum => simp only [DenCert.bound]; norm_num [Nat.factorial]
  all_goals norm_num

/-- O⁺ → O, cut 400 K (`d' = 0`: `0.0193 x²` is not needed).  Row `1.341e-10, 0.6159, 1.673, 6.366e16`:
`15.5² ≥ 400/1.673`, `16.5 ≥ 16.5`, `0.001² ≥ 400/6.366e16`; `5.2e-13 > 3.4e-15`. -/
theorem rateCgs_pos_O_n (T : ℝ) (h0 : 0 < T) (h1 : T ≤ 1e5) : 0 < rateCgs .O_n T := by
  show 0 < recNew (recRow 8 8) T + _
  rw [recRow_8_8]
  apply recNew_add_nsFit_pos (Tc := 400) (d' := 0) (C := ?C) (j := 1) (hT := h0) (hT5 := h1)
  case C => exact { z := 15.5, q := 16.5, w := 0.001, m := 1 }
  case hnum => simp only [DenCert.bound]; norm_num [Nat.factorial]
  all_goals norm_num

/-- O²⁺ → O⁺, cut 60 K.  Row `1.816e-8, 0.717, 6.717e-3, 3.286e12`: `95² ≥ 60/6.717e-3`, `96 ≥ 96`,
`0.001² ≥ 60/3.286e12`; `1.99e-12 > 8.8e-14`. -/
theorem rateCgs_pos_O_p1 (T : ℝ) (h0 : 0 < T) (h1 : T ≤ 1e5) : 0 < rateCgs .O_p1 T := by
  show 0 < recNew (recRow 8 7) T + _
  rw [recRow_8_7]
  apply recNew_add_nsFit_pos (Tc := 60) (C := ?C) (j := 1) (hT := h0) (hT5 := h1) (hdd := le_rfl)
  case C => exact { z := 95, q := 96, w := 0.001, m := 1 }
  case hnum => simp only [DenCert.bound]; norm_num [Nat.factorial]
  all_goals norm_num

end CMacVerif.Verner
