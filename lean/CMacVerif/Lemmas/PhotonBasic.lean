import CMacVerif.Model.PhotonProtocol
import CMacVerif.Lemmas.Worker
import Mathlib.Tactic.SplitIfs
import Mathlib.Data.List.ProdSigma
import Mathlib.Data.List.Nodup
/-! Basic lemmas for the photon protocol (C01): weighted sums of packet lists, point updates,
references to buffers and the ways a commit changes them (add / remove / refill). -/
namespace CMacVerif.Photon
open CMacVerif.Worker (sumOver sumOver_update sumOver_congr sumOver_le sumOver_zero sumOver_pos)

/-! ### weighted size of a packet list: `w = fun _ => 1` gives the length, `w = indicator of p` the
number of occurrences of packet p -/

def wsum (w : Nat → Nat) (l : List Nat) : Nat := (l.map w).sum

theorem wsum_eq_sumOver (w : Nat → Nat) (l : List Nat) : wsum w l = sumOver l w := rfl

@[simp] theorem wsum_nil (w : Nat → Nat) : wsum w [] = 0 := rfl
@[simp] theorem wsum_cons (w : Nat → Nat) (a : Nat) (l : List Nat) : wsum w (a :: l) = w a + wsum w l := by
  simp [wsum]
@[simp] theorem wsum_append (w : Nat → Nat) (a b : List Nat) : wsum w (a ++ b) = wsum w a + wsum w b := by
  simp [wsum]

theorem wsum_take_drop (w : Nat → Nat) (l : List Nat) (k : Nat) : wsum w (l.take k) + wsum w (l.drop k) = wsum w l := by
  rw [← wsum_append, List.take_append_drop]

theorem wsum_one (l : List Nat) : wsum (fun _ => 1) l = l.length := by
  simp [wsum]

theorem wsum_count (p : Nat) (l : List Nat) : wsum (fun x => if x = p then 1 else 0) l = l.count p := by
  induction l with
  | nil => rfl
  | cons a l ih => simp only [wsum_cons, ih, List.count_cons, beq_iff_eq]; omega

theorem wsum_filter_split {β : Type} (w : Nat → Nat) (pk : List (Nat × β)) (p : Nat × β → Bool) :
    wsum w ((pk.filter p).map (·.1)) + wsum w ((pk.filter fun x => !p x).map (·.1)) = wsum w (pk.map (·.1)) := by
  induction pk with
  | nil => rfl
  | cons a l ih =>
    cases h : p a
    · simp [h] at ih ⊢
      omega
    · simp [h] at ih ⊢
      omega

theorem wsum_le {w w' : Nat → Nat} (h : ∀ x, w x ≤ w' x) {l : List Nat} : wsum w l ≤ wsum w' l := by
  rw [wsum_eq_sumOver, wsum_eq_sumOver]
  exact CMacVerif.Worker.sumOver_mono fun x _ => h x

theorem take_ne_nil {l : List Nat} {k : Nat} (hk : 0 < k) (h : l ≠ []) : l.take k ≠ [] := by
  intro e
  rcases List.take_eq_nil_iff.mp e with h0 | h0
  · exact Nat.ne_of_gt hk h0
  · exact h h0

theorem length_filter_zip_le {β : Type} (a : List Nat) (b : List β) (p : Nat × β → Bool) :
    (((a.zip b).filter p).map (·.1)).length ≤ a.length := by
  rw [List.length_map]
  calc ((a.zip b).filter p).length ≤ (a.zip b).length := List.length_filter_le _ _
    _ ≤ a.length := by rw [List.length_zip]; exact Nat.min_le_left _ _

@[simp] theorem upd_same {α : Type} (f : Nat → α) (k : Nat) (a : α) : upd f k a k = a := by simp [upd]
theorem upd_other {α : Type} (f : Nat → α) (k : Nat) (a : α) {x : Nat} (h : x ≠ k) : upd f k a x = f x := by
  simp [upd, h]
theorem upd_eq_self {α : Type} {f : Nat → α} {k : Nat} {a : α} (h : f k = a) : upd f k a = f := by
  funext x
  simp only [upd]
  split_ifs with e
  · rw [e, h]
  · rfl

/-- the two slots hold different values, so they are different slots -/
theorem upd_keep {α : Type} {f : Nat → α} {k x : Nat} {b : α} (hx : f x = b) (hk : f k ≠ b) (a : α) : upd f k a x = b :=
  (upd_other _ _ _ fun e => hk ((congrArg f e).symm.trans hx)).trans hx

theorem of_upd_eq_of_ne {α : Type} {f : Nat → α} {k x : Nat} {a b : α} (h : upd f k a x = b) (hb : b ≠ a) : x ≠ k ∧ f x = b := by
  have e : x ≠ k := by rintro rfl; exact hb (h.symm.trans (upd_same _ _ _))
  exact ⟨e, (upd_other _ _ _ e).symm.trans h⟩

theorem exists_upd {α : Type} {f : Nat → α} {i : Nat} {v : α} (P : Nat → α → Prop) (h : ∃ j, P j (f j))
    (hi : P i (f i) → P i v) : ∃ j, P j (upd f i v j) := by
  obtain ⟨j, hj⟩ := h
  by_cases e : j = i
  · subst e; exact ⟨j, by rw [upd_same]; exact hi hj⟩
  · exact ⟨j, by rw [upd_other _ _ _ e]; exact hj⟩

theorem upd_upd {α : Type} (f : Nat → α) (k : Nat) (a b : α) : upd (upd f k a) k b = upd f k b := by
  funext x
  unfold upd
  by_cases h : x = k
  · rw [if_pos h, if_pos h]
  · rw [if_neg h, if_neg h, if_neg h]
theorem upd_comm {α : Type} (f : Nat → α) {k l : Nat} (h : k ≠ l) (a b : α) : upd (upd f k a) l b = upd (upd f l b) k a := by
  funext x
  unfold upd
  by_cases h1 : x = l
  · rw [if_pos h1, if_neg (fun e => h (e.symm.trans h1)), if_pos h1]
  · rw [if_neg h1, if_neg h1]
@[simp] theorem upd2_same {α : Type} (f : Nat → Nat → α) (k i : Nat) (a : α) : upd2 f k i a k i = a := by simp [upd2]
theorem upd2_other {α : Type} (f : Nat → Nat → α) (k i : Nat) (a : α) {x y : Nat} (h : ¬(x = k ∧ y = i)) :
    upd2 f k i a x y = f x y := by simp [upd2, h]
theorem upd2_eq_self {α : Type} {f : Nat → Nat → α} {k i : Nat} {a : α} (h : f k i = a) : upd2 f k i a = f := by
  funext x y
  simp only [upd2]
  split_ifs with e
  · rw [e.1, e.2, h]
  · rfl
theorem upd2_upd2 {α : Type} (f : Nat → Nat → α) (k i : Nat) (a b : α) : upd2 (upd2 f k i a) k i b = upd2 f k i b := by
  funext x y
  unfold upd2
  by_cases h : x = k ∧ y = i
  · rw [if_pos h, if_pos h]
  · rw [if_neg h, if_neg h, if_neg h]
@[simp] theorem updP_same {α : Type} (f : Nat × Nat → α) (k : Nat × Nat) (a : α) : updP f k a k = a := by simp [updP]
theorem updP_other {α : Type} (f : Nat × Nat → α) (k : Nat × Nat) (a : α) {x : Nat × Nat} (h : x ≠ k) :
    updP f k a x = f x := by simp [updP, h]

theorem sum_upd {α : Type} (n : Nat) (f : Nat → α) (k : Nat) (a : α) (g : α → Nat) (hk : k < n) :
    sumOver (List.range n) (fun x => g (upd f k a x)) + g (f k) = sumOver (List.range n) (fun x => g (f x)) + g a := by
  have := sumOver_update (List.nodup_range (n := n)) (List.mem_range.mpr hk) (f := fun x => g (f x))
    (f' := fun x => g (upd f k a x)) (by intro x _ hx; simp [upd_other _ _ _ hx])
  simpa using this

theorem sum_upd_out {α : Type} (n : Nat) (f : Nat → α) (k : Nat) (a : α) (g : α → Nat) (hk : ¬ k < n) :
    sumOver (List.range n) (fun x => g (upd f k a x)) = sumOver (List.range n) (fun x => g (f x)) := by
  apply sumOver_congr
  intro x hx
  have : x ≠ k := by intro e; subst e; exact hk (List.mem_range.mp hx)
  rw [upd_other _ _ _ this]

theorem sumOver_const_zero {τ : Type} (l : List τ) : sumOver l (fun _ => 0) = 0 := by
  simp [sumOver]

/-- the index set of the continuous buffers -/
def pairsU (cfg : Cfg) : List (Nat × Nat) := (List.range cfg.nblocks) ×ˢ (List.range cfg.norig)

theorem pairsU_nodup (cfg : Cfg) : (pairsU cfg).Nodup := List.Nodup.product List.nodup_range List.nodup_range

theorem mem_pairsU (cfg : Cfg) (c g : Nat) : (c, g) ∈ pairsU cfg ↔ c < cfg.nblocks ∧ g < cfg.norig := by
  simp [pairsU, List.mem_product]

theorem sum_updP (cfg : Cfg) (f : Nat × Nat → List Nat) (k : Nat × Nat) (a : List Nat) (g : List Nat → Nat)
    (hk : k ∈ pairsU cfg) :
    sumOver (pairsU cfg) (fun x => g (updP f k a x)) + g (f k) = sumOver (pairsU cfg) (fun x => g (f x)) + g a := by
  have := sumOver_update (pairsU_nodup cfg) hk (f := fun x => g (f x))
    (f' := fun x => g (updP f k a x)) (by intro x _ hx; simp [updP_other _ _ _ hx])
  simpa using this

def kindW (w : Nat → Nat) : Kind → Nat
  | .source _ ids => wsum w ids
  | .contSource _ _ ids => wsum w ids
  | _ => 0

def taskW (w : Nat → Nat) : Option Task → Nat
  | some t => kindW w t.kind
  | none => 0

def bufW (w : Nat → Nat) : Option Buf → Nat
  | some b => wsum w b.ids
  | none => 0

@[simp] theorem taskW_none (w : Nat → Nat) : taskW w none = 0 := rfl
@[simp] theorem taskW_some (w : Nat → Nat) (k : Kind) (st : TSt) : taskW w (some ⟨k, st⟩) = kindW w k := rfl
@[simp] theorem kindW_source (w : Nat → Nat) (a : Nat) (ids : List Nat) : kindW w (.source a ids) = wsum w ids := rfl
@[simp] theorem kindW_cont (w : Nat → Nat) (a n : Nat) (ids : List Nat) : kindW w (.contSource a n ids) = wsum w ids := rfl
@[simp] theorem kindW_trav (w : Nat → Nat) (b : Nat) : kindW w (.traverse b) = 0 := rfl
@[simp] theorem kindW_reemit (w : Nat → Nat) (b : Nat) : kindW w (.reemit b) = 0 := rfl
@[simp] theorem kindW_flush (w : Nat → Nat) (b : Nat) : kindW w (.flush b) = 0 := rfl
@[simp] theorem bufW_none (w : Nat → Nat) : bufW w none = 0 := rfl
@[simp] theorem bufW_some (w : Nat → Nat) (a b : Nat) (ids : List Nat) : bufW w (some ⟨a, b, ids⟩) = wsum w ids := rfl
theorem bufW_buf (w : Nat → Nat) (b : Buf) : bufW w (some b) = wsum w b.ids := rfl
theorem bufW_one (p : Nat → Option Buf) (b : Nat) : bufW (fun _ => 1) (p b) = bufLen p b := by
  simp only [bufLen, bufW]
  cases p b <;> simp [wsum_one]

/-- total weight of all packets that exist in the state (terminated ones included) -/
def weight (cfg : Cfg) (w : Nat → Nat) (s : State) : Nat :=
  wsum w s.done + sumOver (List.range cfg.nsrc) (fun i => wsum w (s.srcLeft i)) + wsum w s.contPool
    + sumOver (List.range cfg.taskCap) (fun t => taskW w (s.tasks t))
    + sumOver (List.range cfg.bufCap) (fun b => bufW w (s.pool b))
    + sumOver (pairsU cfg) (fun k => wsum w (s.cont k))

inductive Ref where
  | task (t : Nat)
  | act (g i : Nat)
deriving DecidableEq

def kindBuf : Kind → Option Nat
  | .traverse b => some b
  | .reemit b => some b
  | _ => none

def refBuf (s : State) : Ref → Option Nat
  | .task t => match s.tasks t with | some tk => kindBuf tk.kind | none => none
  | .act g i => s.active g i

/-- what a reference requires of the buffer it points to -/
def okFor (cfg : Cfg) : Ref → Buf → Prop
  | .task _, buf => buf.ids ≠ [] ∧ buf.ids.length ≤ BUFSZ
  | .act g i, buf => buf.ids ≠ [] ∧ buf.ids.length < BUFSZ ∧ (cfg.ngb g i).isSome = true

/-- ownership: every buffer in use has exactly one reference (a task or an active-buffer entry),
references only point to buffers in use, with contents that fit -/
structure Own (cfg : Cfg) (s : State) : Prop where
  uniq : ∀ r1 r2 b, refBuf s r1 = some b → refBuf s r2 = some b → r1 = r2
  live : ∀ r b, refBuf s r = some b → ∃ buf, s.pool b = some buf ∧ okFor cfg r buf
  owned : ∀ b buf, s.pool b = some buf → b < cfg.bufCap ∧ ∃ r, refBuf s r = some b

theorem own_same {cfg : Cfg} {s s' : State} (h : Own cfg s) (hp : s'.pool = s.pool)
    (hr : ∀ x, refBuf s' x = refBuf s x) : Own cfg s' := by
  refine ⟨?_, ?_, ?_⟩
  · intro r1 r2 b h1 h2; rw [hr] at h1 h2; exact h.uniq r1 r2 b h1 h2
  · intro r b h1; rw [hr] at h1; rw [hp]; exact h.live r b h1
  · intro b buf h1; rw [hp] at h1
    obtain ⟨hb, r, hr'⟩ := h.owned b buf h1
    exact ⟨hb, r, by rw [hr]; exact hr'⟩

theorem own_add {cfg : Cfg} {s s' : State} (h : Own cfg s) {b : Nat} {r : Ref} {buf : Buf}
    (hfree : s.pool b = none) (hb : b < cfg.bufCap) (hok : okFor cfg r buf)
    (hp : s'.pool = upd s.pool b (some buf))
    (hr : ∀ x, refBuf s' x = if x = r then some b else refBuf s x)
    (hrn : refBuf s r = none) : Own cfg s' := by
  have hnob : ∀ x, refBuf s x ≠ some b := by
    intro x hx; obtain ⟨_, hq, _⟩ := h.live x b hx; rw [hfree] at hq; cases hq
  have hcl : ∀ x b', refBuf s' x = some b' → (x = r ∧ b' = b) ∨ (b' ≠ b ∧ refBuf s x = some b') := by
    intro x b' hx
    rw [hr] at hx
    split_ifs at hx with e
    · exact Or.inl ⟨e, (Option.some.inj hx).symm⟩
    · exact Or.inr ⟨fun eb => hnob x (eb ▸ hx), hx⟩
  refine ⟨?_, ?_, ?_⟩
  · intro r1 r2 b' h1 h2
    rcases hcl _ _ h1 with ⟨e1, eb⟩ | ⟨nb, h1'⟩ <;> rcases hcl _ _ h2 with ⟨e2, eb2⟩ | ⟨nb2, h2'⟩
    · rw [e1, e2]
    · exact absurd eb nb2
    · exact absurd eb2 nb
    · exact h.uniq r1 r2 b' h1' h2'
  · intro x b' hx
    rw [hp]
    rcases hcl x b' hx with ⟨rfl, rfl⟩ | ⟨nb, hx'⟩
    · exact ⟨buf, upd_same _ _ _, hok⟩
    · rw [upd_other _ _ _ nb]; exact h.live x b' hx'
  · intro b' buf' hb'
    rw [hp] at hb'
    by_cases e : b' = b
    · subst e; exact ⟨hb, r, by rw [hr, if_pos rfl]⟩
    · rw [upd_other _ _ _ e] at hb'
      obtain ⟨hlt, x, hx⟩ := h.owned b' buf' hb'
      exact ⟨hlt, x, by rw [hr, if_neg (fun e' => by rw [e', hrn] at hx; cases hx)]; exact hx⟩

theorem own_remove {cfg : Cfg} {s s' : State} (h : Own cfg s) {b : Nat} {r : Ref}
    (hrb : refBuf s r = some b) (hp : s'.pool = upd s.pool b none)
    (hr : ∀ x, refBuf s' x = if x = r then none else refBuf s x) : Own cfg s' := by
  have hcl : ∀ x b', refBuf s' x = some b' → b' ≠ b ∧ refBuf s x = some b' := by
    intro x b' hx
    rw [hr] at hx
    split_ifs at hx with e
    exact ⟨fun eb => e (h.uniq x r b (eb ▸ hx) hrb), hx⟩
  refine ⟨?_, ?_, ?_⟩
  · intro r1 r2 b' h1 h2
    exact h.uniq r1 r2 b' (hcl _ _ h1).2 (hcl _ _ h2).2
  · intro x b' hx
    obtain ⟨nb, hx'⟩ := hcl x b' hx
    rw [hp, upd_other _ _ _ nb]; exact h.live x b' hx'
  · intro b' buf' hb'
    rw [hp] at hb'
    by_cases e : b' = b
    · subst e; simp at hb'
    · rw [upd_other _ _ _ e] at hb'
      obtain ⟨hlt, x, hx⟩ := h.owned b' buf' hb'
      exact ⟨hlt, x, by rw [hr, if_neg (fun e' => by rw [e', hrb] at hx; exact e (Option.some.inj hx).symm)]; exact hx⟩

theorem own_refill {cfg : Cfg} {s s' : State} (h : Own cfg s) {b : Nat} {old buf' : Buf}
    (hin : s.pool b = some old) (hp : s'.pool = upd s.pool b (some buf'))
    (hr : ∀ x, refBuf s' x = refBuf s x)
    (hok : ∀ r, refBuf s r = some b → okFor cfg r buf') : Own cfg s' := by
  refine ⟨?_, ?_, ?_⟩
  · intro r1 r2 b' h1 h2; rw [hr] at h1 h2; exact h.uniq r1 r2 b' h1 h2
  · intro x b' hx
    rw [hr] at hx; rw [hp]
    by_cases e : b' = b
    · subst e; exact ⟨buf', upd_same _ _ _, hok x hx⟩
    · rw [upd_other _ _ _ e]; exact h.live x b' hx
  · intro b' buf'' hb'
    have : ∃ bb, s.pool b' = some bb := by
      by_cases e : b' = b
      · exact ⟨old, e ▸ hin⟩
      · exact ⟨buf'', by rw [hp, upd_other _ _ _ e] at hb'; exact hb'⟩
    obtain ⟨bb, hq⟩ := this
    obtain ⟨hlt, x, hx⟩ := h.owned b' bb hq
    exact ⟨hlt, x, by rw [hr]; exact hx⟩

def optKindBuf : Option Task → Option Nat
  | some tk => kindBuf tk.kind
  | none => none

/-- Callers whose `s'` is a state literal pass `(by rfl)` for `ht` and `ha`: a tactic block is elaborated after `s'`
is known from the goal, a plain `rfl` before. -/
theorem refBuf_tasks_upd {s s' : State} {t : Nat} {v : Option Task}
    (ht : s'.tasks = upd s.tasks t v) (ha : s'.active = s.active) (x : Ref) :
    refBuf s' x = if x = .task t then optKindBuf v else refBuf s x := by
  cases x with
  | task u =>
    simp only [refBuf, ht, upd, Ref.task.injEq]
    split_ifs
    · cases v <;> rfl
    · rfl
  | act g i => simp [refBuf, ha]

theorem refBuf_active_upd {s s' : State} {g i : Nat} {v : Option Nat}
    (ht : s'.tasks = s.tasks) (ha : s'.active = upd2 s.active g i v) (x : Ref) :
    refBuf s' x = if x = .act g i then v else refBuf s x := by
  cases x with
  | task u => simp [refBuf, ht]
  | act g' i' => simp only [refBuf, ha, upd2, Ref.act.injEq]

theorem refBuf_congr {s s' : State} (ht : s'.tasks = s.tasks) (ha : s'.active = s.active) (x : Ref) :
    refBuf s' x = refBuf s x := by
  cases x <;> simp [refBuf, ht, ha]

@[simp] theorem optKindBuf_none : optKindBuf none = none := rfl
@[simp] theorem optKindBuf_some (k : Kind) (st : TSt) : optKindBuf (some ⟨k, st⟩) = kindBuf k := rfl
@[simp] theorem kindBuf_trav (b : Nat) : kindBuf (.traverse b) = some b := rfl
@[simp] theorem kindBuf_reemit (b : Nat) : kindBuf (.reemit b) = some b := rfl
@[simp] theorem kindBuf_source (a : Nat) (l : List Nat) : kindBuf (.source a l) = none := rfl
@[simp] theorem kindBuf_cont (a n : Nat) (l : List Nat) : kindBuf (.contSource a n l) = none := rfl
@[simp] theorem kindBuf_flush (a : Nat) : kindBuf (.flush a) = none := rfl

theorem own_task_same {cfg : Cfg} {s s' : State} (h : Own cfg s) {t : Nat} {v : Option Task}
    (hp : s'.pool = s.pool) (ha : s'.active = s.active) (ht : s'.tasks = upd s.tasks t v)
    (hv : optKindBuf v = refBuf s (.task t)) : Own cfg s' := by
  apply own_same h hp
  intro x
  rw [refBuf_tasks_upd ht ha]
  by_cases e : x = .task t
  · rw [if_pos e, hv, e]
  · rw [if_neg e]

theorem refBuf_task (s : State) (t : Nat) : refBuf s (.task t) = match s.tasks t with | some tk => kindBuf tk.kind | none => none := rfl
theorem refBuf_act (s : State) (g i : Nat) : refBuf s (.act g i) = s.active g i := rfl
theorem refBuf_task_none {s : State} {t : Nat} (h : s.tasks t = none) : refBuf s (.task t) = none := by
  rw [refBuf_task, h]
theorem refBuf_task_some {s : State} {t : Nat} {tk : Task} (h : s.tasks t = some tk) :
    refBuf s (.task t) = kindBuf tk.kind := by
  rw [refBuf_task, h]

theorem bufFree_iff (cfg : Cfg) (s : State) (b : Nat) : bufFree cfg s b = true ↔ b < cfg.bufCap ∧ s.pool b = none := by
  simp [bufFree, Option.isNone_iff_eq_none]
theorem taskFree_iff (cfg : Cfg) (s : State) (t : Nat) : taskFree cfg s t = true ↔ t < cfg.taskCap ∧ s.tasks t = none := by
  simp [taskFree, Option.isNone_iff_eq_none]

end CMacVerif.Photon
