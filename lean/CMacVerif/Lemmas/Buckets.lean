import CMacVerif.Model.Buckets
import CMacVerif.Lemmas.ShellsRange
import CMacVerif.Lemmas.GridNum
import CMacVerif.Lemmas.RealArith
/-! The bucket-grid nearest neighbour search (C16): under the covered-radius bound `hcover` and with fuel left,
the search loop returns the brute-force answer (`searchLoop_correct`). -/
namespace CMacVerif.Buckets
open CMacVerif.GridNum CMacVerif.Shells

theorem dist2_nonneg (q p : V3 ℝ) : 0 ≤ dist2 q p := by
  unfold dist2
  have h1 := mul_self_nonneg (q.x - p.x)
  have h2 := mul_self_nonneg (q.y - p.y)
  have h3 := mul_self_nonneg (q.z - p.z)
  linarith

section
variable (g : BGrid ℝ) (p : V3 ℝ) (ax ay az : Int)

/-- squared distance of point `q` to the query -/
def d2 (q : Nat) : ℝ := dist2 (g.pos q) p

/-- the bucket at a block offset from the anchor cell -/
def bucketAt (i : Idx) : List Nat := g.bucket (ax + i.rx) (ay + i.ry) (az + i.rz)

/-- `b` is the best candidate among the points satisfying `S` (or "none yet") -/
def BestOf (S : Nat → Prop) (b : Best ℝ) : Prop :=
  (b.r2 < 0 ∧ ∀ q, ¬ S q) ∨ (0 ≤ b.r2 ∧ S b.idx ∧ b.r2 = d2 g p b.idx ∧ ∀ q, S q → b.r2 ≤ d2 g p q)

variable {g p} in
/-- `b` stays the best candidate when the set grows by points that are not nearer -/
theorem BestOf.extend {S S' : Nat → Prop} {b : Best ℝ} (hb : BestOf g p S b) (hsub : ∀ q, S q → S' q)
    (hfar : ∀ q, S' q → S q ∨ (0 ≤ b.r2 ∧ b.r2 ≤ d2 g p q)) : BestOf g p S' b := by
  rcases hb with ⟨h1, h2⟩ | ⟨h1, h2, h3, h4⟩
  · exact Or.inl ⟨h1, fun q hq => (hfar q hq).elim (h2 q) fun h => absurd h1 (not_lt.2 h.1)⟩
  · exact Or.inr ⟨h1, hsub _ h2, h3, fun q hq => (hfar q hq).elim (h4 q) And.right⟩

theorem BestOf.congr {S S' : Nat → Prop} {b : Best ℝ} (h : ∀ q, S q ↔ S' q)
    (hb : BestOf g p S b) : BestOf g p S' b :=
  hb.extend (fun q => (h q).1) fun q hq => Or.inl ((h q).2 hq)

theorem scan_best (pts : List Nat) : ∀ (S : Nat → Prop) (b : Best ℝ), BestOf g p S b →
    BestOf g p (fun q => S q ∨ q ∈ pts) (scan g p pts b) := by
  induction pts with
  | nil => intro S b h; simpa [scan] using h
  | cons x rest ih =>
    intro S b h
    simp only [scan, lit0]
    have key : BestOf g p (fun q => S q ∨ q = x)
        (if b.r2 < 0 ∨ dist2 (g.pos x) p < b.r2 then ⟨dist2 (g.pos x) p, x⟩ else b) := by
      split_ifs with hc
      · -- `x` becomes the candidate: nothing in `S` is nearer
        refine Or.inr ⟨dist2_nonneg _ _, Or.inr rfl, rfl, ?_⟩
        rintro q (hq | rfl)
        · rcases h with ⟨_, hnone⟩ | ⟨hpos, _, _, hmin⟩
          · exact absurd hq (hnone q)
          · exact (hc.resolve_left (not_lt.2 hpos)).le.trans (hmin q hq)
        · exact le_refl _
      · push Not at hc
        exact h.extend (fun _ => Or.inl) fun q hq => hq.imp_right (by rintro rfl; exact hc)
    exact BestOf.congr g p (fun q => by rw [List.mem_cons, or_assoc]) (ih _ _ key)

/-- the bounds after the widenings for the levels `0 … L-1` -/
noncomputable def boundsAt : Nat → Bounds ℝ
  | 0 => initBounds g ax ay az p
  | L + 1 => widen g ax ay az (L : Int) (boundsAt L)

/-- points of the buckets of the blocks inside the grid visited up to traversal index `K` -/
def Visited (K : Nat) (q : Nat) : Prop :=
  ∃ k, k ≤ K ∧ Inside ax ay az g.n g.n g.n (iter k) ∧ q ∈ bucketAt g ax ay az (iter k)

/-- points of all buckets inside the grid -/
def AllPts (q : Nat) : Prop := ∃ k, Inside ax ay az g.n g.n g.n (iter k) ∧ q ∈ bucketAt g ax ay az (iter k)

theorem visited_zero (h0 : Inside ax ay az g.n g.n g.n (iter 0)) (q : Nat) :
    Visited g ax ay az 0 q ↔ q ∈ g.bucket ax ay az := by
  have e : bucketAt g ax ay az (iter 0) = g.bucket ax ay az := by simp [bucketAt, iter, start]
  rw [← e]
  exact ⟨fun ⟨k, hk, _, hq⟩ => Nat.le_zero.1 hk ▸ hq, fun h => ⟨0, le_refl _, h0, h⟩⟩

variable {g ax ay az} in
/-- scanning the bucket of the next block inside the grid: no block inside the grid lies strictly between -/
theorem visited_next {K k' : Nat} (hlt : K < k') (hin : Inside ax ay az g.n g.n g.n (iter k'))
    (hsplit : ∀ k, Inside ax ay az g.n g.n g.n (iter k) → k ≤ K ∨ k' ≤ k) (q : Nat) :
    Visited g ax ay az K q ∨ q ∈ bucketAt g ax ay az (iter k') ↔ Visited g ax ay az k' q := by
  constructor
  · rintro (⟨k, hk, hki, hq⟩ | hq)
    · exact ⟨k, by omega, hki, hq⟩
    · exact ⟨k', le_refl _, hin, hq⟩
  · rintro ⟨k, hk, hki, hq⟩
    rcases hsplit k hki with h1 | h1
    · exact Or.inl ⟨k, h1, hki, hq⟩
    · obtain rfl : k = k' := by omega
      exact Or.inr hq

variable {g p ax ay az} in
/-- the best of the buckets visited up to `K` is the best of all once no block inside the grid beyond `iter K`
holds a nearer point -/
theorem BestOf.of_visited {K : Nat} {b : Best ℝ} (hb : BestOf g p (Visited g ax ay az K) b)
    (hfar : ∀ k, Inside ax ay az g.n g.n g.n (iter k) → k ≤ K ∨
      ∀ q ∈ bucketAt g ax ay az (iter k), 0 ≤ b.r2 ∧ b.r2 ≤ d2 g p q) : BestOf g p (AllPts g ax ay az) b :=
  hb.extend (fun _ ⟨k, _, hk, hq⟩ => ⟨k, hk, hq⟩) fun q ⟨k, hk, hq⟩ =>
    (hfar k hk).imp (fun h => ⟨k, h, hk, hq⟩) fun h => h q hq

end

/-- invariant of the search loop when the iterator stands on block `iter K` (inside the grid): the
bounds are those widened for the levels below the current one, and `best` is the best candidate
among the points of the buckets visited so far -/
structure SearchInv (g : BGrid ℝ) (p : V3 ℝ) (ax ay az : Int) (K : Nat) (s : SSt ℝ) : Prop where
  idx : s.idx = iter K
  inside : Inside ax ay az g.n g.n g.n (iter K)
  bnd : s.bnd = boundsAt g p ax ay az (iter K).level.toNat
  best : BestOf g p (Visited g ax ay az K) s.best

/-- from a state with `SearchInv`, however the loop ends (last block reached, or covered radius beyond the best
candidate) short of running out of fuel, `best` is the best candidate among all points of the buckets inside the grid;
`hcover` is the covered-radius bound the early exit relies on (`cover_bound` in `Lemmas/BucketsGeom` proves it from `Geo`) -/
theorem searchLoop_correct (g : BGrid ℝ) (p : V3 ℝ) (ax ay az : Int)
    (hx : 0 ≤ ax ∧ ax < g.n) (hy : 0 ≤ ay ∧ ay < g.n) (hz : 0 ≤ az ∧ az < g.n) (fuelR : Nat)
    (hfuelR : ∀ k, Inside ax ay az g.n g.n g.n (iter k) → k ≤ fuelR)
    (hcover : ∀ (L k q : Nat), 1 ≤ L → Inside ax ay az g.n g.n g.n (iter k) → (L : Int) ≤ (iter k).level →
      q ∈ bucketAt g ax ay az (iter k) → maxRadius2 (boundsAt g p ax ay az L) ≤ d2 g p q) :
    ∀ (fuel K : Nat) (s : SSt ℝ), SearchInv g p ax ay az K s →
      ∀ s' e, searchLoop g p ax ay az (setMaxRange ax ay az g.n g.n g.n) fuelR fuel s = (s', e) → e ≠ .fuel →
        BestOf g p (AllPts g ax ay az) s'.best := by
  intro fuel
  induction fuel with
  | zero => intro K s _ s' e h he; simp [searchLoop] at h; exact absurd h.2.symm he
  | succ fuel ih =>
    intro K s ⟨hidx, hin, hbnd, hbest⟩ s' e h he
    simp only [searchLoop] at h
    rw [hidx] at h
    by_cases hend : (iter K).rx = (setMaxRange ax ay az g.n g.n g.n).rx ∧ (iter K).ry = (setMaxRange ax ay az g.n g.n g.n).ry
        ∧ (iter K).rz = (setMaxRange ax ay az g.n g.n g.n).rz
    · -- last block: everything has been visited
      obtain ⟨-, N, hN, hlast⟩ := setMaxRange_isLast ax ay az g.n hx hy hz
      rw [increaseRange_atEnd fuelR hend] at h
      simp only [Prod.mk.injEq] at h
      obtain ⟨rfl, _⟩ := h
      rw [← hN] at hend
      have hKN : K = N := iter_offsets_inj hend.1 hend.2.1 hend.2.2
      exact hbest.of_visited fun k hk => Or.inl (hKN ▸ hlast k hk)
    · obtain ⟨k', hlt, hin', hout, hlev, hfuel⟩ := increaseRange_next ax ay az g.n hx hy hz K hend hin
      -- the blocks strictly between are outside the grid
      have hsplit : ∀ k, Inside ax ay az g.n g.n g.n (iter k) → k ≤ K ∨ k' ≤ k := fun k hk => by
        by_contra hc; exact hout k (by omega) (by omega) hk
      rw [hfuel fuelR (by have := hfuelR k' hin'; omega)] at h
      simp only at h
      -- the bounds follow the level
      have hl0 := level_nonneg K
      have hmono := level_mono (le_of_lt hlt)
      have hbnd' : (if (iter k').level > (iter K).level then widen g ax ay az (iter K).level s.bnd else s.bnd)
          = boundsAt g p ax ay az (iter k').level.toNat := by
        split_ifs with hg
        · rw [hbnd, show (iter k').level.toNat = (iter K).level.toNat + 1 by omega, boundsAt,
            Int.toNat_of_nonneg hl0]
        · rw [hbnd, show (iter k').level = (iter K).level by omega]
      rw [hbnd'] at h
      by_cases hc : s.best.r2 < 0.0 ∨ s.best.r2 ≥ maxRadius2 (boundsAt g p ax ay az (iter k').level.toNat)
      · rw [if_pos hc] at h
        exact ih k' _ ⟨rfl, hin', rfl, BestOf.congr g p (visited_next hlt hin' hsplit) (scan_best g p _ _ _ hbest)⟩
          s' e h he
      · rw [if_neg hc] at h
        simp only [Prod.mk.injEq] at h
        obtain ⟨rfl, _⟩ := h
        push Not at hc
        rw [lit0] at hc
        -- a block not yet visited is at least the current level away
        refine hbest.of_visited fun k hk => (hsplit k hk).imp_right fun h1 q hq => ⟨hc.1, hc.2.le.trans ?_⟩
        have hL : 1 ≤ (iter k').level := level_pos_of_pos k' (by omega)
        exact hcover (iter k').level.toNat k q (by omega) hk
          (by rw [Int.toNat_of_nonneg (by omega)]; exact level_mono h1) hq

end CMacVerif.Buckets
