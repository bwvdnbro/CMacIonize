import CMacVerif.Lemmas.Ranlux
/-!
The invariant of reachable states, `next` and `after` for an arbitrary exact rounding, and the
state as a window of the textbook sequence `swb`: which value of it each draw delivers.
-/
namespace CMacVerif.Ranlux

/-- what `set_seed` establishes and every draw preserves -/
structure Inv (s : State) : Prop where
  bnd : Bnd s.x
  cok : Cok s.carry
  ir  : s.ir < 12
  old : s.irOld < 12
  jr  : s.jr = (s.irOld + 7) % 12
  pr  : s.pr = 397

theorem Inv.good {s : State} (h : Inv s) : Good s :=
  ⟨h.bnd, h.cok, h.ir, by rw [h.jr]; exact Nat.mod_lt _ (by omega)⟩

/-- the refill inside `next`, for a state whose read index has just reached the refill index -/
theorem refill_eq (R : Rnd) (hR : RExact R) (s : State) (h : Inv s) (e : s.ir = s.irOld) :
    incrementState R s = { iter singleStep s.pr s with irOld := (iter singleStep s.pr s).ir } :=
  incrementState_eq R hR s h.good (by rw [h.jr, e]) (by rw [h.pr]; omega)

theorem refill_inv (s : State) (h : Inv s) (e : s.ir = s.irOld) :
    Inv { iter singleStep s.pr s with irOld := (iter singleStep s.pr s).ir } := by
  have g := iter_good s.pr s h.good
  refine ⟨g.bnd, g.cok, g.ir, g.ir, ?_, (iter_pr _ _).trans h.pr⟩
  show (iter singleStep s.pr s).jr = ((iter singleStep s.pr s).ir + 7) % 12
  rw [iter_jr _ _ h.good, iter_ir _ _ h.good, h.jr, e, Nat.mod_add_mod, Nat.mod_add_mod,
    Nat.add_right_comm]

theorem Inv.step_ir {s : State} (h : Inv s) : Inv { s with ir := (s.ir + 1) % 12 } :=
  ⟨h.bnd, h.cok, Nat.mod_lt _ (by omega), h.old, h.jr, h.pr⟩

theorem next_fst (R : Rnd) (s : State) : (next R s).1 = rd (next R s).2.x (next R s).2.ir := by
  unfold next; dsimp only

theorem next_of_keep (R : Rnd) (s : State) (e : (s.ir + 1) % 12 ≠ s.irOld) :
    (next R s).2 = { s with ir := (s.ir + 1) % 12 } :=
  if_neg e

theorem next_of_refill (R : Rnd) (hR : RExact R) (s : State) (h : Inv s)
    (e : (s.ir + 1) % 12 = s.irOld) :
    (next R s).2 = { iter singleStep s.pr { s with ir := (s.ir + 1) % 12 } with
      irOld := (iter singleStep s.pr { s with ir := (s.ir + 1) % 12 }).ir } :=
  (if_pos e).trans (refill_eq R hR _ h.step_ir e)

theorem next_R (R : Rnd) (hR : RExact R) (s : State) (h : Inv s) : next R s = next exact s := by
  have e2 : (next R s).2 = (next exact s).2 := by
    by_cases e : (s.ir + 1) % 12 = s.irOld
    · rw [next_of_refill R hR s h e, next_of_refill exact exact_RExact s h e]
    · rw [next_of_keep R s e, next_of_keep exact s e]
  exact Prod.ext (by rw [next_fst, next_fst, e2]) e2

theorem next_inv (s : State) (h : Inv s) : Inv (next exact s).2 := by
  by_cases e : (s.ir + 1) % 12 = s.irOld
  · rw [next_of_refill exact exact_RExact s h e]
    exact refill_inv _ h.step_ir e
  · rw [next_of_keep exact s e]
    exact h.step_ir

theorem next_val (s : State) (h : Inv s) : 0 ≤ (next exact s).1 ∧ (next exact s).1 < B := by
  rw [next_fst]
  exact (next_inv s h).bnd.2 _ (next_inv s h).ir

theorem after_inv (s : State) (h : Inv s) (n : Nat) : Inv (after exact s n) := by
  induction n with
  | zero => exact h
  | succ n ih => exact next_inv _ ih

theorem after_add (s : State) (a b : Nat) : after exact (after exact s a) b = after exact s (a + b) := by
  induction b with
  | zero => rfl
  | succ b ih => rw [after, ih]; rfl

theorem next_snd (s : State) : (next exact s).2 = after exact s 1 := rfl

theorem after_R (R : Rnd) (hR : RExact R) (s : State) (h : Inv s) (n : Nat) :
    after R s n = after exact s n := by
  induction n with
  | zero => rfl
  | succ n ih => rw [after, ih, next_R R hR _ (after_inv s h n)]; rfl

theorem swb_lt (x0 : Nat → Int) (n : Nat) (h : n < 12) : swb x0 n = (x0 n, 0) := by
  rw [swb, dif_pos h]

theorem swb_add (x0 : Nat → Int) (t : Nat) :
    swb x0 (t + 12) = borrow ((swb x0 (t + 7)).1 - (swb x0 t).1 - (swb x0 (t + 11)).2) := by
  rw [swb, dif_neg (by omega)]
  rfl

/-- after `t` steps from the seed array the state array is the window `X_t, …, X_{t+11}` of the
textbook sequence (`X_m` at position `m % 12`) and the carry is the last borrow -/
structure IsWindow (x0 : Nat → Int) (t : Nat) (x : Array Int) (c : Int) : Prop where
  win : Window 12 x 0 (fun m => (swb x0 m).1) t
  carry : c = (swb x0 (t + 11)).2

/-- `IsWindow` lifted to states positioned for step `t` -/
def AtStep (x0 : Nat → Int) (t : Nat) (s : State) : Prop :=
  IsWindow x0 t s.x s.carry ∧ s.ir = t % 12 ∧ s.jr = (t + 7) % 12

theorem atStep_step (x0 : Nat → Int) (t : Nat) (s : State) (h : AtStep x0 t s) :
    AtStep x0 (t + 1) (singleStep s) := by
  obtain ⟨hr, hi, hj⟩ := h
  have vi : rd s.x (t % 12) = (swb x0 t).1 := hr.win.get t (le_refl t) (by omega)
  have vj : rd s.x ((t + 7) % 12) = (swb x0 (t + 7)).1 := hr.win.get (t + 7) (by omega) (by omega)
  refine ⟨?_, by rw [singleStep_ir, hi, Nat.mod_add_mod],
    by rw [singleStep_jr, hj, Nat.mod_add_mod, Nat.add_right_comm]⟩
  rw [singleStep_x, singleStep_carry, diff, hi, hj, vi, vj, hr.carry, ← swb_add]
  exact ⟨hr.win.push (by omega), rfl⟩

theorem atStep_iter (x0 : Nat → Int) (n t : Nat) (s : State) (h : AtStep x0 t s) :
    AtStep x0 (t + n) (iter singleStep n s) := by
  induction n generalizing t s with
  | zero => exact h
  | succ n ih =>
    rw [iter, Nat.add_comm n 1, ← Nat.add_assoc]
    exact ih (t + 1) (singleStep s) (atStep_step x0 t s h)

/-- a generator started from the array `x0` has done `r` refills of 397 steps and delivered
`X_{397 r + e}` last (the seed position is `r = 0`, `e = 11`) -/
structure AtDraw (x0 : Nat → Int) (r e : Nat) (s : State) : Prop where
  win : IsWindow x0 (397 * r) s.x s.carry
  ir  : s.ir = (397 * r + e) % 12
  old : s.irOld = (397 * r) % 12
  inv : Inv s

theorem atDraw_keep (x0 : Nat → Int) (r e : Nat) (s : State) (h : AtDraw x0 r e s) (he : e + 1 < 12) :
    AtDraw x0 r (e + 1) (next exact s).2 ∧ (next exact s).1 = (swb x0 (397 * r + (e + 1))).1 := by
  have ei : (s.ir + 1) % 12 = (397 * r + (e + 1)) % 12 := by rw [h.ir, Nat.mod_add_mod]; rfl
  have ne : (s.ir + 1) % 12 ≠ s.irOld := by
    rw [ei, h.old]; exact (mod_ne_of_lt (by omega) (by omega)).symm
  rw [next_fst, next_of_keep exact s ne]
  refine ⟨⟨h.win, ei, h.old, h.inv.step_ir⟩, ?_⟩
  rw [ei]
  exact h.win.win.get _ (by omega) (by omega)

theorem atDraw_refill (x0 : Nat → Int) (r : Nat) (s : State) (h : AtDraw x0 r 11 s) :
    AtDraw x0 (r + 1) 0 (next exact s).2 ∧ (next exact s).1 = (swb x0 (397 * (r + 1))).1 := by
  have ei : (s.ir + 1) % 12 = (397 * r) % 12 := by
    rw [h.ir, Nat.mod_add_mod]; exact Nat.add_mod_right (397 * r) 12
  have e : (s.ir + 1) % 12 = s.irOld := ei.trans h.old.symm
  have hinv := next_inv s h.inv
  have ri := atStep_iter x0 s.pr _ _
    (show AtStep x0 (397 * r) { s with ir := (s.ir + 1) % 12 } from
      ⟨h.win, ei, by rw [h.inv.jr, h.old]; exact Nat.mod_add_mod _ _ _⟩)
  rw [next_of_refill exact exact_RExact s h.inv e] at hinv
  rw [next_fst, next_of_refill exact exact_RExact s h.inv e]
  rw [show 397 * r + s.pr = 397 * (r + 1) by rw [h.inv.pr, Nat.mul_succ]] at ri
  generalize iter singleStep s.pr { s with ir := (s.ir + 1) % 12 } = s' at ri hinv ⊢
  obtain ⟨hw, hir, _⟩ := ri
  -- the refill has set `irOld := ir`
  refine ⟨⟨hw, hir, hir, hinv⟩, ?_⟩
  rw [hir]
  exact hw.win.get _ (le_refl _) (by omega)

theorem atDraw_after (x0 : Nat → Int) (s : State) (h : AtDraw x0 0 11 s) : ∀ q j, j < 12 →
    AtDraw x0 (q + 1) j (after exact s (12 * q + j + 1))
      ∧ draw exact s (12 * q + j) = (swb x0 (397 * (q + 1) + j)).1 := by
  -- one window: a refill, then eleven draws without
  have window : ∀ q, AtDraw x0 q 11 (after exact s (12 * q)) → ∀ j, j < 12 →
      AtDraw x0 (q + 1) j (after exact s (12 * q + j + 1))
        ∧ draw exact s (12 * q + j) = (swb x0 (397 * (q + 1) + j)).1 := by
    intro q hq j
    induction j with
    | zero => intro _; exact atDraw_refill x0 q _ hq
    | succ j ih => intro hj; exact atDraw_keep x0 (q + 1) j _ (ih (by omega)).1 hj
  intro q
  induction q with
  | zero => exact window 0 h
  | succ q ih => exact window (q + 1) (ih 11 (by omega)).1

/-- the state `set_seed` leaves: bounded entries, no borrow, the next draw refills -/
structure SeedPos (s : State) : Prop where
  bnd : Bnd s.x
  carry : s.carry = 0
  ir : s.ir = 11
  jr : s.jr = 7
  old : s.irOld = 0
  pr : s.pr = 397

theorem SeedPos.inv {s : State} (h : SeedPos s) : Inv s :=
  ⟨h.bnd, Or.inl h.carry, by rw [h.ir]; omega, by rw [h.old]; omega, by rw [h.jr, h.old], h.pr⟩

/-- one refill (397 steps) per 12 draws: the draws are the windows `397 (q + 1) … + 11` of the
textbook sequence -/
theorem draw_window (s : State) (h : SeedPos s) (q j : Nat) (hj : j < 12) :
    draw exact s (12 * q + j) = (swb (fun i => rd s.x i) (397 * (q + 1) + j)).1 := by
  have h0 : AtDraw (fun i => rd s.x i) 0 11 s := by
    refine ⟨⟨⟨h.bnd.size, fun m _ hm => ?_⟩, ?_⟩, h.ir, h.old, h.inv⟩
    · have hm : m < 12 := hm
      show rd s.x (m % 12) = (swb _ m).1
      rw [swb_lt _ _ hm, Nat.mod_eq_of_lt hm]
    · rw [swb_lt _ _ (by omega), h.carry]
  exact (atDraw_after _ s h0 q j hj).2

/-- a generator in seed position delivers the RANLUX stream of its array -/
theorem draw_spec (s : State) (h : SeedPos s) (n : Nat) :
    draw exact s n = ranluxSpec (fun i => rd s.x i) n := by
  have := draw_window s h (n / 12) (n % 12) (Nat.mod_lt _ (by omega))
  rwa [Nat.div_add_mod] at this

end CMacVerif.Ranlux
