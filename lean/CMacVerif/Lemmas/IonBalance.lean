import CMacVerif.Model.IonBalance
import CMacVerif.Inst.Real
import CMacVerif.Lemmas.RealArith
import Mathlib.Tactic.Ring
import Mathlib.Tactic.Linarith
import Mathlib.Tactic.NormNum
import Mathlib.Tactic.Positivity
import Mathlib.Tactic.LinearCombination
import Mathlib.Analysis.SpecialFunctions.Sqrt
/-!
`Model/IonBalance.lean` at `ℝ`, under `Props/C06.lean`: the hydrogen closed form as a function of
`C = jH / (nH alphaH)`, its exact branch being the root in `[0,1)` of the balance equation
(`IsRoot`); the metal fractions as shares `w / (1 + Σ w)` of non-negative weights; the quadratic
`p x² − (p + r + 1) x + r = 0` that both updates of an H/He loop body solve; the temperature loop
with its invariant as a parameter.
-/
namespace CMacVerif.IonBalance
open CMacVerif

theorem milli_pos : (0:ℝ) < 1.0e-3 := by norm_num

theorem nz_real (x : ℝ) : nz x ↔ x ≠ 0 := by
  rw [nz, lit0, ← le_antisymm_iff]

theorem feq_real (x y : ℝ) : feq x y ↔ x = y := le_antisymm_iff.symm

/-- `std::cbrt` at `ℝ` (only enters the recombination cooling term) -/
noncomputable instance : HasCbrt ℝ :=
  ⟨fun x => if 0 ≤ x then x ^ ((1:ℝ) / 3) else -((-x) ^ ((1:ℝ) / 3))⟩

/-- the value of the non-Taylor branch as a function of `bb = 2/aa = 4/C` -/
noncomputable def xOf (bb : ℝ) : ℝ := bb / ((1 + √(bb + 1)) * (1 + √(bb + 1)))

theorem sqrt_bb (bb : ℝ) (h : 0 ≤ bb) : 1 ≤ √(bb + 1) ∧ √(bb + 1) * √(bb + 1) = bb + 1 :=
  ⟨Real.one_le_sqrt.mpr (by linarith), Real.mul_self_sqrt (by linarith)⟩

theorem xOf_eq (bb : ℝ) (h : 0 ≤ bb) : xOf bb = (√(bb + 1) - 1) / (√(bb + 1) + 1) := by
  obtain ⟨-, h2⟩ := sqrt_bb bb h
  rw [xOf, div_eq_div_iff (by positivity) (by positivity)]
  linear_combination (-(√(bb + 1) + 1)) * h2

theorem xOf_lt_one (bb : ℝ) (h : 0 ≤ bb) : xOf bb < 1 := by
  obtain ⟨h1, _⟩ := sqrt_bb bb h
  rw [xOf_eq bb h, div_lt_one (by linarith)]
  linarith

/-- the Taylor value `bb/4` bounds the exact one: `(1 + √(bb+1))² ≥ 4` -/
theorem xOf_upper (bb : ℝ) (h : 0 ≤ bb) : 4 * xOf bb ≤ bb := by
  obtain ⟨h1, -⟩ := sqrt_bb bb h
  rw [xOf, ← mul_div_assoc, div_le_iff₀ (by positivity), mul_comm]
  exact mul_le_mul_of_nonneg_left (by nlinarith) h

section unfold
variable (alphaH jH nH aa : ℝ)

theorem h0Hydrogen_of_pos (hj : 0 < jH) (hn : 0 < nH) :
    h0Hydrogen alphaH jH nH = h0Core (jH / (nH * alphaH) / 2) := by
  unfold h0Hydrogen h0HydrogenB h0Core
  rw [lit0, if_pos ⟨hj, hn⟩]
  congr 2
  ring

theorem h0Hydrogen_neutral (h : ¬ (0 < jH ∧ 0 < nH)) : h0Hydrogen alphaH jH nH = 1 := by
  unfold h0Hydrogen h0HydrogenB
  rw [lit0, if_neg h, lit1]

theorem h0Core_eq : h0Core aa =
    if 2 / aa < 1e-10 then max 1e-14 (0.25 * (2 / aa)) else max 1e-14 (xOf (2 / aa)) := by
  have e1 : (1.0e-10:ℝ) = 1e-10 := by norm_num
  have e2 : (1.0e-14:ℝ) = 1e-14 := by norm_num
  simp only [h0Core, h0CoreB, xOf, amax_real, ArithFns.sqrt, lit1, lit2, e1, e2]
  split_ifs <;> rfl

end unfold

theorem h0Core_range (aa : ℝ) : 1e-14 ≤ h0Core aa ∧ h0Core aa ≤ 1 := by
  rw [h0Core_eq]
  split_ifs with h
  · exact ⟨le_max_left _ _, max_le (by norm_num) (by linarith)⟩
  · have hb : (0:ℝ) ≤ 2 / aa := le_trans (by norm_num) (not_lt.mp h)
    exact ⟨le_max_left _ _, max_le (by norm_num) (xOf_lt_one _ hb).le⟩

/-! In terms of `C = jH / (nH alphaH)`, the argument of `h0Core` is `C / 2` and `bb = 4 / C`;
the Taylor branch is taken for `C > 4e10`. -/

theorem two_div_half (C : ℝ) : 2 / (C / 2) = 4 / C := by
  rw [div_div_eq_mul_div]; norm_num

theorem taylor_switch_iff {C : ℝ} (h0 : 0 < C) : 2 / (C / 2) < 1e-10 ↔ 4e10 < C := by
  rw [two_div_half, div_lt_iff₀ h0, show (4e10:ℝ) = 4 / 1e-10 by norm_num,
    div_lt_iff₀ (by norm_num), mul_comm]

theorem h0Core_large {C : ℝ} (hC : 4e10 < C) : h0Core (C / 2) = max 1e-14 (1 / C) := by
  have h0 : 0 < C := lt_trans (by norm_num) hC
  rw [h0Core_eq, if_pos ((taylor_switch_iff h0).mpr hC), two_div_half]
  congr 1; ring

/-- the solution the doc comment of `compute_ionization_state_hydrogen` chooses
(IonizationStateCalculator.cpp 800-813): the root in `[0,1)` of `x² − (2 + C) x + 1 = 0`,
`C = jH / (nH alphaH)` -/
structure IsRoot (C x : ℝ) : Prop where
  nonneg : 0 ≤ x
  lt_one : x < 1
  eq : x ^ 2 - (2 + C) * x + 1 = 0

/-- used with `b = 4 / C`, `s = √(b + 1)`, `x = xOf b = (s − 1) / (s + 1)` -/
theorem balance_of_sqrt {C b s x : ℝ} (e : C * b = 4) (h2 : s * s = b + 1)
    (hx : x * (s + 1) = s - 1) : x ^ 2 - (2 + C) * x + 1 = 0 := by
  linear_combination C / 4 * (((s - 1) * x - (s + 1)) * hx - (x ^ 2 + 1 - 2 * x) * h2)
    - (x ^ 2 + 1 - 2 * x) / 4 * e

theorem xOf_isRoot {C : ℝ} (h0 : 0 < C) : IsRoot C (xOf (4 / C)) := by
  have hb : 0 ≤ 4 / C := by positivity
  obtain ⟨h1, h2⟩ := sqrt_bb (4 / C) hb
  refine ⟨by unfold xOf; positivity, xOf_lt_one _ hb,
    balance_of_sqrt (mul_div_cancel₀ 4 h0.ne') h2 ?_⟩
  rw [xOf_eq _ hb, div_mul_cancel₀ _ (by linarith)]

/-- `(2 + C) x = 1 + x² ≥ 1` -/
theorem IsRoot.lower {C x : ℝ} (h : IsRoot C x) (h0 : 0 < C) : 1 / (C + 2) ≤ x := by
  rw [div_le_iff₀ (by linarith)]
  linarith [h.eq, sq_nonneg x]

/-- the root is below `1/(C+1) < 1/C`, the Taylor value: the switch is not monotone -/
theorem IsRoot.lt_inv_succ {C x : ℝ} (h : IsRoot C x) (h0 : 0 < C) : x < 1 / (C + 1) := by
  have hx0 : 0 < x := lt_of_lt_of_le (by positivity) (h.lower h0)
  rw [lt_div_iff₀ (by linarith)]
  linarith [h.eq, mul_pos hx0 (sub_pos.2 h.lt_one)]

/-- by the two equations `(x' − x) (2 + C − x − x') = (C − C') x' ≤ 0`, and the second factor
is positive -/
theorem IsRoot.antitone {C C' x x' : ℝ} (h : IsRoot C x) (h' : IsRoot C' x') (h0 : 0 ≤ C)
    (hCC : C ≤ C') : x' ≤ x := by
  by_contra hlt
  linarith [h.eq, h'.eq, mul_nonneg (sub_nonneg.2 hCC) h'.nonneg,
    mul_pos (sub_pos.2 (not_le.1 hlt)) (by linarith [h.lt_one, h'.lt_one] : 0 < 2 + C - x - x')]

/-- with `x = 1/C` the residual of `x² − (2 + C) x + 1 = 0` is `x² − 2 x` -/
theorem taylor_residual {C : ℝ} (hC : 1 ≤ C) :
    |(1 / C) ^ 2 - (2 + C) * (1 / C) + 1| ≤ 2 / C := by
  have h0 : 0 < C := by linarith
  have hy : C * (1 / C) = 1 := mul_one_div_cancel h0.ne'
  have h1 : 0 < 1 / C := one_div_pos.mpr h0
  have h2 : 1 / C ≤ 1 := (div_le_one h0).mpr hC
  rw [← mul_one_div 2 C]
  generalize 1 / C = y at *
  rw [abs_le]
  constructor
  · linarith [sq_nonneg y]
  · linarith [mul_nonneg h1.le (sub_nonneg.2 h2)]

theorem h0Core_small {C : ℝ} (h0 : 0 < C) (hC : C ≤ 4e10) :
    h0Core (C / 2) = xOf (4 / C) ∧ 1e-14 < xOf (4 / C) := by
  have hx : (1e-14:ℝ) < xOf (4 / C) := by
    refine lt_of_lt_of_le ?_ ((xOf_isRoot h0).lower h0)
    rw [lt_div_iff₀ (by linarith)]; linarith
  rw [h0Core_eq, if_neg (mt (taylor_switch_iff h0).mp (not_lt.mpr hC)), two_div_half]
  exact ⟨max_eq_right hx.le, hx⟩

theorem h0Core_lower {C : ℝ} (h0 : 0 < C) : 1 / (C + 2) ≤ h0Core (C / 2) := by
  by_cases hC : 4e10 < C
  · rw [h0Core_large hC]
    exact le_trans (one_div_le_one_div_of_le h0 (by linarith)) (le_max_right _ _)
  · rw [(h0Core_small h0 (not_lt.mp hC)).1]
    exact (xOf_isRoot h0).lower h0

/-- `hs` is only needed for a pair that straddles the Taylor switch: there the Taylor value
`1/C'` is compared with the lower bound `1/(C+2)` of the exact root at `C` -/
theorem h0Core_le_mul {C C' k : ℝ} (h0 : 0 < C) (hCC : C ≤ C') (hk : 1 ≤ k)
    (hs : 4e10 < C' → C ≤ 4e10 → C + 2 ≤ k * C') : h0Core (C' / 2) ≤ k * h0Core (C / 2) := by
  have h0' : 0 < C' := lt_of_lt_of_le h0 hCC
  have hf : 1e-14 ≤ h0Core (C / 2) := (h0Core_range _).1
  have hkf := le_mul_of_one_le_left (le_trans (by norm_num) hf) hk
  by_cases hC' : 4e10 < C'
  · rw [h0Core_large hC']
    refine max_le (le_trans hf hkf) ?_
    by_cases hC : 4e10 < C
    · rw [h0Core_large hC] at hkf ⊢
      exact le_trans (le_trans (one_div_le_one_div_of_le h0 hCC) (le_max_right _ _)) hkf
    · refine le_trans ?_
        (mul_le_mul_of_nonneg_left (h0Core_lower h0) (le_trans zero_le_one hk))
      rw [mul_one_div, div_le_div_iff₀ h0' (by linarith)]
      linarith [hs hC' (not_lt.1 hC)]
  · have hC : C ≤ 4e10 := le_trans hCC (not_lt.1 hC')
    rw [(h0Core_small h0 hC).1] at hkf ⊢
    rw [(h0Core_small h0' (not_lt.1 hC')).1]
    exact le_trans ((xOf_isRoot h0).antitone (xOf_isRoot h0') h0.le hCC) hkf

/-- antitone without the tolerance factor, unless the pair straddles the Taylor switch with
`C' < C + 2` -/
theorem h0Core_antitone_exact {C C' : ℝ} (h0 : 0 < C) (hCC : C ≤ C')
    (hs : 4e10 < C' → 4e10 < C ∨ C + 2 ≤ C') : h0Core (C' / 2) ≤ h0Core (C / 2) := by
  have := h0Core_le_mul h0 hCC le_rfl fun h hC => by
    rw [one_mul]; exact (hs h).resolve_left (not_lt.2 hC)
  rwa [one_mul] at this

/-- antitonicity of the core for every pair, up to the relative jump `0.5e-10` at the switch:
`(1 + 0.5e-10) · 4e10 = 4e10 + 2` -/
theorem h0Core_antitone {C C' : ℝ} (h0 : 0 < C) (hCC : C ≤ C') :
    h0Core (C' / 2) ≤ (1 + 0.5e-10) * h0Core (C / 2) :=
  h0Core_le_mul h0 hCC (by norm_num) fun h hC => by linarith

/-- a pair of tracked stages is physical -/
def Frac2.ok (f : Frac2 ℝ) : Prop :=
  0 ≤ f.f1 ∧ f.f1 ≤ 1 ∧ 0 ≤ f.f2 ∧ f.f2 ≤ 1 ∧ f.f1 + f.f2 ≤ 1

/-- a triple of tracked stages is physical -/
def Frac3.ok (f : Frac3 ℝ) : Prop :=
  0 ≤ f.f1 ∧ f.f1 ≤ 1 ∧ 0 ≤ f.f2 ∧ f.f2 ≤ 1 ∧ 0 ≤ f.f3 ∧ f.f3 ≤ 1 ∧ f.f1 + f.f2 + f.f3 ≤ 1

/-- physical metal state: every fraction in `[0,1]`, tracked stages of one element sum to ≤ 1 -/
def MetalOut.ok (o : MetalOut ℝ) : Prop := o.c.ok ∧ o.n.ok ∧ o.o.ok ∧ o.ne.ok ∧ o.s.ok

theorem Frac2.ok.f1 {f : Frac2 ℝ} (h : f.ok) : 0 ≤ f.f1 ∧ f.f1 ≤ 1 := ⟨h.1, h.2.1⟩
theorem Frac2.ok.f2 {f : Frac2 ℝ} (h : f.ok) : 0 ≤ f.f2 ∧ f.f2 ≤ 1 := ⟨h.2.2.1, h.2.2.2.1⟩
theorem Frac3.ok.f1 {f : Frac3 ℝ} (h : f.ok) : 0 ≤ f.f1 ∧ f.f1 ≤ 1 := ⟨h.1, h.2.1⟩
theorem Frac3.ok.f2 {f : Frac3 ℝ} (h : f.ok) : 0 ≤ f.f2 ∧ f.f2 ≤ 1 := ⟨h.2.2.1, h.2.2.2.1⟩

theorem Frac2.ok.rest {f : Frac2 ℝ} (h : f.ok) :
    0 ≤ 1.0 - f.f1 - f.f2 ∧ 1.0 - f.f1 - f.f2 ≤ 1 := by
  obtain ⟨h1, _, h2, _, h3⟩ := h
  rw [lit1]
  constructor <;> linarith

theorem Frac3.ok.rest {f : Frac3 ℝ} (h : f.ok) :
    0 ≤ 1.0 - f.f1 - f.f2 - f.f3 ∧ 1.0 - f.f1 - f.f2 - f.f3 ≤ 1 := by
  obtain ⟨h1, _, h2, _, h3, _, h4⟩ := h
  rw [lit1]
  constructor <;> linarith

theorem scaled_range {A g : ℝ} (hA : 0 ≤ A) (hg : 0 ≤ g ∧ g ≤ 1) : 0 ≤ A * g ∧ A * g ≤ A :=
  ⟨mul_nonneg hA hg.1, mul_le_of_le_one_right hA hg.2⟩

theorem div_range {w S : ℝ} (hw : 0 ≤ w) (hwS : w ≤ S) (hS : 0 < S) : 0 ≤ w / S ∧ w / S ≤ 1 :=
  ⟨div_nonneg hw hS.le, (div_le_one hS).mpr hwS⟩

theorem shares_ok {w1 w2 w3 S : ℝ} (h1 : 0 ≤ w1) (h2 : 0 ≤ w2) (h3 : 0 ≤ w3)
    (hS : S = 1 + w1 + w2 + w3) :
    Frac3.ok ⟨w1 * (1 / S), w2 * (1 / S), w3 * (1 / S)⟩ := by
  have hS0 : 0 < S := by linarith
  have k : ∀ w, 0 ≤ w → w ≤ S → 0 ≤ w * (1 / S) ∧ w * (1 / S) ≤ 1 := fun w hw hwS => by
    rw [mul_one_div]; exact div_range hw hwS hS0
  have a1 := k w1 h1 (by linarith)
  have a2 := k w2 h2 (by linarith)
  have a3 := k w3 h3 (by linarith)
  have a := k (w1 + w2 + w3) (by linarith) (by linarith)
  rw [add_mul, add_mul] at a
  exact ⟨a1.1, a1.2, a2.1, a2.2, a3.1, a3.2, a.2⟩

theorem chain3_ok {c21 c32 c43 : ℝ} (h1 : 0 ≤ c21) (h2 : 0 ≤ c32) (h3 : 0 ≤ c43) :
    (chain3 c21 c32 c43).ok := by
  have h31 : 0 ≤ c32 * c21 := mul_nonneg h2 h1
  simp only [chain3, lit1]
  exact shares_ok h1 h31 (mul_nonneg h3 h31) rfl

/-- two tracked stages are three with a zero third weight -/
theorem chain2_ok {c21 c32 : ℝ} (h1 : 0 ≤ c21) (h2 : 0 ≤ c32) : (chain2 c21 c32).ok := by
  obtain ⟨a1, a2, a3, a4, -, -, a⟩ := shares_ok h1 (mul_nonneg h2 h1) (le_refl 0) (add_zero _).symm
  rw [zero_mul, add_zero] at a
  simp only [chain2, lit1]
  exact ⟨a1, a2, a3, a4, a⟩

theorem den2_pos {ne a nh0 rH : ℝ} (hne : 0 < ne) (ha : 0 < a) (hnh0 : 0 ≤ nh0) (hrH : 0 ≤ rH) :
    0 < ne * a + nh0 * rH :=
  add_pos_of_pos_of_nonneg (mul_pos hne ha) (mul_nonneg hnh0 hrH)

theorem den3_pos {ne a nh0 rH nhe0 rHe : ℝ} (hne : 0 < ne) (ha : 0 < a) (hnh0 : 0 ≤ nh0)
    (hrH : 0 ≤ rH) (hnhe0 : 0 ≤ nhe0) (hrHe : 0 ≤ rHe) : 0 < ne * a + nh0 * rH + nhe0 * rHe :=
  add_pos_of_pos_of_nonneg (den2_pos hne ha hnh0 hrH) (mul_nonneg hnhe0 hrHe)

/-! Both updates of a loop body solve `p x² − b x + r = 0` with `b = p + r + 1`: helium with
`p = AHe che`, `r = (1 + AHe − h0) che`, hydrogen with `p = ch`, `r = ch (1 + AHe − he0 AHe)`. -/

theorem quad_first_order {p r b : ℝ} (hp : 0 ≤ p) (hr : 0 ≤ r) (hb : b = p + r + 1) :
    0 ≤ r / b ∧ r / b ≤ 1 :=
  div_range hr (by linarith) (by linarith)

theorem quad_root {p r b d q : ℝ} (hp : 0 < p) (hr : 0 ≤ r) (hb : b = p + r + 1)
    (hd : d = 4 * p * r) (hq : q = 2 * p) :
    0 ≤ (b - √(b * b - d)) / q ∧ (b - √(b * b - d)) / q ≤ 1 := by
  have hpr := mul_nonneg hp.le hr
  have hup : √(b * b - d) ≤ b := Real.sqrt_le_iff.mpr ⟨by linarith, by rw [sq]; linarith⟩
  -- `(b - q)² ≤ b² - d`: the difference is `4 p`
  have hlo : b - q ≤ √(b * b - d) := by
    refine le_trans (le_abs_self _) (Real.abs_le_sqrt ?_)
    subst hb hd hq
    linarith
  exact div_range (by linarith) (by linarith) (by linarith)

/-- the helium update of a loop body, IonizationStateCalculator.cpp 744-763 -/
theorem heNew_range (che aHe h0 : ℝ) (hche : 0 ≤ che) (hA : 0 ≤ aHe) (hh : h0 ≤ 1) :
    0 ≤ heNew che aHe h0 ∧ heNew che aHe h0 ≤ 1 := by
  have hr : 0 ≤ (1 + aHe - h0) * che := mul_nonneg (by linarith) hche
  simp only [heNew, heNewB, nz_real, lit1, lit2, lit4, ArithFns.sqrt, amin_real]
  split_ifs with hz ht
  · rw [← mul_div_assoc]
    exact quad_first_order (mul_nonneg hA hche) hr (by ring)
  · -- with `aHe = 0` the test value `t1he` is `0 < 1e-3`: the first-order branch
    have hApos : 0 < aHe := by
      refine lt_of_le_of_ne hA fun h => ht ?_
      simp only [← h, mul_zero, zero_mul]
      exact milli_pos
    -- `std::min(1., he0)`: only the lower bound of the root is needed
    exact ⟨le_min zero_le_one (quad_root (mul_pos hApos (lt_of_le_of_ne hche (Ne.symm hz))) hr
      (by ring) (by ring) (by ring)).1, min_le_left _ _⟩
  · exact ⟨zero_le_one, le_refl 1⟩

/-- the hydrogen update of a loop body, IonizationStateCalculator.cpp 765-775, for `ch ≥ 0` -/
theorem hNew_range (ch aHe he0 : ℝ) (hch : 0 ≤ ch) (hA : 0 ≤ aHe) (hhe : he0 ≤ 1) :
    0 ≤ hNew ch aHe he0 ∧ hNew ch aHe he0 ≤ 1 := by
  have hop : 0 ≤ 1 + aHe - he0 * aHe := by linarith [mul_nonneg hA (sub_nonneg.2 hhe)]
  have hr : 0 ≤ ch * (1 + aHe - he0 * aHe) := mul_nonneg hch hop
  simp only [hNew, hNewB, lit1, lit2, lit4, ArithFns.sqrt]
  split_ifs with ht
  · rw [div_mul_eq_mul_div]
    exact quad_first_order hch hr (by ring)
  · have hchpos : 0 < ch := by
      refine lt_of_le_of_ne hch fun h => ht ?_
      simp only [← h, zero_div, mul_zero, zero_mul]
      exact milli_pos
    exact quad_root hchpos hr (by ring) (by ring) (by ring)

/-- the averaging applied after 10 iterations -/
theorem half_sum_range {x y : ℝ} (hx : 0 ≤ x ∧ x ≤ 1) (hy : 0 ≤ y ∧ y ≤ 1) :
    0 ≤ 0.5 * (x + y) ∧ 0.5 * (x + y) ≤ 1 := by
  refine ⟨mul_nonneg (by norm_num) (add_nonneg hx.1 hy.1), ?_⟩
  calc 0.5 * (x + y) ≤ 0.5 * (1 + 1) :=
        mul_le_mul_of_nonneg_left (add_le_add hx.2 hy.2) (by norm_num)
    _ = 1 := by norm_num

/-- the premise flag is sticky -/
theorem hHeLoop_offDom_false (c : HHeCoef ℝ) :
    ∀ (fuel niter : Nat) (cn : Bool) (s : HHeState ℝ),
      (hHeLoop c fuel niter cn s).offDom = false → cn = false := by
  intro fuel
  induction fuel with
  | zero => intro niter cn s; unfold hHeLoop; split_ifs <;> exact id
  | succ f ih =>
    intro niter cn s h
    unfold hHeLoop at h
    split_ifs at h
    · exact (Bool.or_eq_false_iff.mp (ih _ _ _ h)).1
    · exact h

theorem hHeInit_range (c : HHeCoef ℝ) (hch1 : 0 ≤ c.ch1) :
    (0 ≤ (hHeInit c).h0 ∧ (hHeInit c).h0 ≤ 1) ∧ (0 ≤ (hHeInit c).he0 ∧ (hHeInit c).he0 ≤ 1) := by
  have hE : Real.exp (-0.5 / c.ch1) ≤ 1 :=
    Real.exp_le_one_iff.mpr (div_nonpos_of_nonpos_of_nonneg (by norm_num) hch1)
  have h0 : 0 ≤ 1 - Real.exp (-0.5 / c.ch1) := sub_nonneg.mpr hE
  have h1 : 1 - Real.exp (-0.5 / c.ch1) ≤ 1 := sub_le_self _ (Real.exp_pos _).le
  simp only [hHeInit, ArithFns.exp, lit1, lit0]
  exact ⟨⟨mul_nonneg (by norm_num) (mul_nonneg (by norm_num) h0),
    mul_le_one₀ (by norm_num) (mul_nonneg (by norm_num) h0) (mul_le_one₀ (by norm_num) h0 h1)⟩,
    le_refl 0, zero_le_one⟩

/-- what the clamps establish at the lower end -/
def TInv {M : Type} (tmin : ℝ) (s : TState ℝ M) : Prop :=
  s.T0 = 500 ∨ tmin ≤ s.T0

/-- the two clamps, TemperatureCalculator.cpp 802-821: reset low, reset high, or left alone -/
theorem clamp_cases {M : Type} (tmin : ℝ) (t : TState ℝ M) :
    let c := clampHigh (clampLow tmin t)
    c = { t with T0 := 500.0, h0 := 1.0, he0 := 1.0, gain0 := 1.0, loss0 := 1.0 } ∨
    c = { t with T0 := 1.0e10, h0 := 1.0e-10, he0 := 1.0e-10, gain0 := 1.0, loss0 := 1.0 } ∨
    (c = t ∧ tmin ≤ t.T0 ∧ t.T0 ≤ 1e10) := by
  unfold clampHigh clampLow
  by_cases h1 : t.T0 < tmin
  · rw [if_pos h1, if_neg (by norm_num)]
    exact Or.inl rfl
  · rw [if_neg h1]
    by_cases h2 : (1.0e10:ℝ) < t.T0
    · rw [if_pos h2]; exact Or.inr (Or.inl rfl)
    · rw [if_neg h2]; exact Or.inr (Or.inr ⟨rfl, not_lt.mp h1, by norm_num at h2 ⊢; exact h2⟩)

theorem tempStep_inv {M : Type} (bal : ℝ → Bal ℝ M) (tmin : ℝ) (htmin : tmin ≤ 1e10)
    (s : TState ℝ M) : TInv tmin (tempStep bal tmin s) := by
  unfold tempStep TInv
  rcases clamp_cases tmin _ with e | e | ⟨e, h1, -⟩ <;> rw [e]
  · exact Or.inl (by norm_num)
  · exact Or.inr (by norm_num at htmin ⊢; exact htmin)
  · exact Or.inr h1

/-- the loop hands back its input and counter untouched, or a body ran: then whatever every body
establishes holds of the result -/
theorem tempLoop_of_step {M : Type} (bal : ℝ → Bal ℝ M) (eps tmin : ℝ) (P : TState ℝ M → Prop)
    (hP : ∀ s, P (tempStep bal tmin s)) :
    ∀ (n k : Nat) (s : TState ℝ M), tempLoop bal eps tmin n k s = (s, k) ∨
      P (tempLoop bal eps tmin n k s).1 := by
  intro n
  induction n with
  | zero => intro k s; exact Or.inl rfl
  | succ n ih =>
    intro k s
    rw [tempLoop]
    split_ifs with hc
    · right
      rcases ih (k + 1) (tempStep bal tmin s) with h | h
      · rw [h]; exact hP s
      · exact h
    · exact Or.inl rfl

/-- the loop reads `T0`, `gain0`, `loss0` of its start state only: two start states that agree on
them are both handed back untouched, or give the same result (equal after one body) -/
theorem tempLoop_congr {M : Type} (bal : ℝ → Bal ℝ M) (eps tmin : ℝ) (n k : Nat)
    (s s' : TState ℝ M) (hT : s.T0 = s'.T0) (hg : s.gain0 = s'.gain0) (hl : s.loss0 = s'.loss0) :
    (tempLoop bal eps tmin n k s = (s, k) ∧ tempLoop bal eps tmin n k s' = (s', k)) ∨
      tempLoop bal eps tmin n k s = tempLoop bal eps tmin n k s' := by
  cases n with
  | zero => exact Or.inl ⟨rfl, rfl⟩
  | succ n =>
    have hc : tempCond eps s ↔ tempCond eps s' := by unfold tempCond; rw [hg, hl]
    have hs : tempStep bal tmin s = tempStep bal tmin s' := by unfold tempStep; rw [hT]
    rw [tempLoop, tempLoop]
    by_cases c : tempCond eps s
    · rw [if_pos c, if_pos (hc.mp c), hs]; exact Or.inr rfl
    · rw [if_neg c, if_neg (mt hc.mpr c)]; exact Or.inl ⟨rfl, rfl⟩

theorem ite_one_range {c : Prop} [Decidable c] {x : ℝ} (hx : 0 ≤ x ∧ x ≤ 1) :
    0 ≤ (if c then 1.0 else x) ∧ (if c then 1.0 else x) ≤ 1 := by
  split_ifs
  · rw [lit1]; exact ⟨zero_le_one, le_rfl⟩
  · exact hx

/-- a state with `h0 = 0` (the start state) is finished with the coolants reset -/
theorem tempFinish_zero_h0 {M : Type} (i : TempIn ℝ M) (s : TState ℝ M) (k : Nat)
    (h : s.h0 = 0.0) : (tempFinish i s k).metZero = true := by
  unfold tempFinish
  simp only [h]
  split_ifs with hm
  · simp [feq_real]
  · have : ((0.0:ℝ) ≤ 1.0e-10) := by norm_num
    simp [this]

theorem tempInit_real (Told : ℝ) : tempInit Told = if Told ≤ 4000 then 8000 else Told := by
  unfold tempInit; norm_num

theorem tempInit_gt (Told : ℝ) : 4000 < tempInit Told := by
  rw [tempInit_real]; split_ifs with h
  · norm_num
  · exact not_le.mp h

/-- the loop variables before the first body (TemperatureCalculator.cpp 700-704, 725-728) -/
noncomputable def tempStart {M : Type} (Told : ℝ) (m : M) : TState ℝ M :=
  ⟨tempInit Told, 0.0, 0.0, 1.0, 0.0, m⟩

theorem tempMain_eq {M : Type} (bal : ℝ → Bal ℝ M) (i : TempIn ℝ M) : tempMain bal i =
    tempFinish i (tempLoop bal i.eps i.tmin i.maxit 0 (tempStart i.Told i.met0)).1
      (tempLoop bal i.eps i.tmin i.maxit 0 (tempStart i.Told i.met0)).2 := rfl

theorem tempMain_range {M : Type} (bal : ℝ → Bal ℝ M) (i : TempIn ℝ M) (htmin : i.tmin ≤ 30000) :
    (tempMain bal i).T = 500 ∨
    (min i.tmin (tempInit i.Told) ≤ (tempMain bal i).T ∧ (tempMain bal i).T ≤ 30000) ∧
    ((tempMain bal i).niter ≥ 1 → i.tmin ≤ (tempMain bal i).T) := by
  have hl := tempLoop_of_step bal i.eps i.tmin (TInv i.tmin)
    (tempStep_inv bal i.tmin (by linarith)) i.maxit 0 (tempStart i.Told i.met0)
  simp only [tempMain_eq, tempFinish, amin_real, show (30000.0:ℝ) = 30000 by norm_num]
  rcases hl with e | h500 | hlo
  · rw [e]
    exact Or.inr ⟨⟨le_min (le_trans (min_le_left _ _) htmin) (min_le_right _ _), min_le_left _ _⟩,
      fun h => absurd h (by norm_num)⟩
  · left; rw [h500]; norm_num
  · have := le_min htmin hlo
    exact Or.inr ⟨⟨le_trans (min_le_left _ _) this, min_le_left _ _⟩, fun _ => this⟩

/-- which branch a returning call took does not depend on `met0` -/
theorem temperatureCell_cases {M : Type} (bal : ℝ → ℝ → Bal ℝ M) (i : TempIn ℝ M)
    (hna : (temperatureCell bal i).abort = false) :
    (∃ tag, ∀ m, temperatureCell bal { i with met0 := m } =
      ⟨500.0, 1.0, 1.0, true, m, false, tag, 0⟩) ∨
    ∀ m, temperatureCell bal { i with met0 := m } =
      tempMain (bal (crfacEff i.crfac i.crcell)) { i with met0 := m } := by
  simp only [temperatureCell] at hna
  split_ifs at hna with h1 h2 h3
  · exact Or.inl ⟨0, fun m => if_pos h1⟩
  · exact Or.inl ⟨1, fun m => (if_neg h1).trans ((if_neg h2).trans (if_pos h3))⟩
  · exact Or.inr fun m => (if_neg h1).trans ((if_neg h2).trans (if_neg h3))

/-- a balance evaluation returns fractions in `[0,1]` and, unless hydrogen is entirely neutral,
physical coolant fractions -/
def BalOK (b : Bal ℝ (MetalOut ℝ)) : Prop :=
  (0 ≤ b.h0 ∧ b.h0 ≤ 1) ∧ (0 ≤ b.he0 ∧ b.he0 ≤ 1) ∧ (b.h0 = 1 ∨ b.met.ok)

/-- loop invariant: fractions in `[0,1]`; the stored coolant fractions are physical unless the
hydrogen fraction has one of the values for which `calculate_temperature` resets them -/
def StateOK (s : TState ℝ (MetalOut ℝ)) : Prop :=
  (0 ≤ s.h0 ∧ s.h0 ≤ 1) ∧ (0 ≤ s.he0 ∧ s.he0 ≤ 1) ∧ (s.h0 = 1 ∨ s.h0 ≤ 1e-10 ∨ s.met.ok)

theorem tempStep_ok (bal : ℝ → Bal ℝ (MetalOut ℝ)) (hb : ∀ T, BalOK (bal T)) (tmin : ℝ)
    (s : TState ℝ (MetalOut ℝ)) : StateOK (tempStep bal tmin s) := by
  obtain ⟨b1, b2, b3⟩ := hb s.T0
  unfold tempStep StateOK
  rcases clamp_cases tmin _ with e | e | ⟨e, -, -⟩ <;> rw [e]
  · norm_num
  · norm_num
  · exact ⟨b1, b2, b3.elim Or.inl (fun h => Or.inr (Or.inr h))⟩
end CMacVerif.IonBalance
