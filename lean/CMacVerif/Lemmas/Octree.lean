import CMacVerif.Model.Octree
import CMacVerif.Lemmas.AMRGeom
import CMacVerif.Inst.Real
import CMacVerif.Lemmas.RealArith
/-! The Octree (C16): the pruned searches `search` / `searchRoot` return the brute-force answer under the covering
hypothesis (`Covered`); the tree the constructor builds (`add_position`, `set_variable`) satisfies it (`Boxed`,
`addPos_*`, `setVar_*`, `build_spec`).  `closest` and the periodic distances are not covered. -/
namespace CMacVerif.Oct
open CMacVerif.GridNum

/-- indices of the positions stored below a node, in traversal order -/
def leavesOf {α : Type} : OT α → List Nat
  | .empty => []
  | .leaf i => [i]
  | .node _ _ kids => (List.finRange 8).foldl (fun acc i => acc ++ leavesOf (kids i)) []

/-- the covering hypotheses: below every node, the box distance is a lower bound of the distance
of every stored point, and the node's variable is an upper bound of the points' variables -/
inductive Covered (pd : Nat → ℝ) (bd : Box3 ℝ → ℝ) (h : Nat → ℝ) : OT ℝ → Prop
  | empty : Covered pd bd h .empty
  | leaf (i : Nat) : Covered pd bd h (.leaf i)
  | node (b : Box3 ℝ) (v : ℝ) (kids : Fin 8 → OT ℝ) :
      (∀ i ∈ leavesOf (OT.node b v kids), bd b ≤ pd i) → (∀ i ∈ leavesOf (OT.node b v kids), h i ≤ v) →
      (∀ k, Covered pd bd h (kids k)) → Covered pd bd h (.node b v kids)

/-- threshold of a point: its own variable (+ the search radius) -/
def limOf (h : Nat → ℝ) (radius : Option ℝ) (i : Nat) : ℝ := match radius with | some r => h i + r | none => h i

theorem search_eq_filter (pd : Nat → ℝ) (bd : Box3 ℝ → ℝ) (h : Nat → ℝ) (radius : Option ℝ)
    (t : OT ℝ) (hc : Covered pd bd h t) :
    search pd bd h radius t = (leavesOf t).filter (fun i => decide (pd i ≤ limOf h radius i)) := by
  induction hc with
  | empty => rfl
  | leaf i =>
    simp only [search, leavesOf, limOf]
    cases radius with
    | none => by_cases hle : pd i ≤ h i <;> simp [hle]
    | some r => by_cases hle : pd i ≤ h i + r <;> simp [hle]
  | node b v kids hbox hvar hk ih =>
    simp only [search]
    split_ifs with hp
    · symm
      rw [List.filter_eq_nil_iff]
      intro i hi hle
      -- the threshold of the node bounds the threshold of every point below it
      have h0 := of_decide_eq_true hle
      have h1 := hbox i hi
      have h2 := hvar i hi
      unfold limOf at h0
      cases radius <;> simp only at hp h0 <;> linarith
    · simp only [leavesOf, ← List.flatMap_eq_foldl, List.filter_flatMap, ih]

theorem boxDx_sq_le (v a s p : ℝ) (h1 : a ≤ p) (h2 : p ≤ a + s) :
    boxDx v a s * boxDx v a s ≤ (p - v) * (p - v) := by
  unfold boxDx
  simp only [lit0]
  split_ifs with c1 c2
  · have := mul_self_le_mul_self (by linarith : (0 : ℝ) ≤ v - a - s) (by linarith : v - a - s ≤ v - p)
    linarith
  · rw [zero_mul]; exact mul_self_nonneg _
  · have := mul_self_le_mul_self (by linarith : (0 : ℝ) ≤ a - v) (by linarith : a - v ≤ p - v)
    linarith

theorem boxDist_le (b : Box3 ℝ) (c p : V3 ℝ) (hp : InBox b p) : boxDist b c ≤ dist p c := by
  obtain ⟨x1, x2, y1, y2, z1, z2⟩ := hp
  unfold boxDist dist
  apply Real.sqrt_le_sqrt
  have hx := boxDx_sq_le c.x b.ax b.sx p.x x1 x2.le
  have hy := boxDx_sq_le c.y b.ay b.sy p.y y1 y2.le
  have hz := boxDx_sq_le c.z b.az b.sz p.z z1 z2.le
  linarith

theorem mem_leavesOf_node (b : Box3 ℝ) (v : ℝ) (kids : Fin 8 → OT ℝ) (i : Nat) :
    i ∈ leavesOf (OT.node b v kids) ↔ ∃ k, i ∈ leavesOf (kids k) := by
  simp only [leavesOf, ← List.flatMap_eq_foldl, List.mem_flatMap, List.mem_finRange, true_and]

/-- box of child `k` (`k = 4 ix + 2 iy + iz`) -/
def kidBox (b : Box3 ℝ) (k : Nat) : Box3 ℝ :=
  ⟨b.ax + ((k / 4 : Nat) : ℝ) * (b.sx * 0.5), b.ay + ((k / 2 % 2 : Nat) : ℝ) * (b.sy * 0.5),
   b.az + ((k % 2 : Nat) : ℝ) * (b.sz * 0.5), b.sx * 0.5, b.sy * 0.5, b.sz * 0.5⟩

theorem kidBox_eq (b : Box3 ℝ) (k : Nat) : kidBox b k = AMR.childBox b (k / 4) (k / 2 % 2) (k % 2) := by
  simp only [kidBox, AMR.childBox, ofNat_real]

theorem subBox_eq (b : Box3 ℝ) (p : V3 ℝ) :
    subBox b p = AMR.childBox b (childIdx p.x b.ax b.sx) (childIdx p.y b.ay b.sy) (childIdx p.z b.az b.sz) := rfl

/-- `AMRGridCell` computes the same child index and clamps it to 1 against round-off; for a position of the box the
clamp is idle -/
theorem childIdx_eq (p a s : ℝ) (hs : 0 < s) (h1 : a ≤ p) (h2 : p < a + s) :
    childIdx p a s = AMR.childIndex p a s := by
  have := (AMR.toNat_quot_eq_iff (m := 2) two_pos hs h1 _).1 rfl
  have h : ((childIdx p a s : Nat) : ℝ) * (s / 2) < 2 * (s / 2) := by
    unfold childIdx; rw [lit2]; linarith [this.1]
  have : childIdx p a s < 2 := by exact_mod_cast lt_of_mul_lt_mul_right h (by positivity)
  unfold AMR.childIndex; unfold childIdx at this ⊢; omega

/-- stated with the `% 8` of `setKid` / `getKid`, which is idle for a position of the box (`cellOf p b < 8`) -/
theorem subBox_spec (b : Box3 ℝ) (p : V3 ℝ) (hb : PosBox b) (hp : InBox b p) :
    kidBox b (cellOf p b % 8) = subBox b p ∧ InBox (subBox b p) p := by
  have ⟨x1, x2, y1, y2, z1, z2⟩ := hp
  have hx := childIdx_eq p.x b.ax b.sx hb.1 x1 x2
  have hy := childIdx_eq p.y b.ay b.sy hb.2.1 y1 y2
  have hz := childIdx_eq p.z b.az b.sz hb.2.2 z1 z2
  have ix := AMR.childIndex_le_one p.x b.ax b.sx
  have iy := AMR.childIndex_le_one p.y b.ay b.sy
  have iz := AMR.childIndex_le_one p.z b.az b.sz
  obtain ⟨hlt, ex, ey, ez⟩ : cellOf p b < 8 ∧ cellOf p b / 4 = childIdx p.x b.ax b.sx ∧
      cellOf p b / 2 % 2 = childIdx p.y b.ay b.sy ∧ cellOf p b % 2 = childIdx p.z b.az b.sz := by
    unfold cellOf; omega
  refine ⟨by rw [Nat.mod_eq_of_lt hlt, kidBox_eq, ex, ey, ez, subBox_eq], ?_⟩
  rw [subBox_eq, hx, hy, hz]
  exact AMR.childBox_contains b p hb hp

theorem kidBox_pos (b : Box3 ℝ) (k : Nat) (hb : PosBox b) : PosBox (kidBox b k) :=
  kidBox_eq b k ▸ AMR.childBox_pos b hb _ _ _

theorem subBox_pos (b : Box3 ℝ) (p : V3 ℝ) (hb : PosBox b) : PosBox (subBox b p) :=
  AMR.childBox_pos b hb _ _ _

theorem kidBox_sub (b : Box3 ℝ) (k : Fin 8) (p : V3 ℝ) (hb : PosBox b) (hp : InBox (kidBox b k.val) p) :
    InBox b p :=
  AMR.childBox_sub b p hb _ _ _ (by omega) (by omega) (by omega) (kidBox_eq b k ▸ hp)

/-- the structural invariant of `add_position`: a node's box is the box that is passed down, a
child lives in its octant, a leaf's position lies in its box -/
def Boxed (pos : Nat → V3 ℝ) : OT ℝ → Box3 ℝ → Prop
  | .empty, _ => True
  | .leaf i, b => InBox b (pos i)
  | .node b' _ kids, b => b' = b ∧ ∀ k : Fin 8, Boxed pos (kids k) (kidBox b k.val)

theorem boxed_leaves (pos : Nat → V3 ℝ) : ∀ (t : OT ℝ) (b : Box3 ℝ), PosBox b → Boxed pos t b →
    ∀ i ∈ leavesOf t, InBox b (pos i) := by
  intro t
  induction t with
  | empty => intro b _ _ i hi; simp [leavesOf] at hi
  | leaf j => intro b _ h i hi; simp only [leavesOf, List.mem_singleton] at hi; subst hi; exact h
  | node b' v kids ih =>
    intro b hb h i hi
    obtain ⟨_, hk⟩ := h
    rw [mem_leavesOf_node] at hi
    obtain ⟨k, hik⟩ := hi
    exact kidBox_sub b k _ hb (ih k _ (kidBox_pos b k.val hb) (hk k) i hik)

theorem setKid_apply (kids : Fin 8 → OT ℝ) (k : Nat) (t : OT ℝ) (j : Fin 8) :
    setKid kids k t j = if j.val = k % 8 then t else kids j := rfl

/-- box and children of the node `add_position` works on: those of an existing node; a fresh node
for an empty slot; for a leaf a fresh node that holds the old position in a new child -/
noncomputable def asNode (pos : Nat → V3 ℝ) (t : OT ℝ) (box : Box3 ℝ) : Box3 ℝ × (Fin 8 → OT ℝ) :=
  match t with
  | .leaf old => (box, setKid (fun _ => .empty) (cellOf (pos old) box) (.leaf old))
  | .node b _ kids => (b, kids)
  | .empty => (box, fun _ => .empty)

/-- what `add_position` puts into the slot of the new position: the position itself if the slot is
empty, otherwise the subtree with the position added -/
noncomputable def grow (pos : Nat → V3 ℝ) (index fuel : Nat) (box : Box3 ℝ) (child : OT ℝ) : OT ℝ :=
  match child with
  | .empty => .leaf index
  | c => addPos pos index fuel c (subBox box (pos index))

theorem addPos_succ (pos : Nat → V3 ℝ) (index fuel : Nat) (t : OT ℝ) (box : Box3 ℝ) :
    addPos pos index (fuel + 1) t box =
      .node (asNode pos t box).1 0.0 (setKid (asNode pos t box).2 (cellOf (pos index) box)
        (grow pos index fuel box (getKid (asNode pos t box).2 (cellOf (pos index) box)))) := by
  -- in all three cases `add_position` ends with a `match` on the slot of the new position; `grow` is that match
  cases t <;> simp only [addPos, asNode, grow] <;> split <;> rename_i h <;> simp only [h]

theorem asNode_boxed (pos : Nat → V3 ℝ) (t : OT ℝ) (box : Box3 ℝ) (hb : PosBox box) (h : Boxed pos t box) :
    (asNode pos t box).1 = box ∧ ∀ k : Fin 8, Boxed pos ((asNode pos t box).2 k) (kidBox box k.val) := by
  cases t with
  | empty => exact ⟨rfl, fun _ => trivial⟩
  | leaf old =>
    obtain ⟨hsub, hinsub⟩ := subBox_spec box (pos old) hb h
    refine ⟨rfl, fun j => ?_⟩
    simp only [asNode, setKid_apply]
    split_ifs with hj
    · rw [hj, hsub]; exact hinsub
    · trivial
  | node b' v kids => exact h

theorem getKid_boxed (pos : Nat → V3 ℝ) (box : Box3 ℝ) (p : V3 ℝ) (hb : PosBox box) (hin : InBox box p)
    (kids : Fin 8 → OT ℝ) (hk : ∀ k : Fin 8, Boxed pos (kids k) (kidBox box k.val)) :
    Boxed pos (getKid kids (cellOf p box)) (subBox box p) := by
  rw [← (subBox_spec box p hb hin).1]
  exact hk _

theorem addPos_boxed (pos : Nat → V3 ℝ) (index : Nat) : ∀ (fuel : Nat) (t : OT ℝ) (b : Box3 ℝ),
    PosBox b → Boxed pos t b → InBox b (pos index) → Boxed pos (addPos pos index fuel t b) b := by
  intro fuel
  induction fuel with
  | zero => intro t b _ h _; exact h
  | succ fuel ih =>
    intro t box hb ht hin
    obtain ⟨e, hk⟩ := asNode_boxed pos t box hb ht
    obtain ⟨hsub, hinsub⟩ := subBox_spec box (pos index) hb hin
    rw [addPos_succ]
    refine ⟨e, fun j => ?_⟩
    rw [setKid_apply]
    split_ifs with hj
    · rw [hj, hsub]
      unfold grow
      split
      · exact hinsub
      · exact ih _ _ (subBox_pos _ _ hb) (getKid_boxed pos box _ hb hin _ hk) hinsub
    · exact hk j

theorem fmax_ge (a b : ℝ) : a ≤ fmax a b ∧ b ≤ fmax a b := by
  rw [show fmax a b = max a b from amax_eq a b]; exact ⟨le_max_left a b, le_max_right a b⟩

theorem foldl_accStep_some_ge (kids : Fin 8 → OT ℝ) (r : Fin 8 → ℝ) (l : List (Fin 8)) : ∀ y : ℝ,
    ∃ v, l.foldl (accStep kids r) (some y) = some v ∧ y ≤ v := by
  induction l with
  | nil => exact fun y => ⟨y, rfl, le_refl _⟩
  | cons j js ih =>
    intro y
    simp only [List.foldl_cons]
    unfold accStep
    split
    · exact ih y
    · obtain ⟨v, hv, hle⟩ := ih (fmax y (r j))
      exact ⟨v, hv, (fmax_ge _ _).1.trans hle⟩

/-- the accumulation loop of `set_variable` ends at or above the value of every existing child: the step at that
child puts the accumulator there, the later steps only raise it -/
theorem foldl_accStep_ge_of_mem (kids : Fin 8 → OT ℝ) (r : Fin 8 → ℝ) (i : Fin 8) (hne : kids i ≠ .empty) (l : List (Fin 8))
    (hi : i ∈ l) (a : Option ℝ) : ∃ v, l.foldl (accStep kids r) a = some v ∧ r i ≤ v := by
  obtain ⟨s, t, rfl⟩ := List.append_of_mem hi
  rw [List.foldl_append, List.foldl_cons]
  generalize s.foldl (accStep kids r) a = a'
  obtain ⟨w, hw, hle⟩ : ∃ w, accStep kids r a' i = some w ∧ r i ≤ w := by
    unfold accStep
    split
    · rename_i he; exact absurd he hne
    · cases a' with
      | none => exact ⟨_, rfl, le_refl _⟩
      | some y => exact ⟨_, rfl, (fmax_ge _ _).2⟩
  obtain ⟨v, hv, hle'⟩ := foldl_accStep_some_ge kids r t w
  exact ⟨v, by rw [hw, hv], hle.trans hle'⟩

theorem leavesOf_ne_empty (t : OT ℝ) (i : Nat) (hi : i ∈ leavesOf t) : t ≠ .empty := by
  intro h; subst h; simp [leavesOf] at hi

theorem setVar_leaves (h : Nat → ℝ) : ∀ t : OT ℝ, leavesOf (setVar h t).1 = leavesOf t := by
  intro t
  induction t with
  | empty => rfl
  | leaf j => rfl
  | node b v kids ih =>
    simp only [setVar, leavesOf, ih]

theorem setVar_boxed (pos : Nat → V3 ℝ) (h : Nat → ℝ) : ∀ (t : OT ℝ) (b : Box3 ℝ),
    Boxed pos t b → Boxed pos (setVar h t).1 b := by
  intro t
  induction t with
  | empty => intro b hb; exact hb
  | leaf j => intro b hb; exact hb
  | node b' v kids ih =>
    intro b hb
    obtain ⟨e, hk⟩ := hb
    exact ⟨e, fun k => ih k _ (hk k)⟩

theorem setVar_ge (h : Nat → ℝ) : ∀ (t : OT ℝ), ∀ i ∈ leavesOf t, h i ≤ (setVar h t).2 := by
  intro t
  induction t with
  | empty => intro i hi; simp [leavesOf] at hi
  | leaf j => intro i hi; simp only [leavesOf, List.mem_singleton] at hi; subst hi; exact le_refl _
  | node b v kids ih =>
    intro i hi
    rw [mem_leavesOf_node] at hi
    obtain ⟨k, hik⟩ := hi
    obtain ⟨w, hw, hle⟩ := foldl_accStep_ge_of_mem kids (fun i => (setVar h (kids i)).2) k (leavesOf_ne_empty _ _ hik)
      (List.finRange 8) (List.mem_finRange k) none
    simp only [setVar, hw, accGet]
    exact (ih k i hik).trans hle

theorem setVar_covered (pos : Nat → V3 ℝ) (h : Nat → ℝ) (c : V3 ℝ) : ∀ (t : OT ℝ) (b : Box3 ℝ),
    PosBox b → Boxed pos t b →
    Covered (fun i => dist (pos i) c) (fun b => boxDist b c) h (setVar h t).1 := by
  intro t
  induction t with
  | empty => intro b _ _; exact Covered.empty
  | leaf j => intro b _ _; exact Covered.leaf j
  | node b' v kids ih =>
    intro b hb hbx
    have hl := setVar_leaves h (OT.node b' v kids)
    have hv := setVar_ge h (OT.node b' v kids)
    have hin := boxed_leaves pos _ _ hb hbx
    obtain ⟨rfl, hk⟩ := hbx
    simp only [setVar] at hl hv ⊢
    refine Covered.node _ _ _ ?_ ?_ ?_
    · intro i hi
      rw [hl] at hi
      exact boxDist_le b' c (pos i) (hin i hi)
    · intro i hi
      rw [hl] at hi
      exact hv i hi
    · intro k
      exact ih k _ (kidBox_pos _ _ hb) (hk k)

theorem mem_kids_split (kids : Fin 8 → OT ℝ) (c : Nat) (i : Nat) :
    (∃ k, i ∈ leavesOf (kids k)) ↔
      i ∈ leavesOf (getKid kids c) ∨ ∃ k : Fin 8, k.val ≠ c % 8 ∧ i ∈ leavesOf (kids k) := by
  constructor
  · rintro ⟨k, hk⟩
    by_cases hj : k.val = c % 8
    · left
      have : k = ⟨c % 8, Nat.mod_lt _ (by decide)⟩ := Fin.ext hj
      rw [this] at hk; exact hk
    · exact Or.inr ⟨k, hj, hk⟩
  · rintro (hn | ⟨k, _, hk⟩)
    · exact ⟨_, hn⟩
    · exact ⟨k, hk⟩

theorem mem_setKid (b : Box3 ℝ) (v : ℝ) (kids : Fin 8 → OT ℝ) (c : Nat) (new : OT ℝ) (i : Nat) :
    i ∈ leavesOf (OT.node b v (setKid kids c new)) ↔
      i ∈ leavesOf new ∨ ∃ k : Fin 8, k.val ≠ c % 8 ∧ i ∈ leavesOf (kids k) := by
  rw [mem_leavesOf_node, mem_kids_split _ c]
  exact or_congr (by rw [getKid, setKid_apply, if_pos rfl])
    (exists_congr fun k => and_congr_right fun hj => by rw [setKid_apply, if_neg hj])

theorem asNode_leaves (pos : Nat → V3 ℝ) (t : OT ℝ) (box : Box3 ℝ) (i : Nat) :
    (∃ k, i ∈ leavesOf ((asNode pos t box).2 k)) ↔ i ∈ leavesOf t := by
  cases t with
  | empty => simp [asNode, leavesOf]
  | leaf old =>
    rw [← mem_leavesOf_node box 0.0]
    show i ∈ leavesOf (OT.node box 0.0 (setKid _ _ _)) ↔ _
    rw [mem_setKid]
    simp [leavesOf]
  | node b v kids => exact (mem_leavesOf_node b v kids i).symm

theorem addPos_leaves (pos : Nat → V3 ℝ) (index : Nat) : ∀ (fuel : Nat) (t : OT ℝ) (box : Box3 ℝ) (i : Nat),
    (i ∈ leavesOf (addPos pos index fuel t box) → i ∈ leavesOf t ∨ i = index) ∧
    (i ∈ leavesOf t → i ∈ leavesOf (addPos pos index fuel t box)) := by
  intro fuel
  induction fuel with
  | zero => intro t box i; exact ⟨Or.inl, id⟩
  | succ fuel ih =>
    intro t box i
    rw [addPos_succ, mem_setKid, ← asNode_leaves pos t box i, mem_kids_split _ (cellOf (pos index) box)]
    have hg : ∀ child, (i ∈ leavesOf (grow pos index fuel box child) → i ∈ leavesOf child ∨ i = index) ∧
        (i ∈ leavesOf child → i ∈ leavesOf (grow pos index fuel box child)) := by
      intro child
      unfold grow
      split
      · simp [leavesOf]
      · exact ih _ _ i
    constructor
    · rintro (h | h)
      · exact ((hg _).1 h).elim (fun h => Or.inl (Or.inl h)) Or.inr
      · exact Or.inl (Or.inr h)
    · rintro (h | h)
      · exact Or.inl ((hg _).2 h)
      · exact Or.inr h

/-- the tree after the loop of the constructor has added the positions `1 … m` -/
noncomputable def buildTree (pos : Nat → V3 ℝ) (box : Box3 ℝ) (m : Nat) : OT ℝ :=
  (List.range m).foldl (fun t i => addPos pos (i + 1) 64 t box) (.leaf 0)

theorem buildTree_succ (pos : Nat → V3 ℝ) (box : Box3 ℝ) (m : Nat) :
    buildTree pos box (m + 1) = addPos pos (m + 1) 64 (buildTree pos box m) box := by
  unfold buildTree; rw [List.range_succ, List.foldl_append]; rfl

theorem buildTree_boxed (pos : Nat → V3 ℝ) (n : Nat) (box : Box3 ℝ) (hb : PosBox box)
    (hin : ∀ i < n, InBox box (pos i)) : ∀ m, m + 1 ≤ n →
    Boxed pos (buildTree pos box m) box ∧ ∀ i ∈ leavesOf (buildTree pos box m), i ≤ m := by
  intro m
  induction m with
  | zero => exact fun hm => ⟨hin 0 (by omega), fun i hi => by simp [buildTree, leavesOf] at hi; omega⟩
  | succ m ih =>
    intro hm
    obtain ⟨hbx, hl⟩ := ih (by omega)
    rw [buildTree_succ]
    refine ⟨addPos_boxed pos (m + 1) 64 _ box hb hbx (hin _ (by omega)), fun i hi => ?_⟩
    rcases (addPos_leaves pos (m + 1) 64 _ box i).1 hi with h | h
    · exact (hl i h).trans (Nat.le_succ m)
    · exact h.le

theorem foldl_isNode (pos : Nat → V3 ℝ) (box : Box3 ℝ) : ∀ (l : List Nat) (t : OT ℝ),
    (l ≠ [] ∨ ∃ b v kids, t = OT.node b v kids) →
    ∃ b v kids, l.foldl (fun t i => addPos pos (i + 1) 64 t box) t = OT.node b v kids := by
  intro l
  induction l with
  | nil => intro t h; rcases h with h | h; exact absurd rfl h; exact h
  | cons j js ih =>
    intro t _
    simp only [List.foldl_cons]
    exact ih _ (Or.inr ⟨_, _, _, addPos_succ pos (j + 1) 63 t box⟩)

theorem setVar_isNode (h : Nat → ℝ) (t : OT ℝ) (ht : ∃ b v kids, t = OT.node b v kids) :
    ∃ b v kids, (setVar h t).1 = OT.node b v kids := by
  obtain ⟨b, v, kids, rfl⟩ := ht
  exact ⟨_, _, _, rfl⟩

/-- the constructed tree: covering hypotheses hold and only indices below `n` are stored (for
every `n`, incl. the one-position tree whose root is a leaf and the empty tree) -/
theorem build_spec (pos : Nat → V3 ℝ) (n : Nat) (box : Box3 ℝ) (h : Nat → ℝ) (c : V3 ℝ) (hb : PosBox box)
    (hin : ∀ i < n, InBox box (pos i)) :
    Covered (fun i => dist (pos i) c) (fun b => boxDist b c) h (build pos n box h) ∧
    (∀ i ∈ leavesOf (build pos n box h), i < n) := by
  unfold build
  by_cases hn : n = 0
  · rw [if_pos hn]
    exact ⟨Covered.empty, fun i hi => by simp [leavesOf] at hi⟩
  rw [if_neg hn]
  obtain ⟨hbx, hl⟩ := buildTree_boxed pos n box hb hin (n - 1) (by omega)
  refine ⟨setVar_covered pos h c _ box hb hbx, fun i hi => ?_⟩
  simp only [setVar_leaves] at hi
  have := hl i hi
  omega

/-- the searches start below the root (at the root itself if it is a leaf): same statement for
`searchRoot` -/
theorem searchRoot_eq_filter (pd : Nat → ℝ) (bd : Box3 ℝ → ℝ) (h : Nat → ℝ) (radius : Option ℝ)
    (t : OT ℝ) (hc : Covered pd bd h t) :
    searchRoot pd bd h radius t = (leavesOf t).filter (fun i => decide (pd i ≤ limOf h radius i)) := by
  cases hc with
  | empty => exact search_eq_filter pd bd h radius _ Covered.empty
  | leaf i => exact search_eq_filter pd bd h radius _ (Covered.leaf i)
  | node b v kids _ _ hk =>
    simp only [searchRoot, leavesOf, ← List.flatMap_eq_foldl, List.filter_flatMap,
      fun i => search_eq_filter pd bd h radius _ (hk i)]

end CMacVerif.Oct
