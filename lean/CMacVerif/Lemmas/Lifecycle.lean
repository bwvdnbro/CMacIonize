import CMacVerif.Model.Lifecycle
/-!
Soundness of the per-field analysis `aexecF` with respect to the concrete semantics `exec`, for every
option vector that agrees with what is `known` (`Rel`, `sound`); the invariant of the event log that
makes "no double free, no leak" mean "every allocation is freed exactly once" (`LogInv`, for every
program, no check needed).
-/
namespace CMacVerif.Lifecycle

/-- the option vector agrees with the assumptions -/
def Consistent (known : Known) (env : Env) : Prop := ∀ o b, known o = some b → env o = b

theorem consistent_none (env : Env) : Consistent Known.none env := by
  intro o b h; simp [Known.none] at h

/-- what the abstract value `a` of field `f` promises about the concrete state `s` -/
structure Rel (f : Nat) (s : St) (a : AV) : Prop where
  kind : (s.ptr f).kindIn a = true
  bad : a.bad = false → ∀ e ∈ s.log, e.field = f → e.isBad = false
  leak : a.leak = false → ∀ e ∈ s.log, e.field = f → e.isLost = false
  nul : a.nul = false → ∀ e ∈ s.log, e.field = f → e.isNullUse = false

theorem Rel.not_dead {f s a} (h : Rel f s a) : a.dead = false := by
  have hk := h.kind
  cases hp : s.ptr f <;> simp [hp, PState.kindIn] at hk <;> simp [AV.dead, hk]

theorem Rel.append {f : Nat} {s s' : St} {a a' : AV} (h : Rel f s a) (l : List Event)
    (hlog : s'.log = s.log ++ l) (hk : (s'.ptr f).kindIn a' = true)
    (hb : a'.bad = false → a.bad = false ∧ ∀ e ∈ l, e.field = f → e.isBad = false)
    (hlk : a'.leak = false → a.leak = false ∧ ∀ e ∈ l, e.field = f → e.isLost = false)
    (hn : a'.nul = false → a.nul = false ∧ ∀ e ∈ l, e.field = f → e.isNullUse = false) :
    Rel f s' a' := by
  refine ⟨hk, fun h' e he hf => ?_, fun h' e he hf => ?_, fun h' e he hf => ?_⟩ <;>
    rw [hlog] at he <;> rcases List.mem_append.mp he with h1 | h1
  · exact h.bad (hb h').1 e h1 hf
  · exact (hb h').2 e h1 hf
  · exact h.leak (hlk h').1 e h1 hf
  · exact (hlk h').2 e h1 hf
  · exact h.nul (hn h').1 e h1 hf
  · exact (hn h').2 e h1 hf

theorem Rel.weaken {f : Nat} {s s' : St} {a a' : AV} (h : Rel f s a) (hlog : s'.log = s.log)
    (hk : (s'.ptr f).kindIn a' = true) (hb : a'.bad = false → a.bad = false)
    (hlk : a'.leak = false → a.leak = false) (hn : a'.nul = false → a.nul = false) : Rel f s' a' :=
  h.append [] (by rw [hlog, List.append_nil]) hk (fun h' => ⟨hb h', fun _ he => nomatch he⟩)
    (fun h' => ⟨hlk h', fun _ he => nomatch he⟩) (fun h' => ⟨hn h', fun _ he => nomatch he⟩)

theorem Rel.snoc {f : Nat} {s s' : St} {a a' : AV} (h : Rel f s a) (e : Event)
    (hlog : s'.log = s.log ++ [e]) (hk : (s'.ptr f).kindIn a' = true)
    (hb : a'.bad = false → a.bad = false ∧ e.isBad = false)
    (hlk : a'.leak = false → a.leak = false ∧ e.isLost = false)
    (hn : a'.nul = false → a.nul = false ∧ e.isNullUse = false) : Rel f s' a' :=
  h.append [e] hlog hk (fun h' => ⟨(hb h').1, List.forall_mem_singleton.mpr fun _ => (hb h').2⟩)
    (fun h' => ⟨(hlk h').1, List.forall_mem_singleton.mpr fun _ => (hlk h').2⟩)
    (fun h' => ⟨(hn h').1, List.forall_mem_singleton.mpr fun _ => (hn h').2⟩)

theorem Rel.other {f : Nat} {s s' : St} {a : AV} (h : Rel f s a) (l : List Event)
    (hlog : s'.log = s.log ++ l) (hp : s'.ptr f = s.ptr f) (hl : ∀ e ∈ l, e.field ≠ f) : Rel f s' a :=
  h.append l hlog (by rw [hp]; exact h.kind) (fun h' => ⟨h', fun e he hf => absurd hf (hl e he)⟩)
    (fun h' => ⟨h', fun e he hf => absurd hf (hl e he)⟩) (fun h' => ⟨h', fun e he hf => absurd hf (hl e he)⟩)

theorem Rel.logOther {f : Nat} {s : St} {a : AV} (h : Rel f s a) (e : Event) (he : e.field ≠ f) :
    Rel f (s.logE e) a :=
  h.other [e] rfl rfl (List.forall_mem_singleton.mpr he)

theorem or_or_false_left {a b c : Bool} (h : (a || b || c) = false) : a = false :=
  (Bool.or_eq_false_iff.mp (Bool.or_eq_false_iff.mp h).1).1

theorem Rel.join_left {f s a} (b : AV) (h : Rel f s a) : Rel f s (a.join b) := by
  refine h.weaken rfl ?_ (fun hb => (Bool.or_eq_false_iff.mp hb).1) (fun hb => (Bool.or_eq_false_iff.mp hb).1)
    (fun hb => (Bool.or_eq_false_iff.mp hb).1)
  have hk := h.kind
  cases hp : s.ptr f <;> simp only [hp, PState.kindIn, AV.join, Bool.or_eq_true] at hk ⊢ <;> exact Or.inl hk

theorem Rel.join_right {f s b} (a : AV) (h : Rel f s b) : Rel f s (a.join b) := by
  have e : a.join b = b.join a := by simp only [AV.join, Bool.or_comm]
  exact e ▸ h.join_left a

theorem overwrite_ptr (s : St) (g : Nat) : (s.overwrite g).ptr = s.ptr := by
  unfold St.overwrite; split <;> rfl
theorem overwrite_next (s : St) (g : Nat) : (s.overwrite g).next = s.next := by
  unfold St.overwrite; split <;> rfl

theorem Rel.overwrite {f s a} (h : Rel f s a) :
    Rel f (s.overwrite f) { a with leak := a.leak || a.o } := by
  have hk := h.kind
  unfold St.overwrite
  split
  · rename_i k hp
    rw [hp] at hk
    exact h.snoc (.lost f k) rfl (by rw [St.logE, hp]; exact hk) (fun hb => ⟨hb, rfl⟩)
      (fun hb => absurd ((Bool.or_eq_false_iff.mp hb).2 ▸ hk : false = true) Bool.false_ne_true)
      (fun hb => ⟨hb, rfl⟩)
  · exact h.weaken rfl hk id (fun hb => (Bool.or_eq_false_iff.mp hb).1) id

theorem Rel.overwrite_other {f g s a} (h : Rel f s a) (hg : g ≠ f) : Rel f (s.overwrite g) a := by
  unfold St.overwrite
  split
  · exact h.logOther _ hg
  · exact h

theorem sound_setNull {f g : Nat} {s : St} {a : AV} {known : Known} {env : Env} (h : Rel f s a) :
    Rel f (exec env (.setNull g) s) (aexecF known f (.setNull g) a) := by
  by_cases hg : g = f
  · subst hg
    simp only [exec, aexecF, if_true, h.not_dead, Bool.false_eq_true, if_false]
    exact h.overwrite.weaken rfl (by simp [St.setPtr, PState.kindIn]) id id id
  · simp only [exec, aexecF, hg, if_false]
    exact (h.overwrite_other hg).weaken rfl (by simpa [St.setPtr, Ne.symm hg] using (h.overwrite_other hg).kind)
      id id id

theorem sound_setNew {f g : Nat} {s : St} {a : AV} {known : Known} {env : Env} (h : Rel f s a) :
    Rel f (exec env (.setNew g) s) (aexecF known f (.setNew g) a) := by
  by_cases hg : g = f
  · subst hg
    simp only [exec, aexecF, if_true, h.not_dead, Bool.false_eq_true, if_false]
    exact h.overwrite.snoc (.alloc g (s.overwrite g).next) rfl (by simp [St.setPtr, PState.kindIn])
      (fun hb => ⟨hb, rfl⟩) (fun hb => ⟨hb, rfl⟩) (fun hb => ⟨hb, rfl⟩)
  · simp only [exec, aexecF, hg, if_false]
    exact (h.overwrite_other hg).other [.alloc g (s.overwrite g).next] rfl
      (by simp [St.setPtr, Ne.symm hg]) (List.forall_mem_singleton.mpr hg)

theorem sound_del {f g : Nat} {s : St} {a : AV} {known : Known} {env : Env} (h : Rel f s a) :
    Rel f (exec env (.del g) s) (aexecF known f (.del g) a) := by
  by_cases hg : g = f
  · subst hg
    have hk := h.kind
    simp only [exec, aexecF, if_true, h.not_dead, Bool.false_eq_true, if_false]
    -- uninit and freed: `a.u`, `a.fr` raise `bad`, which covers the event; null and owned: harmless
    cases hp : s.ptr g <;> simp only [hp, PState.kindIn] at hk ⊢
    · exact h.snoc (.wild g) rfl (by simp [St.logE, hp, PState.kindIn, hk]) (by simp [hk])
        (fun hb => ⟨hb, rfl⟩) (fun hb => ⟨hb, rfl⟩)
    · exact h.snoc (.delNull g) rfl (by simp [St.logE, hp, PState.kindIn, hk])
        (fun hb => ⟨or_or_false_left hb, rfl⟩) (fun hb => ⟨hb, rfl⟩) (fun hb => ⟨hb, rfl⟩)
    · rename_i k
      exact h.snoc (.free g k) rfl (by simp [St.logE, St.setPtr, PState.kindIn, hk])
        (fun hb => ⟨or_or_false_left hb, rfl⟩) (fun hb => ⟨hb, rfl⟩) (fun hb => ⟨hb, rfl⟩)
    · rename_i k
      exact h.snoc (.dfree g k) rfl (by simp [St.logE, hp, PState.kindIn, hk]) (by simp [hk])
        (fun hb => ⟨hb, rfl⟩) (fun hb => ⟨hb, rfl⟩)
  · simp only [exec, aexecF, hg, if_false]
    cases hp : s.ptr g <;> simp only
    · exact h.logOther (.wild g) hg
    · exact h.logOther (.delNull g) hg
    · rename_i k
      exact h.other [.free g k] rfl (by simp [St.logE, St.setPtr, Ne.symm hg]) (List.forall_mem_singleton.mpr hg)
    · rename_i k
      exact h.logOther (.dfree g k) hg

theorem sound_use {f g : Nat} {s : St} {a : AV} {known : Known} {env : Env} (h : Rel f s a) :
    Rel f (exec env (.use g) s) (aexecF known f (.use g) a) := by
  by_cases hg : g = f
  · subst hg
    have hk := h.kind
    simp only [exec, aexecF, if_true, h.not_dead, Bool.false_eq_true, if_false]
    cases hp : s.ptr g <;> simp only [hp, PState.kindIn] at hk ⊢
    · exact h.snoc (.wild g) rfl (by simp [St.logE, hp, PState.kindIn, hk]) (by simp [hk])
        (fun hb => ⟨hb, rfl⟩) (fun hb => ⟨(Bool.or_eq_false_iff.mp hb).1, rfl⟩)
    · exact h.snoc (.nullUse g) rfl (by simp [St.logE, hp, PState.kindIn, hk])
        (fun hb => ⟨or_or_false_left hb, rfl⟩) (fun hb => ⟨hb, rfl⟩) (by simp [hk])
    · exact h.weaken rfl (by simp [hp, PState.kindIn, hk])
        or_or_false_left id (fun hb => (Bool.or_eq_false_iff.mp hb).1)
    · rename_i k
      exact h.snoc (.danglingUse g k) rfl (by simp [St.logE, hp, PState.kindIn, hk]) (by simp [hk])
        (fun hb => ⟨hb, rfl⟩) (fun hb => ⟨(Bool.or_eq_false_iff.mp hb).1, rfl⟩)
  · simp only [exec, aexecF, hg, if_false]
    cases hp : s.ptr g <;> simp only
    · exact h.logOther (.wild g) hg
    · exact h.logOther (.nullUse g) hg
    · exact h
    · rename_i k
      exact h.logOther (.danglingUse g k) hg

theorem evalCond_isNull_eq (env : Env) (f : Nat) (s : St) :
    evalCond env (.isNull f) s = ((evalCond env (.nonNull f) s).1, !(evalCond env (.nonNull f) s).2) := by
  simp only [evalCond]
  cases s.ptr f <;> rfl

theorem evalCond_other (env : Env) (f g : Nat) (hg : g ≠ f) (s : St) (a : AV) (h : Rel f s a) :
    Rel f (evalCond env (.nonNull g) s).1 a ∧ Rel f (evalCond env (.isNull g) s).1 a := by
  have key : Rel f (evalCond env (.nonNull g) s).1 a := by
    simp only [evalCond]
    split
    · exact h.logOther (.wild g) hg
    · exact h
    · exact h
  exact ⟨key, by rw [evalCond_isNull_eq]; exact key⟩

/-- a branch after the test of the field itself: reading an uninitialised pointer is `bad` -/
theorem Rel.tested {f : Nat} {s : St} {a : AV} (h : Rel f s a) (a' : AV)
    (hk : (s.ptr f).kindIn a' = true) (hb : a'.bad = (a.bad || a.u)) (hl : a'.leak = a.leak)
    (hn : a'.nul = a.nul) : Rel f s a' :=
  h.weaken rfl hk (fun h' => (Bool.or_eq_false_iff.mp (hb ▸ h')).1) (fun h' => hl ▸ h') (fun h' => hn ▸ h')

theorem evalCond_nonNull (env : Env) (f : Nat) (s : St) (a : AV) (h : Rel f s a) :
    let r := evalCond env (.nonNull f) s
    (r.2 = true → Rel f r.1 a.tested.whenNonNull) ∧ (r.2 = false → Rel f r.1 a.tested.whenNull) := by
  have hk := h.kind
  simp only [evalCond]
  cases hp : s.ptr f <;> simp only [hp, PState.kindIn] at hk ⊢
  · refine ⟨fun _ => ?_, fun hh => absurd hh (by decide)⟩
    exact h.snoc (.wild f) rfl (by simp [St.logE, hp, PState.kindIn, AV.tested, AV.whenNonNull, hk])
      (by simp [AV.tested, AV.whenNonNull, hk]) (fun hb => ⟨hb, rfl⟩) (fun hb => ⟨hb, rfl⟩)
  · exact ⟨fun hh => absurd hh (by decide),
      fun _ => h.tested _ (by simp [hp, PState.kindIn, AV.tested, AV.whenNull, hk]) rfl rfl rfl⟩
  · exact ⟨fun _ => h.tested _ (by simp [hp, PState.kindIn, AV.tested, AV.whenNonNull, hk]) rfl rfl rfl,
      fun hh => absurd hh (by decide)⟩
  · exact ⟨fun _ => h.tested _ (by simp [hp, PState.kindIn, AV.tested, AV.whenNonNull, hk]) rfl rfl rfl,
      fun hh => absurd hh (by decide)⟩

theorem evalCond_isNull (env : Env) (f : Nat) (s : St) (a : AV) (h : Rel f s a) :
    let r := evalCond env (.isNull f) s
    (r.2 = true → Rel f r.1 a.tested.whenNull) ∧ (r.2 = false → Rel f r.1 a.tested.whenNonNull) := by
  obtain ⟨h1, h2⟩ := evalCond_nonNull env f s a h
  rw [evalCond_isNull_eq]
  exact ⟨fun hh => h2 ((Bool.not_eq_true' _).mp hh), fun hh => h1 ((Bool.not_eq_false' _).mp hh)⟩

theorem sound_branch {f : Nat} {known : Known} {env : Env} {t e : Stmt}
    (iht : ∀ s a, Rel f s a → Rel f (exec env t s) (aexecF known f t a))
    (ihe : ∀ s a, Rel f s a → Rel f (exec env e s) (aexecF known f e a))
    (s : St) (b : Bool) (a₁ a₂ : AV) (ht : b = true → Rel f s a₁) (he : b = false → Rel f s a₂) :
    Rel f (if b = true then exec env t s else exec env e s)
      ((aexecF known f t a₁).join (aexecF known f e a₂)) := by
  cases b
  · exact (ihe _ _ (he rfl)).join_right _
  · exact (iht _ _ (ht rfl)).join_left _

/-- **soundness of the analysis**: whatever the options (compatible with `known`), the abstract
value of field `f` after the statement describes the concrete state after the statement -/
theorem sound (known : Known) (env : Env) (hk : Consistent known env) (f : Nat) :
    ∀ (st : Stmt) (s : St) (a : AV), Rel f s a → Rel f (exec env st s) (aexecF known f st a) := by
  intro st
  induction st with
  | skip => intro s a h; exact h
  | setNull g => intro s a h; exact sound_setNull h
  | setNew g => intro s a h; exact sound_setNew h
  | del g => intro s a h; exact sound_del h
  | use g => intro s a h; exact sound_use h
  | seq x y ihx ihy => intro s a h; exact ihy _ _ (ihx _ _ h)
  | ite c t e iht ihe =>
    intro s a h
    cases c with
    | opt o =>
      simp only [exec, aexecF, evalCond]
      cases hko : known o with
      | none => exact sound_branch iht ihe s (env o) a a (fun _ => h) (fun _ => h)
      | some b =>
        have := hk o b hko
        cases b
        · simp only [this, Bool.false_eq_true, if_false]; exact ihe _ _ h
        · simp only [this, if_true]; exact iht _ _ h
    | nonNull g =>
      by_cases hg : g = f
      · subst hg
        obtain ⟨h1, h2⟩ := evalCond_nonNull env g s a h
        simp only [exec, aexecF, if_true, h.not_dead, Bool.false_eq_true, if_false]
        exact sound_branch iht ihe _ _ _ _ h1 h2
      · have hc := (evalCond_other env f g hg s a h).1
        simp only [exec, aexecF, hg, if_false]
        exact sound_branch iht ihe _ _ a a (fun _ => hc) (fun _ => hc)
    | isNull g =>
      by_cases hg : g = f
      · subst hg
        obtain ⟨h1, h2⟩ := evalCond_isNull env g s a h
        simp only [exec, aexecF, if_true, h.not_dead, Bool.false_eq_true, if_false]
        exact sound_branch iht ihe _ _ _ _ h1 h2
      · have hc := (evalCond_other env f g hg s a h).2
        simp only [exec, aexecF, hg, if_false]
        exact sound_branch iht ihe _ _ a a (fun _ => hc) (fun _ => hc)

theorem rel_init (f : Nat) : Rel f St.init AV.init := by
  refine ⟨rfl, ?_, ?_, ?_⟩ <;> intro _ e he <;> simp [St.init] at he

theorem aexecF_unmentioned (known : Known) (f : Nat) :
    ∀ (st : Stmt) (a : AV), st.bound ≤ f → aexecF known f st a = a := by
  intro st
  induction st with
  | skip => intro a _; rfl
  | setNull g | setNew g | del g | use g =>
    intro a h
    have hg : g ≠ f := Nat.ne_of_lt h
    simp only [aexecF, if_neg hg]
  | seq x y ihx ihy =>
    intro a h
    rw [aexecF, ihx a (Nat.le_trans (Nat.le_max_left _ _) h), ihy a (Nat.le_trans (Nat.le_max_right _ _) h)]
  | ite c t e iht ihe =>
    intro a h
    have join_self : a.join a = a := by cases a; simp [AV.join]
    cases c with
    | opt o =>
      have ht : t.bound ≤ f := Nat.le_trans (Nat.le_max_left _ _) h
      have he : e.bound ≤ f := Nat.le_trans (Nat.le_max_right _ _) h
      simp only [aexecF, iht a ht, ihe a he]
      cases known o with
      | none => exact join_self
      | some b => cases b <;> rfl
    | nonNull g | isNull g =>
      have hg : g ≠ f := Nat.ne_of_lt (Nat.le_trans (Nat.le_max_left _ _) h)
      have hte := Nat.le_trans (Nat.le_max_right _ _) h
      have ht : t.bound ≤ f := Nat.le_trans (Nat.le_max_left _ _) hte
      have he : e.bound ≤ f := Nat.le_trans (Nat.le_max_right _ _) hte
      simp only [aexecF, if_neg hg, iht a ht, ihe a he]
      exact join_self

/-! ### what the log says about allocations and frees (for every program, no hypothesis)

`free f k` is only logged for a live allocation, `dfree f k` for a repeated delete.  The
invariant below turns "no `dfree`, no `lost`, nothing owned at the end" into "every allocation is
freed exactly once". -/

structure LogInv (s : St) : Prop where
  fresh : ∀ f k, Event.alloc f k ∈ s.log → k < s.next
  freeAlloc : ∀ f k, Event.free f k ∈ s.log → Event.alloc f k ∈ s.log
  owned : ∀ f k, s.ptr f = .owned k → Event.alloc f k ∈ s.log ∧ s.log.count (Event.free f k) = 0
  once : ∀ f k, s.log.count (Event.free f k) ≤ 1
  fate : ∀ f k, Event.alloc f k ∈ s.log →
    s.ptr f = .owned k ∨ s.log.count (Event.free f k) = 1 ∨ Event.lost f k ∈ s.log

theorem logInv_init : LogInv St.init := by
  refine ⟨?_, ?_, ?_, ?_, ?_⟩ <;> intros <;> simp_all [St.init]

theorem count_snoc_ne {l : List Event} {e x : Event} (h : e ≠ x) : (l ++ [e]).count x = l.count x := by
  rw [List.count_append, List.count_singleton, if_neg (by simpa using h), Nat.add_zero]

theorem LogInv.logNeutral {s : St} (h : LogInv s) (e : Event)
    (ha : ∀ f k, e ≠ .alloc f k) (hf : ∀ f k, e ≠ .free f k) :
    LogInv (s.logE e) := by
  have hc : ∀ f k, (s.log ++ [e]).count (Event.free f k) = s.log.count (Event.free f k) :=
    fun f k => count_snoc_ne (hf f k)
  refine ⟨fun f k hm => ?_, fun f k hm => ?_, fun f k hp => ?_, fun f k => ?_, fun f k hm => ?_⟩
  · rcases List.mem_append.mp hm with hm | hm
    · exact h.fresh f k hm
    · exact absurd (List.mem_singleton.mp hm).symm (ha f k)
  · rcases List.mem_append.mp hm with hm | hm
    · exact List.mem_append_left _ (h.freeAlloc f k hm)
    · exact absurd (List.mem_singleton.mp hm).symm (hf f k)
  · exact ⟨List.mem_append_left _ (h.owned f k hp).1, (hc f k).trans (h.owned f k hp).2⟩
  · exact (hc f k) ▸ h.once f k
  · rcases List.mem_append.mp hm with hm | hm
    · exact (h.fate f k hm).imp id (Or.imp (hc f k).trans (List.mem_append_left _))
    · exact absurd (List.mem_singleton.mp hm).symm (ha f k)

/-- the state between the `lost` bookkeeping and the assignment of the new pointer value: the
invariant holds, and every allocation of `g` is already accounted for, which is what lets `setNull`
and `setNew` forget the old value of `g` -/
theorem LogInv.overwrite {s : St} (h : LogInv s) (g : Nat) :
    LogInv (s.overwrite g) ∧
    (∀ k, Event.alloc g k ∈ (s.overwrite g).log →
      (s.overwrite g).log.count (Event.free g k) = 1 ∨ Event.lost g k ∈ (s.overwrite g).log) := by
  unfold St.overwrite
  split
  · rename_i k hk
    have hi := h.logNeutral (Event.lost g k) nofun nofun
    refine ⟨hi, fun k' hm => ?_⟩
    rcases hi.fate g k' hm with h1 | h1 | h1
    · cases hk.symm.trans h1
      exact Or.inr (List.mem_append_right _ (List.mem_singleton.mpr rfl))
    · exact Or.inl h1
    · exact Or.inr h1
  · rename_i hne
    exact ⟨h, fun k hm => (h.fate g k hm).resolve_left (hne k)⟩

theorem logInv_setNull {s : St} (h : LogInv s) (g : Nat) (env : Env) : LogInv (exec env (.setNull g) s) := by
  obtain ⟨hi, hg⟩ := h.overwrite g
  refine ⟨hi.fresh, hi.freeAlloc, fun f k hp => ?_, hi.once, fun f k hm => ?_⟩
  · dsimp only [exec, St.setPtr] at hp
    split at hp
    · cases hp
    · exact hi.owned f k hp
  · dsimp only [exec, St.setPtr]
    by_cases hf : f = g
    · cases hf; exact Or.inr (hg k hm)
    · rw [if_neg hf]; exact hi.fate f k hm

theorem logInv_setNew {s : St} (h : LogInv s) (g : Nat) (env : Env) : LogInv (exec env (.setNew g) s) := by
  obtain ⟨hi, hg⟩ := h.overwrite g
  simp only [exec]
  have hc : ∀ f k, ((s.overwrite g).log ++ [Event.alloc g (s.overwrite g).next]).count (Event.free f k)
      = (s.overwrite g).log.count (Event.free f k) :=
    fun f k => count_snoc_ne nofun
  have hnofree : ∀ f, (s.overwrite g).log.count (Event.free f (s.overwrite g).next) = 0 := fun f =>
    List.count_eq_zero.mpr fun hm => Nat.lt_irrefl _ (hi.fresh f _ (hi.freeAlloc f _ hm))
  refine ⟨fun f k hm => ?_, fun f k hm => ?_, fun f k hp => ?_, fun f k => ?_, fun f k hm => ?_⟩
  · rcases List.mem_append.mp hm with hm | hm
    · exact Nat.lt_succ_of_lt (hi.fresh f k hm)
    · cases List.mem_singleton.mp hm; exact Nat.lt_succ_self _
  · rcases List.mem_append.mp hm with hm | hm
    · exact List.mem_append_left _ (hi.freeAlloc f k hm)
    · cases List.mem_singleton.mp hm
  · dsimp only [St.setPtr] at hp ⊢
    rw [hc]
    split at hp
    · rename_i hf
      cases hp; cases hf
      exact ⟨List.mem_append_right _ (List.mem_singleton.mpr rfl), hnofree _⟩
    · exact ⟨List.mem_append_left _ (hi.owned f k hp).1, (hi.owned f k hp).2⟩
  · dsimp only; rw [hc]; exact hi.once f k
  · dsimp only [St.setPtr]
    rw [hc]
    rcases List.mem_append.mp hm with hm | hm
    · by_cases hf : f = g
      · cases hf
        exact Or.inr ((hg k hm).imp id (List.mem_append_left _))
      · rw [if_neg hf]
        exact (hi.fate f k hm).imp id (Or.imp id (List.mem_append_left _))
    · cases List.mem_singleton.mp hm
      rw [if_pos rfl]; exact Or.inl rfl

theorem logInv_del {s : St} (h : LogInv s) (g : Nat) (env : Env) : LogInv (exec env (.del g) s) := by
  simp only [exec]
  cases hp : s.ptr g with
  | uninit => exact h.logNeutral _ nofun nofun
  | null => exact h.logNeutral _ nofun nofun
  | freed k => exact h.logNeutral _ nofun nofun
  | owned k =>
    have hown := h.owned g k hp
    have hc : ∀ f k', (f, k') ≠ (g, k) →
        (s.log ++ [Event.free g k]).count (Event.free f k') = s.log.count (Event.free f k') :=
      fun f k' hne => count_snoc_ne fun e => hne (by cases e; rfl)
    have hself : (s.log ++ [Event.free g k]).count (Event.free g k) = 1 := by
      rw [List.count_append, hown.2, List.count_singleton_self]
    refine ⟨fun f k' hm => ?_, fun f k' hm => ?_, fun f k' hp' => ?_, fun f k' => ?_, fun f k' hm => ?_⟩
    · rcases List.mem_append.mp hm with hm | hm
      · exact h.fresh f k' hm
      · cases List.mem_singleton.mp hm
    · rcases List.mem_append.mp hm with hm | hm
      · exact List.mem_append_left _ (h.freeAlloc f k' hm)
      · cases List.mem_singleton.mp hm
        exact List.mem_append_left _ hown.1
    · dsimp only [St.logE, St.setPtr] at hp' ⊢
      split at hp'
      · cases hp'
      · rename_i hf
        rw [hc f k' fun e => hf (congrArg Prod.fst e)]
        exact ⟨List.mem_append_left _ (h.owned f k' hp').1, (h.owned f k' hp').2⟩
    · dsimp only [St.logE, St.setPtr]
      by_cases hfk : (f, k') = (g, k)
      · cases hfk; exact Nat.le_of_eq hself
      · rw [hc f k' hfk]; exact h.once f k'
    · dsimp only [St.logE, St.setPtr]
      rcases List.mem_append.mp hm with hm | hm
      · rcases h.fate f k' hm with h1 | h1 | h1
        · by_cases hf : f = g
          · cases hf; cases hp.symm.trans h1
            exact Or.inr (Or.inl hself)
          · rw [if_neg hf]; exact Or.inl h1
        · -- freed once already, whereas `(g, k)` was not freed yet
          have hne : (f, k') ≠ (g, k) := fun e => by cases e; rw [hown.2] at h1; cases h1
          rw [hc f k' hne]
          exact Or.inr (Or.inl h1)
        · exact Or.inr (Or.inr (List.mem_append_left _ h1))
      · cases List.mem_singleton.mp hm

theorem logInv_use {s : St} (h : LogInv s) (g : Nat) (env : Env) : LogInv (exec env (.use g) s) := by
  simp only [exec]
  cases hp : s.ptr g with
  | uninit => exact h.logNeutral _ nofun nofun
  | null => exact h.logNeutral _ nofun nofun
  | freed k => exact h.logNeutral _ nofun nofun
  | owned k => exact h

theorem logInv_evalCond {s : St} (h : LogInv s) (c : Cond) (env : Env) : LogInv (evalCond env c s).1 := by
  cases c with
  | opt o => exact h
  | nonNull g | isNull g =>
    simp only [evalCond]
    split
    · exact h.logNeutral _ nofun nofun
    · exact h
    · exact h

theorem logInv_exec (env : Env) : ∀ (st : Stmt) (s : St), LogInv s → LogInv (exec env st s) := by
  intro st
  induction st with
  | skip => intro s h; exact h
  | setNull g => intro s h; exact logInv_setNull h g env
  | setNew g => intro s h; exact logInv_setNew h g env
  | del g => intro s h; exact logInv_del h g env
  | use g => intro s h; exact logInv_use h g env
  | seq x y ihx ihy => intro s h; exact ihy _ (ihx _ h)
  | ite c t e iht ihe =>
    intro s h
    simp only [exec]
    split
    · exact iht _ (logInv_evalCond h c env)
    · exact ihe _ (logInv_evalCond h c env)

/-- every name that is not in the list gets the number `l.length`, whence `hx` -/
theorem idxOf_inj {l : List String} {x y : String} (hx : x ∈ l) (h : idxOf l x = idxOf l y) : x = y := by
  induction l with
  | nil => cases hx
  | cons z r ih =>
    rw [idxOf, idxOf] at h
    split at h <;> split at h
    · next h1 h2 => exact h1.symm.trans h2
    · cases h
    · cases h
    · next h1 _ => exact ih ((List.mem_cons.mp hx).resolve_left (Ne.symm h1)) (Nat.succ.inj h)

end CMacVerif.Lifecycle
