import Mathlib.Algebra.Order.Field.Basic
import Mathlib.Algebra.Order.Ring.Cast
import Mathlib.Tactic.FieldSimp
import Mathlib.Tactic.Ring
/-!
# One axis of a ray through axis-aligned cells, over any linear ordered field

The point `p + t * d` on one axis, an interval `[lo, hi]` of it, cells `[i * h, (i + 1) * h]` numbered
by integers, and the fraction of the last chord after which a packet is absorbed.  No model function
occurs: each ray march (one subgrid, Cartesian grid, AMR grid) puts in its own wall distance.
Two index facts sit here because every user imports this file: `tdiv_pos_iff` (the upper range test of
`get_output_direction`) and `forall_lt_three` (for the modules that number the axes 0, 1, 2; C02 has `Ax`).
-/
-- the identities of the last chord hold in any field and use no order
set_option linter.unusedSectionVars false

namespace CMacVerif.Axis
variable {K : Type} [Field K] [LinearOrder K] [IsStrictOrderedRing K]

theorem between {lo hi p d s t u : K} (hst : s ≤ t) (htu : t ≤ u)
    (hs : lo ≤ p + s * d ∧ p + s * d ≤ hi) (hu : lo ≤ p + u * d ∧ p + u * d ≤ hi) :
    lo ≤ p + t * d ∧ p + t * d ≤ hi := by
  have mono := fun {a b : K} (h : a ≤ b) => (add_le_add_iff_left p).mpr h
  rcases le_total 0 d with hd | hd
  · exact ⟨hs.1.trans (mono (mul_le_mul_of_nonneg_right hst hd)), (mono (mul_le_mul_of_nonneg_right htu hd)).trans hu.2⟩
  · exact ⟨hu.1.trans (mono (mul_le_mul_of_nonpos_right htu hd)), (mono (mul_le_mul_of_nonpos_right hst hd)).trans hs.2⟩

theorem wallParam_up {hi p d : K} (hd : 0 < d) (hp : p ≤ hi) :
    0 ≤ (hi - p) / d ∧ p + (hi - p) / d * d = hi :=
  ⟨div_nonneg (sub_nonneg.mpr hp) hd.le, by rw [div_mul_cancel₀ _ hd.ne', add_sub_cancel]⟩

theorem wallParam_down {lo p d : K} (hd : d < 0) (hp : lo ≤ p) :
    0 ≤ (lo - p) / d ∧ p + (lo - p) / d * d = lo :=
  ⟨div_nonneg_of_nonpos (sub_nonpos.mpr hp) hd.le, by rw [div_mul_cancel₀ _ hd.ne, add_sub_cancel]⟩

/-- Travel along one axis from inside `[lo, hi]`, `w` the parameter at which the wall ahead is reached:
for `0 ≤ t ≤ w` the point stays inside. -/
theorem travel_mem {lo hi p d w t : K} (h1 : lo ≤ p) (h2 : p ≤ hi)
    (hup : 0 < d → p + w * d = hi) (hdown : d < 0 → p + w * d = lo)
    (h0 : 0 ≤ t) (hle : d ≠ 0 → t ≤ w) : lo ≤ p + t * d ∧ p + t * d ≤ hi := by
  have hp : lo ≤ p + 0 * d ∧ p + 0 * d ≤ hi := by rw [zero_mul, add_zero]; exact ⟨h1, h2⟩
  rcases lt_trichotomy d 0 with hd | rfl | hd
  · exact between h0 (hle hd.ne) hp (by rw [hdown hd]; exact ⟨le_rfl, h1.trans h2⟩)
  · rw [mul_zero, add_zero]; exact ⟨h1, h2⟩
  · exact between h0 (hle hd.ne') hp (by rw [hup hd]; exact ⟨h1.trans h2, le_rfl⟩)

theorem travel_lt {hi p d w t : K} (hd : 0 < d) (hw : p + w * d = hi) (ht : t < w) : p + t * d < hi :=
  ((add_lt_add_iff_left p).mpr (mul_lt_mul_of_pos_right ht hd)).trans_eq hw

theorem travel_gt {lo p d w t : K} (hd : d < 0) (hw : p + w * d = lo) (ht : t < w) : lo < p + t * d :=
  hw.symm.trans_lt ((add_lt_add_iff_left p).mpr (mul_lt_mul_of_neg_right ht hd))

/-! ### the last chord: absorption inside a cell

The chord `ds` of a cell of opacity `κ` has optical depth `κ * ds`; `r`, with `0 < r ≤ κ * ds`, is the optical depth
still to be used up.  The packet stops after the fraction `r / (κ * ds)` of the chord. -/

theorem absorb_frac {κ ds r : K} (hr : 0 < r) (hle : r ≤ κ * ds) :
    κ ≠ 0 ∧ ds ≠ 0 ∧ 0 < r / (κ * ds) ∧ r / (κ * ds) ≤ 1 ∧ κ * (r / (κ * ds) * ds) = r := by
  have hpos : 0 < κ * ds := hr.trans_le hle
  have hk := left_ne_zero_of_mul hpos.ne'
  have hd := right_ne_zero_of_mul hpos.ne'
  exact ⟨hk, hd, div_pos hr hpos, (div_le_one hpos).mpr hle, by field_simp⟩

/-- the path as `CartesianDensityGrid::interact` and `AMRDensityGrid::interact` compute it
(`ds + Scorr`, `Scorr = ds * (r - τ) / τ`) -/
theorem absorb_path_add {κ ds r : K} (hk : κ ≠ 0) (hd : ds ≠ 0) :
    ds + ds * (r - κ * ds) / (κ * ds) = r / (κ * ds) * ds := by field_simp; ring

/-- the path as `DensitySubGrid::interact` computes it (`lmin * (1 - (tau_done - tau_target) / tau)`) -/
theorem absorb_path_mul {κ ds tau done : K} (hk : κ ≠ 0) (hd : ds ≠ 0) :
    ds * (1 - (done + κ * ds - tau) / (κ * ds)) = (tau - done) / (κ * ds) * ds := by field_simp; ring

/-- the interpolation `origin + (wall - origin) * path / ds` towards the wall point `o + dd * ds` -/
theorem absorb_pos {o dd ds F : K} (hd : ds ≠ 0) : o + (o + dd * ds - o) * F / ds = o + dd * F := by
  field_simp; ring

theorem idx_le_of_wall_lt {h : K} (hh : 0 < h) {i k : Int} (hlt : (i : K) * h < ((k : K) + 1) * h) : i ≤ k := by
  have : i < k + 1 := by exact_mod_cast lt_of_mul_lt_mul_right hlt hh.le
  omega

theorem cell_of_closed {h x : K} (hh : 0 < h) {k i : Int} (hk1 : (k : K) * h ≤ x) (hk2 : x < ((k : K) + 1) * h)
    (hi1 : (i : K) * h ≤ x) (hi2 : x ≤ ((i : K) + 1) * h) : k = i ∨ (k = i + 1 ∧ x = ((i : K) + 1) * h) := by
  have h1 : k ≤ i + 1 := by
    have : (k : K) * h ≤ ((i : K) + 1) * h := hk1.trans hi2
    exact_mod_cast le_of_mul_le_mul_right this hh
  have h2 : i ≤ k := idx_le_of_wall_lt hh (hi1.trans_lt hk2)
  rcases (by omega : k = i ∨ k = i + 1) with e | e
  · exact Or.inl e
  · refine Or.inr ⟨e, le_antisymm hi2 ?_⟩
    rw [e] at hk1; exact_mod_cast hk1

theorem cell_unique {h x : K} (hh : 0 < h) {k i : Int} (hk1 : (k : K) * h ≤ x) (hk2 : x < ((k : K) + 1) * h)
    (hi1 : (i : K) * h ≤ x) (hi2 : x < ((i : K) + 1) * h) : k = i :=
  le_antisymm (idx_le_of_wall_lt hh (hk1.trans_lt hi2)) (idx_le_of_wall_lt hh (hi1.trans_lt hk2))

theorem cell_in_block {n : Nat} {i : Int} {h : K} (hh : 0 < h) (h0 : 0 ≤ i) (h1 : i < (n : Int)) :
    0 ≤ (i : K) * h ∧ ((i : K) + 1) * h ≤ (n : K) * h :=
  ⟨mul_nonneg (by exact_mod_cast h0) hh.le,
    mul_le_mul_of_nonneg_right (by exact_mod_cast (show i + 1 ≤ (n : Int) by omega)) hh.le⟩

/-- the range test of `get_output_direction`, `index / n > 0` with C++ (truncating) division -/
theorem tdiv_pos_iff {n : Nat} (hn : 0 < n) (i : Int) :
    (Int.tdiv i (n : Int) > 0) ↔ (n : Int) ≤ i := by
  have hnI : (0 : Int) < n := by exact_mod_cast hn
  by_cases hi : 0 ≤ i
  · rw [Int.tdiv_eq_ediv_of_nonneg hi]
    exact (Int.le_ediv_iff_mul_le hnI (a := 1)).trans (by rw [one_mul])
  · -- a negative index: the quotient truncates towards zero, `-((-i) / n) ≤ 0`
    have h2 : Int.tdiv i (n : Int) = -(Int.tdiv (-i) n) := by rw [← Int.neg_tdiv, neg_neg]
    have h3 : 0 ≤ Int.tdiv (-i) (n : Int) := Int.tdiv_nonneg (by omega) hnI.le
    constructor <;> intro h <;> omega

theorem forall_lt_three {P : Nat → Prop} (h0 : P 0) (h1 : P 1) (h2 : P 2) : ∀ a, a < 3 → P a
  | 0, _ => h0
  | 1, _ => h1
  | 2, _ => h2

end CMacVerif.Axis
