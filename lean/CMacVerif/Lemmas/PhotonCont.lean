import CMacVerif.Lemmas.PhotonTrav
/-! C01: bookkeeping of the continuous source -- the counter `_number_of_continuous_photons` equals the
packets not yet assigned to a task plus the batch sizes of the source tasks that still exist, the
buffers are flushed only when it has reached zero, and once no more packets will be sourced every
non-empty thread-local buffer has a flush task. -/
namespace CMacVerif.Photon
open CMacVerif.Worker (sumOver sumOver_congr sumOver_le sumOver_zero)

/-- what the continuous-source bookkeeping sees of a slot of the task table -/
inductive Sig where
  | cont (n : Nat)
  | flush (c : Nat)
  | other
deriving DecidableEq

def sig : Option Task → Sig
  | some ⟨.contSource _ n _, _⟩ => .cont n
  | some ⟨.flush c, _⟩ => .flush c
  | _ => .other

def sigN : Sig → Nat
  | .cont n => n
  | _ => 0

@[simp] theorem sig_none : sig none = .other := rfl
@[simp] theorem sig_contSource (c n : Nat) (ids : List Nat) (st : TSt) : sig (some ⟨.contSource c n ids, st⟩) = .cont n := rfl
@[simp] theorem sig_flushTask (c : Nat) (st : TSt) : sig (some ⟨.flush c, st⟩) = .flush c := rfl
@[simp] theorem sigN_cont (n : Nat) : sigN (.cont n) = n := rfl
@[simp] theorem sigN_flush (c : Nat) : sigN (.flush c) = 0 := rfl
@[simp] theorem sigN_other : sigN .other = 0 := rfl

theorem sig_of_buf {k : Kind} (st : TSt) (h : (kindBuf k).isSome = true) : sig (some ⟨k, st⟩) = .other := by
  cases k with
  | traverse | reemit => rfl
  | _ => cases h

/-- labels that neither create nor remove continuous source tasks or flush tasks -/
def SigNeutral : Label → Prop
  | .launchCont _ => False
  | .contFinish _ _ => False
  | .flushFinish _ => False
  | _ => True

theorem sig_st (k : Kind) (st st' : TSt) : sig (some ⟨k, st⟩) = sig (some ⟨k, st'⟩) := by
  cases k <;> rfl

theorem sig_upd {f : Nat → Option Task} {t : Nat} {v x : Option Task} (hf : f t = x) (h : sig v = sig x) (u : Nat) :
    sig (upd f t v u) = sig (f u) := by
  by_cases e : u = t
  · subst e; rw [upd_same, hf]; exact h
  · rw [upd_other _ _ _ e]

/-- a step that the bookkeeping does not see; `cont`: a thread-local buffer is filled only on behalf of a
continuous source task -/
structure ContFrame (s s' : State) : Prop where
  tasks : ∀ u, sig (s'.tasks u) = sig (s.tasks u)
  contPool : s'.contPool = s.contPool
  contLeft : s'.contLeft = s.contLeft
  flushCount : s'.flushCount = s.flushCount
  cont : (∀ t n, sig (s.tasks t) ≠ .cont n) → ∀ k, s'.cont k ≠ [] → s.cont k ≠ []

theorem step_contFrame {cfg : Cfg} {s s' : State} (l : Label) (h : step cfg s l = some s') (hl : SigNeutral l) :
    ContFrame s s' := by
  cases l with
  | launchCont | contFinish | flushFinish => exact absurd hl id
  | launchBatch src t =>
    obtain ⟨rfl, _, _, _, hf⟩ := step_launchBatch h
    exact ⟨sig_upd hf rfl, rfl, rfl, rfl, fun _ _ hk => hk⟩
  | acquire t =>
    obtain ⟨k, hk, _, rfl⟩ := step_acquire h
    exact ⟨sig_upd hk (sig_st _ _ _), rfl, rfl, rfl, fun _ _ hk => hk⟩
  | enqueue t =>
    obtain ⟨k, hk, rfl⟩ := step_enqueue h
    exact ⟨sig_upd hk (sig_st _ _ _), rfl, rfl, rfl, fun _ _ hk => hk⟩
  | execSource t b t' =>
    obtain ⟨src, ids, rfl, hk, _, _, _, htt'⟩ := step_execSource h
    have h1 := sig_upd (v := some ⟨.traverse b, .pending⟩) htt' rfl
    exact ⟨fun u => (sig_upd (v := none) rfl (by rw [h1, hk]; rfl) u).trans (h1 u), rfl, rfl, rfl, fun _ _ hk => hk⟩
  | contGen t g k =>
    obtain ⟨c, n, ids, rfl, hk, -⟩ := step_contGen h
    exact ⟨sig_upd hk rfl, rfl, rfl, rfl, fun hno => (hno t n (by rw [hk]; rfl)).elim⟩
  | contOverflow t g b t' | flushOne t g b t' =>
    obtain ⟨c, _, rfl, _, _, _, _, _, _, htt'⟩ := step_sendOff t g b t' (by simp) h
    -- the buffer is emptied, none is filled
    exact ⟨sig_upd htt' rfl, rfl, rfl, rfl, fun _ k hk e => hk (by simp only [updP, e, ite_self])⟩
  | execTraverse t fates res =>
    obtain ⟨b0, buf, s1, li, ls, hk, _, _, _, hfold, rfl⟩ := step_execTraverse h
    have hft : TravFrame s s1 := travFold_frame _ _ _ hfold
    refine ⟨fun u => ?_, hft.rest.contPool, hft.contLeft, hft.flushCount, fun _ k hk => hft.rest.cont ▸ hk⟩
    refine (sig_upd (v := none) ((hft.tasksKeep t (by simp [hk])).trans hk) rfl u).trans ?_
    rcases hft.tasks u with e | ⟨e0, k, e1, hkb⟩
    · rw [e]
    · rw [e1, e0, sig_of_buf _ hkb]; rfl
  | execReemit t keep t' =>
    obtain ⟨b, buf, hk, _, _, hcase⟩ := step_execReemit h
    rcases hcase with ⟨_, rfl⟩ | ⟨_, _, htt', rfl⟩
    · exact ⟨sig_upd hk rfl, rfl, rfl, rfl, fun _ _ hk => hk⟩
    · have h1 := sig_upd (v := some ⟨.traverse b, .pending⟩) htt' rfl
      exact ⟨fun u => (sig_upd (v := none) rfl (by rw [h1, hk]; rfl) u).trans (h1 u), rfl, rfl, rfl, fun _ _ hk => hk⟩
  | premature g t' =>
    obtain ⟨b, rfl, _, _, _, _, htt', -⟩ := step_premature h
    exact ⟨sig_upd htt' (sig_of_buf _ (by rw [fullKind_buf]; rfl)), rfl, rfl, rfl,
      fun _ _ hk => hk⟩
  | checkTermination =>
    obtain ⟨_, _, rfl⟩ := step_checkTermination h
    exact ⟨fun _ => rfl, rfl, rfl, rfl, fun _ _ hk => hk⟩

/-- the bookkeeping invariant of the continuous source -/
structure ContInv (cfg : Cfg) (s : State) : Prop where
  left : s.contLeft = s.contPool.length + sumOver (List.range cfg.taskCap) (fun t => sigN (sig (s.tasks t)))
  flushed : s.flushCount ≠ 0 → s.contLeft = 0
  /-- when nothing will be sourced any more every non-empty buffer of a block has a flush task -/
  served : s.contPool = [] → (∀ t n, sig (s.tasks t) ≠ .cont n) → ∀ c g, s.cont (c, g) ≠ [] → ∃ t, sig (s.tasks t) = .flush c

/-- the batch of a continuous source task in the table is still counted -/
theorem batch_le_contLeft {cfg : Cfg} {s : State} (hi : Inv cfg s) (hc : ContInv cfg s) {t c n : Nat} {ids : List Nat} {st : TSt}
    (h : s.tasks t = some ⟨.contSource c n ids, st⟩) : n ≤ s.contLeft ∧ 0 < n := by
  obtain ⟨htc, -, hn, -⟩ := hi.contTask h
  have := sumOver_le (List.mem_range.mpr htc) (fun t => sigN (sig (s.tasks t)))
  simp only [h, sig_contSource, sigN_cont] at this
  have hl := hc.left
  exact ⟨by omega, hn⟩

theorem ContFrame.contInv {cfg : Cfg} {s s' : State} (hc : ContInv cfg s) (hn : ContFrame s s') : ContInv cfg s' := by
  refine ⟨?_, ?_, ?_⟩
  · rw [hn.contLeft, hn.contPool, hc.left, sumOver_congr fun t _ => congrArg sigN (hn.tasks t)]
  · rw [hn.flushCount, hn.contLeft]; exact hc.flushed
  · intro hp hno c g hne
    have hno' : ∀ t n, sig (s.tasks t) ≠ .cont n := fun t n => hn.tasks t ▸ hno t n
    obtain ⟨t, ht⟩ := hc.served (hn.contPool ▸ hp) hno' c g (hn.cont hno' (c, g) hne)
    exact ⟨t, (hn.tasks t).trans ht⟩

/-- `left` after slot `t` of a table `f` is overwritten.  `f` is `s.tasks` itself or `s.tasks` with slots added that do not count
(`contFinish`: the new flush tasks), hence `hf` -/
theorem ContInv.left_upd {cfg : Cfg} {s : State} (hc : ContInv cfg s) {f : Nat → Option Task}
    (hf : ∀ u, sigN (sig (f u)) = sigN (sig (s.tasks u))) {t : Nat} (ht : t < cfg.taskCap) (v : Option Task) :
    s.contLeft + sigN (sig v) = s.contPool.length + sumOver (List.range cfg.taskCap) (fun u => sigN (sig (upd f t v u)))
      + sigN (sig (s.tasks t)) := by
  have h1 := sum_upd cfg.taskCap f t v (fun x => sigN (sig x)) ht
  rw [hf t, sumOver_congr fun u _ => hf u] at h1
  have h3 := hc.left
  omega

theorem sigN_eq_zero {x : Sig} (h : ∀ m, x ≠ .cont m) : sigN x = 0 := by
  cases x with
  | cont m => exact absurd rfl (h m)
  | _ => rfl

theorem contInv_step {cfg : Cfg} {s s' : State} (l : Label) (hi : Inv cfg s) (hc : ContInv cfg s)
    (h : step cfg s l = some s') : ContInv cfg s' := by
  cases l with
  | launchCont t =>
    obtain ⟨rfl, _, ht, hf, -⟩ := step_launchCont h
    have hl := hc.left_upd (fun _ => rfl) ht (some ⟨.contSource (s.contBlock % cfg.nblocks)
      (s.contPool.take BUFSZ).length (s.contPool.take BUFSZ), .queued⟩)
    rw [hf] at hl
    simp only [sig_none, sig_contSource, sigN_cont, sigN_other] at hl
    have hlen : s.contPool.length = (s.contPool.take BUFSZ).length + (s.contPool.drop BUFSZ).length := by
      rw [← List.length_append, List.take_append_drop]
    exact ⟨by dsimp only; omega, hc.flushed, fun _ hno => (hno t _ (congrArg sig (upd_same _ _ _))).elim⟩
  | flushFinish t =>
    obtain ⟨c, hk, hempty, rfl⟩ := step_flushFinish h
    have hl := hc.left_upd (fun _ => rfl) (hi.tk t _ hk).1 none
    rw [hk] at hl
    refine ⟨hl, hc.flushed, fun hp hno c' g hne => ?_⟩
    have hno' : ∀ u n, sig (s.tasks u) ≠ .cont n := fun u n => by
      by_cases e : u = t
      · rw [e, hk]; nofun
      · rw [← upd_other s.tasks t none e]; exact hno u n
    obtain ⟨u, hu⟩ := hc.served hp hno' c' g hne
    -- the flush task of a block with a non-empty buffer is not the one that ends
    have hne' : u ≠ t := fun e => by
      rw [e, hk] at hu
      cases hu
      exact hne (hempty g ((mem_pairsU cfg c g).mp (hi.ct.idx _ hne)).2)
    exact ⟨u, (congrArg sig (upd_other _ _ _ hne')).trans hu⟩
  | contFinish t fl =>
    obtain ⟨c, n, s2, hk, _, _, rfl, hfr, hleft2, hcase⟩ := step_contFinish h
    have hpos := batch_le_contLeft hi hc hk
    -- the counter is positive, so the buffers have not been flushed yet
    have hfc0 : s.flushCount = 0 :=
      Classical.not_not.mp fun e => Nat.ne_of_gt (Nat.lt_of_lt_of_le hpos.2 hpos.1) (hc.flushed e)
    -- the new flush tasks do not count
    have hsig : ∀ u, sigN (sig (s2.tasks u)) = sigN (sig (s.tasks u)) := fun u => by
      rcases hfr.tasks u with e | ⟨e, _, c', _, e2⟩
      · rw [e]
      · rw [e2, e]; rfl
    have hl := hc.left_upd hsig (hi.tk t _ hk).1 none
    rw [hk] at hl
    have hleft : s2.contLeft = s2.contPool.length
        + sumOver (List.range cfg.taskCap) (fun u => sigN (sig (upd s2.tasks t none u))) := by
      rw [hleft2, hfr.rest.contPool]; exact Nat.sub_eq_of_eq_add hl
    rcases hcase with ⟨h0, _, _, hhas⟩ | ⟨h0, hf, _⟩ | ⟨h0, hf2, _⟩
    · refine ⟨hleft, fun _ => hleft2.trans h0, fun _ _ c' g hne => ?_⟩
      have hmem := hi.ct.idx (c', g) (hfr.rest.cont ▸ hne)
      obtain ⟨u, hu⟩ := hhas c' ((mem_pairsU cfg c' g).mp hmem).1
      have hne' : u ≠ t := fun e => by rw [e, hfr.tasksKeep t (by simp [hk]), hk] at hu; cases hu
      exact ⟨u, (congrArg sig (upd_other _ _ _ hne')).trans (congrArg sig hu)⟩
    · exact ⟨hleft, fun _ => hleft2.trans h0, absurd hfc0 hf⟩
    · -- the counter is still positive, so the pool is not empty or another source task exists
      refine ⟨hleft, fun hfc => absurd (hf2.trans hfc0) hfc, fun hp hno => ?_⟩
      have hsum : sumOver (List.range cfg.taskCap) (fun u => sigN (sig (upd s2.tasks t none u))) = 0 := by
        rw [sumOver_congr fun u _ => sigN_eq_zero (hno u), sumOver_const_zero]
      rw [show s2.contPool = [] from hp, hsum, hleft2] at hleft
      exact absurd hleft h0
  | _ => exact ContFrame.contInv hc (step_contFrame _ h trivial)

theorem contInv_init (cfg : Cfg) (srcIds : Nat → List Nat) (contIds : List Nat) : ContInv cfg (init srcIds contIds) := by
  refine ⟨?_, fun h => absurd rfl h, fun _ _ _ _ hne => absurd rfl hne⟩
  show contIds.length = contIds.length + sumOver _ (fun _ => 0)
  rw [sumOver_const_zero, Nat.add_zero]

/-- no continuous source: nothing left to hand out and neither continuous source tasks nor flush tasks -/
def NoCont (s : State) : Prop := s.contPool = [] ∧ ∀ t, sig (s.tasks t) = .other

theorem noCont_step {cfg : Cfg} {s s' : State} (l : Label) (h : step cfg s l = some s') (hn : NoCont s) : NoCont s' := by
  have keep : SigNeutral l → NoCont s' := fun hl =>
    have hf := step_contFrame l h hl
    ⟨hf.contPool ▸ hn.1, fun t => (hf.tasks t).trans (hn.2 t)⟩
  cases l with
  | launchCont t => exact absurd hn.1 (step_launchCont h).2.1
  | contFinish t fl =>
    obtain ⟨c, n, s2, hk, _⟩ := step_contFinish h
    cases hk ▸ hn.2 t
  | flushFinish t =>
    obtain ⟨c, hk, _⟩ := step_flushFinish h
    cases hk ▸ hn.2 t
  | _ => exact keep trivial

theorem noCont_init (srcIds : Nat → List Nat) : NoCont (init srcIds []) :=
  ⟨rfl, fun _ => rfl⟩

end CMacVerif.Photon
