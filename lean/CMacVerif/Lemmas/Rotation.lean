import CMacVerif.Model.Rotation
/-! What the shifting loop (`shifted`) and a whole dump (`dumped`, `dump_exec`) do to any directory in
which the renamed files exist, and what a crash inside either can leave behind (`prefixes_*`). -/
namespace CMacVerif.Rotation

theorem FS.set_same (fs : FS) (n : Name) (c : Option Content) : fs.set n c n = c := if_pos rfl

theorem FS.set_other (fs : FS) {n m : Name} (c : Option Content) (h : m ≠ n) : fs.set n c m = fs m :=
  if_neg h

theorem FS.set_set (fs : FS) (n : Name) (a b : Option Content) : (fs.set n a).set n b = fs.set n b := by
  funext m
  by_cases h : m = n
  · rw [h, FS.set_same, FS.set_same]
  · rw [FS.set_other _ _ h, FS.set_other _ _ h, FS.set_other _ _ h]

theorem back_ne {i j : Nat} (h : i ≠ j) : Name.back i ≠ Name.back j := fun e => h (Name.back.inj e)

theorem execAll_append (fs : FS) (a b : List Op) :
    execAll fs (a ++ b) = (execAll fs a).bind fun fs' => execAll fs' b := by
  induction a generalizing fs with
  | nil => rfl
  | cons o a ih =>
    rw [List.cons_append, execAll, execAll]
    cases exec fs o with
    | none => rfl
    | some fs1 => exact ih fs1

theorem hrun_append (st : FS × RM) (a b : List HOp) :
    hrun st (a ++ b) = (hrun st a).bind fun st' => hrun st' b := by
  induction a generalizing st with
  | nil => rfl
  | cons o a ih =>
    rw [List.cons_append, hrun, hrun]
    cases hstep st o with
    | none => rfl
    | some st1 => exact ih st1

theorem mem_prefixes_append {fs fs' x : FS} {a b : List Op} (h : execAll fs a = some fs')
    (hx : x ∈ prefixes fs (a ++ b)) : x ∈ prefixes fs a ∨ x ∈ prefixes fs' b := by
  induction a generalizing fs with
  | nil => cases h; exact Or.inr hx
  | cons o a ih =>
    rw [execAll] at h
    rw [List.cons_append, prefixes] at hx
    rw [prefixes]
    cases ho : exec fs o with
    | none => rw [ho] at h; cases h
    | some fs1 =>
      rw [ho] at h hx
      rcases List.mem_cons.mp hx with rfl | hx
      · exact Or.inl List.mem_cons_self
      · exact (ih h hx).imp_left (List.mem_cons_of_mem _)

theorem exec_rename {fs : FS} {a : Name} {c : Content} (b : Name) (h : fs a = some c) :
    exec fs (.rename a b) = some ((fs.set b (some c)).set a none) := by
  rw [exec, h]

theorem execAll_writeDump (fs : FS) (v : Nat) :
    execAll fs [.openTrunc .dump, .write .dump v, .close .dump v] = some (fs.set .dump (some ⟨v, true⟩)) := by
  simp only [execAll, exec, FS.set_set]

/-- once the shifting loop is through, the previous dump is moved to the first backup before the
main file is truncated: whatever prefix of that was executed, it is in one of the two -/
theorem prefixes_moveWrite {fs : FS} {c : Content} (h : fs .dump = some c) (v : Nat) :
    ∀ fs' ∈ prefixes fs [.rename .dump (.back 0), .openTrunc .dump, .write .dump v, .close .dump v],
      fs' .dump = some c ∨ fs' (.back 0) = some c := by
  intro fs' hp
  simp only [prefixes, exec, h, List.mem_cons, List.not_mem_nil, or_false] at hp
  rcases hp with rfl | hp
  · exact Or.inl h
  · right
    rcases hp with rfl | rfl | rfl | rfl <;> simp only [FS.set, reduceCtorEq, if_false, if_true]

/-- effect of the whole shifting loop started at `m` -/
def shifted (fs : FS) (m : Nat) : FS
  | .dump => fs .dump
  | .back 0 => if m = 0 then fs (.back 0) else none
  | .back (j + 1) => if j < m then fs (.back j) else fs (.back (j + 1))

theorem shifted_dump (fs : FS) (m : Nat) : shifted fs m .dump = fs .dump := rfl

theorem shifted_zero (fs : FS) : shifted fs 0 = fs := by
  funext name
  match name with
  | .dump => rfl
  | .back 0 => rfl
  | .back (j + 1) => rfl

theorem shifted_step (fs : FS) (m : Nat) :
    shifted ((fs.set (.back (m + 1)) (fs (.back m))).set (.back m) none) m = shifted fs (m + 1) := by
  funext name
  match name with
  | .dump => rfl
  | .back 0 =>
    rw [shifted, shifted, if_neg (Nat.succ_ne_zero m)]
    by_cases h : m = 0
    · rw [if_pos h, h, FS.set_same]
    · rw [if_neg h]
  | .back (j + 1) =>
    rw [shifted, shifted]
    rcases Nat.lt_trichotomy j m with h | rfl | h
    · rw [if_pos h, if_pos (Nat.lt_succ_of_lt h), FS.set_other _ _ (back_ne (by omega)),
        FS.set_other _ _ (back_ne (by omega))]
    · rw [if_neg (Nat.lt_irrefl j), if_pos (Nat.lt_succ_self j), FS.set_other _ _ (back_ne (by omega)),
        FS.set_same]
    · rw [if_neg (by omega), if_neg (by omega), FS.set_other _ _ (back_ne (by omega)),
        FS.set_other _ _ (back_ne (by omega))]

theorem execAll_shiftOps (m : Nat) (fs : FS) (h : ∀ j, j < m → fs (.back j) ≠ none) :
    execAll fs (shiftOps m) = some (shifted fs m) := by
  induction m generalizing fs with
  | zero => rw [shifted_zero]; rfl
  | succ m ih =>
    obtain ⟨c, hc⟩ := Option.ne_none_iff_exists'.mp (h m (Nat.lt_succ_self m))
    simp only [shiftOps, execAll, exec_rename _ hc]
    rw [← hc, ← shifted_step]
    apply ih
    intro j hj
    rw [FS.set_other _ _ (back_ne (by omega)), FS.set_other _ _ (back_ne (by omega))]
    exact h j (by omega)

theorem prefixes_shiftOps_dump (m : Nat) (fs : FS) : ∀ fs' ∈ prefixes fs (shiftOps m), fs' .dump = fs .dump := by
  induction m generalizing fs with
  | zero => intro fs' h; rw [List.mem_singleton.mp h]
  | succ m ih =>
    intro fs' h
    cases hc : fs (.back m) with
    | none =>
      rw [shiftOps, prefixes, exec, hc] at h
      rw [List.mem_singleton.mp h]
    | some c =>
      simp only [shiftOps, prefixes, exec_rename _ hc] at h
      rcases List.mem_cons.mp h with rfl | h
      · rfl
      · rw [ih _ fs' h, FS.set_other _ _ (by simp), FS.set_other _ _ (by simp)]

/-- the directory after a complete dump of state `v` by the manager `rm` -/
def dumped (fs : FS) (rm : RM) (v : Nat) : FS :=
  let fs1 := shifted fs (startFixed rm.maxB rm.nb)
  (if 0 < rm.maxB ∧ 0 < rm.nr then fs1.set (.back 0) (fs .dump) else fs1).set .dump (some ⟨v, true⟩)

theorem dumped_dump (fs : FS) (rm : RM) (v : Nat) : dumped fs rm v .dump = some ⟨v, true⟩ :=
  FS.set_same _ _ _

theorem dumped_back_zero (fs : FS) (rm : RM) (v : Nat) :
    dumped fs rm v (.back 0) =
      if 0 < rm.maxB ∧ 0 < rm.nr then fs .dump else shifted fs (startFixed rm.maxB rm.nb) (.back 0) := by
  rw [dumped, FS.set_other _ _ (by simp)]
  split
  · exact FS.set_same _ _ _
  · rfl

theorem dumped_back_succ (fs : FS) (rm : RM) (v j : Nat) :
    dumped fs rm v (.back (j + 1)) =
      if j < startFixed rm.maxB rm.nb then fs (.back j) else fs (.back (j + 1)) := by
  rw [dumped, FS.set_other _ _ (by simp)]
  split
  · rw [FS.set_other _ _ (back_ne (Nat.succ_ne_zero j))]; rfl
  · rfl

theorem dump_exec (fs : FS) (rm : RM) (v : Nat)
    (hb : ∀ j, j < startFixed rm.maxB rm.nb → fs (.back j) ≠ none)
    (hd : 0 < rm.maxB → 0 < rm.nr → fs .dump ≠ none) :
    execAll fs (dumpOps startFixed rm v).1 = some (dumped fs rm v) := by
  simp only [dumpOps, dumped]
  by_cases hm : 0 < rm.maxB
  · rw [if_pos hm, List.append_assoc, execAll_append, execAll_shiftOps _ _ hb, Option.bind_some]
    by_cases hr : 0 < rm.nr
    · obtain ⟨c, hc⟩ := Option.ne_none_iff_exists'.mp (hd hm hr)
      simp only [if_pos hr, if_pos (And.intro hm hr), List.cons_append, List.nil_append, execAll, exec,
        shifted_dump, hc, FS.set_set]
    · rw [if_neg hr, if_neg (fun h => hr h.2), List.nil_append, execAll_writeDump]
  · have h0 : startFixed rm.maxB rm.nb = 0 := by unfold startFixed; omega
    rw [if_neg hm, if_neg (fun h => hm h.1), List.nil_append, execAll_writeDump, h0, shifted_zero]

end CMacVerif.Rotation
