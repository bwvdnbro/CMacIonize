import CMacVerif.Lemmas.AtomicsPool
import CMacVerif.Model.AtomicsMaint
/-!
C08 lemmas: the maintenance calls of `ThreadSafeVector` applied to quiescent states
restore / preserve the pool invariants, so every pool theorem holds again in the next phase.
-/
namespace CMacVerif.Atomics

theorem cnt_congr (f g : Nat → Bool) (n : Nat) (h : ∀ i, i < n → f i = g i) : cnt f n = cnt g n := by
  rw [cnt_eq_sumN, cnt_eq_sumN]
  exact sumN_congr _ _ n fun i hi => congrArg Bool.toNat (h i hi)

theorem cnt_decide_lt (f : Nat → Bool) (k : Nat) (h : ∀ i, f i = decide (i < k)) (n : Nat) : cnt f n = min k n := by
  induction n with
  | zero => simp [cnt]
  | succ n ih => rw [cnt, ih, h n]; by_cases hn : n < k <;> simp [hn] <;> omega

theorem poolInv_of_quiescent (cfg : Cfg) (s : State) (hq : Quiescent s)
    (ho : ∀ th ∈ s.threads, ∀ i ∈ th.owned, i < cfg.size)
    (hS : ∀ i, sumT (fun th => th.owned.count i) s.threads = (s.mem.flags i).toNat)
    (hT : s.mem.taken = cnt s.mem.flags cfg.size) : PoolInv cfg s := by
  refine ⟨fun i => ?_, fun th hth => threadWf_of_pcSlot_none cfg th (ho th hth) (by rw [hq th hth]; rfl), ?_⟩
  · rw [← hS i]; exact sumT_congr _ _ _ fun th hth => holdS_idle i th (hq th hth)
  · exact (countInv_settled cfg s fun th hth => incdec_idle th (hq th hth)).mpr hT

theorem flags_out_of_range (cfg : Cfg) (s : State) (hq : Quiescent s) (h : PoolInv cfg s) (i : Nat)
    (hi : cfg.size ≤ i) : s.mem.flags i = false := by
  have hs := h.slot i
  have : sumT (holdS i) s.threads = 0 := by
    apply sumT_eq_zero
    intro th hth
    rw [holdS_idle i th (hq th hth)]
    apply List.count_eq_zero.mpr
    intro hm
    have := (h.wf th hth).owned_lt i hm
    omega
  rw [this] at hs
  exact Bool.toNat_eq_zero.mp hs.symm

/-- **clear()** from any quiescent state with the pool invariants: the invariants hold again and
the pool is as after construction -/
theorem clear_poolInv (cfg : Cfg) (s : State) (hq : Quiescent s) (h : PoolInv cfg s) :
    PoolInv cfg (maint cfg s .clear) ∧ FreshPool cfg (maint cfg s .clear) ∧ Quiescent (maint cfg s .clear) ∧
    (maint cfg s .clear).mem.maxTaken = 0 ∧ (∀ i, i < cfg.size → (maint cfg s .clear).mem.count i = 0) := by
  have hmem : ∀ th' ∈ (maint cfg s .clear).threads, th'.pc = .idle ∧ th'.owned = [] := by
    intro th' hth'
    simp only [maint, maintThreads, List.mem_map] at hth'
    obtain ⟨th, hth, rfl⟩ := hth'
    exact ⟨hq th hth, rfl⟩
  have hfl : ∀ i, (maint cfg s .clear).mem.flags i = false := by
    intro i
    simp only [maint, maintMem]
    split
    · rfl
    · exact flags_out_of_range cfg s hq h i (by omega)
  refine ⟨poolInv_of_quiescent cfg _ (fun th hth => (hmem th hth).1) ?_ ?_ ?_,
    ⟨fun i _ => hfl i, rfl, rfl, fun th hth => (hmem th hth).2⟩, fun th hth => (hmem th hth).1, rfl, ?_⟩
  · intro th hth i hi; rw [(hmem th hth).2] at hi; cases hi
  · intro i
    rw [hfl i, sumT_eq_zero _ _ fun th hth => by rw [(hmem th hth).2]; rfl]; rfl
  · rw [cnt_zero _ _ fun i _ => hfl i]; rfl
  · intro i hi; simp [maint, maintMem, hi]

/-- **clear_fast()** touches neither flags nor count: the pool invariants survive it in any state -/
theorem clearFast_poolInv (cfg : Cfg) (s : State) (h : PoolInv cfg s) : PoolInv cfg (maint cfg s .clearFast) := h

/-- `clear_fast()` leaves the pool empty only if nothing was held: its precondition `_number_taken = 0` -/
theorem clearFast_fresh_iff (cfg : Cfg) (s : State) (hq : Quiescent s) (h : PoolInv cfg s) :
    FreshPool cfg (maint cfg s .clearFast) ↔ s.mem.taken = 0 := by
  refine ⟨fun hf => hf.2.1, fun ht => ?_⟩
  -- the counter is the number of slots in the callers' hands: nobody holds one, so no flag is set
  have hown := taken_eq_owned cfg s h hq
  have hz : sumT (fun th => th.owned.length) s.threads = 0 := by omega
  have hnil : ∀ th ∈ s.threads, th.owned = [] := fun th hth =>
    List.length_eq_zero_iff.mp (eq_zero_of_sumT _ hz th hth)
  refine ⟨fun i _ => ?_, ht, rfl, hnil⟩
  have := h.slot i
  rw [sumT_eq_zero _ _ fun th hth => by rw [holdS_idle i th (hq th hth), hnil th hth]; rfl] at this
  exact Bool.toNat_eq_zero.mp this.symm

theorem count_filter_lt (l : List Nat) (i k : Nat) :
    (l.filter (· < k)).count i = if i < k then l.count i else 0 := by
  split
  · rename_i h; exact List.count_filter (by simpa using h)
  · rename_i h; exact List.count_eq_zero.mpr fun hm => h (by simpa using (List.mem_filter.mp hm).2)

/-- **clear_after(k)** under the premise stated in the source ("all values before the given
offset are in use"): the invariants hold again, exactly the first `k` slots are taken -/
theorem clearAfter_poolInv (cfg : Cfg) (s : State) (k : Nat) (hq : Quiescent s) (h : PoolInv cfg s)
    (hk : k ≤ cfg.size) (hpre : ∀ i, i < k → s.mem.flags i = true) :
    PoolInv cfg (maint cfg s (.clearAfter k)) ∧ Quiescent (maint cfg s (.clearAfter k)) ∧
    (maint cfg s (.clearAfter k)).mem.taken = k ∧
    (∀ i, (maint cfg s (.clearAfter k)).mem.flags i = decide (i < k)) := by
  have hfl : ∀ i, (maint cfg s (.clearAfter k)).mem.flags i = decide (i < k) := by
    intro i
    simp only [maint, maintMem]
    by_cases hik : i < k
    · have : ¬ (k ≤ i ∧ i < cfg.size) := by omega
      simp [this, hik, hpre i hik]
    · by_cases his : i < cfg.size
      · simp [hik, his, show k ≤ i by omega]
      · have : ¬ (k ≤ i ∧ i < cfg.size) := by omega
        simp [this, hik, flags_out_of_range cfg s hq h i (by omega)]
  have hmem : ∀ th' ∈ (maint cfg s (.clearAfter k)).threads, th'.pc = .idle ∧ ∀ i ∈ th'.owned, i < cfg.size := by
    intro th' hth'
    simp only [maint, maintThreads, List.mem_map] at hth'
    obtain ⟨th, hth, rfl⟩ := hth'
    exact ⟨hq th hth, fun i hi => (h.wf th hth).owned_lt i (List.mem_filter.mp hi).1⟩
  have hq' : Quiescent (maint cfg s (.clearAfter k)) := fun th hth => (hmem th hth).1
  refine ⟨poolInv_of_quiescent cfg _ hq' (fun th hth => (hmem th hth).2) ?_ ?_, hq', rfl, hfl⟩
  · intro i
    rw [hfl i]
    simp only [maint, maintThreads, sumT_map, count_filter_lt]
    by_cases hik : i < k
    · simp only [hik, if_true, decide_true]
      rw [← hpre i hik, ← h.slot i]
      exact sumT_congr _ _ _ fun th hth => (holdS_idle i th (hq th hth)).symm
    · simp only [hik, if_false, decide_false]
      rw [sumT_eq_zero _ _ (fun _ _ => rfl)]; rfl
  · rw [cnt_decide_lt _ k hfl cfg.size, Nat.min_eq_left hk]
    rfl

/-- **get_free_elements(n)** on a pool as after construction: the caller owns the first `n` slots -/
theorem getFreeElements_poolInv (cfg : Cfg) (s : State) (tid n : Nat) (th : Thread)
    (hq : Quiescent s) (hf : FreshPool cfg s) (h : PoolInv cfg s) (hn : n ≤ cfg.size)
    (hth : s.threads[tid]? = some th) :
    PoolInv cfg (maint cfg s (.getFreeElements tid n)) ∧ Quiescent (maint cfg s (.getFreeElements tid n)) ∧
    (maint cfg s (.getFreeElements tid n)).mem.taken = n := by
  obtain ⟨hff, ht, hc, hown⟩ := hf
  have hthm : th ∈ s.threads := List.mem_of_getElem? hth
  have hmem : ∀ x ∈ (maint cfg s (.getFreeElements tid n)).threads,
      x = { th with owned := (List.range n).reverse ++ th.owned } ∨ x ∈ s.threads := by
    intro x hx
    simp only [maint, maintThreads, hth] at hx
    exact (List.mem_or_eq_of_mem_set hx).symm
  have hq' : Quiescent (maint cfg s (.getFreeElements tid n)) := by
    intro x hx
    rcases hmem x hx with rfl | hx
    · exact hq th hthm
    · exact hq x hx
  have hfl : ∀ i, (maint cfg s (.getFreeElements tid n)).mem.flags i = decide (i < n) := by
    intro i
    simp only [maint, maintMem]
    by_cases hin : i < n
    · simp [hin]
    · by_cases his : i < cfg.size
      · simp [hin, hff i his]
      · simp [hin, flags_out_of_range cfg s hq h i (by omega)]
  refine ⟨poolInv_of_quiescent cfg _ hq' ?_ ?_ ?_, hq', rfl⟩
  · intro x hx i hi
    rcases hmem x hx with rfl | hx
    · simp only [hown th hthm, List.append_nil, List.mem_reverse, List.mem_range] at hi
      omega
    · exact (h.wf x hx).owned_lt i hi
  · intro i
    rw [hfl i]
    simp only [maint, maintThreads, hth]
    have hfr := sumT_set (fun th => th.owned.count i) s.threads tid th
      { th with owned := (List.range n).reverse ++ th.owned } hth
    have h0 : sumT (fun th => th.owned.count i) s.threads = 0 :=
      sumT_eq_zero _ _ fun x hx => by rw [hown x hx]; rfl
    simp only [List.count_append, List.count_reverse, List.count_range] at hfr
    by_cases hin : i < n <;> simp only [hin, if_true, if_false, decide_true, decide_false, Bool.toNat_true,
      Bool.toNat_false] at hfr ⊢ <;> omega
  · rw [cnt_decide_lt _ n hfl cfg.size, Nat.min_eq_left hn]
    rfl

theorem mem_reloadL (l : List Thread) (progs : List (List Cmd)) (x : Thread) (h : x ∈ reloadL l progs) :
    ∃ th ∈ l, ∃ p, x = { th with prog := p } := by
  induction l generalizing progs with
  | nil => simp [reloadL] at h
  | cons a l ih =>
    cases progs with
    | nil =>
      simp only [reloadL, List.mem_cons] at h
      rcases h with rfl | h
      · exact ⟨a, by simp, [], rfl⟩
      · obtain ⟨th, hth, p, rfl⟩ := ih [] h
        exact ⟨th, by simp [hth], p, rfl⟩
    | cons p ps =>
      simp only [reloadL, List.mem_cons] at h
      rcases h with rfl | h
      · exact ⟨a, by simp, p, rfl⟩
      · obtain ⟨th, hth, p', rfl⟩ := ih ps h
        exact ⟨th, by simp [hth], p', rfl⟩

theorem sumT_reloadL (f : Thread → Nat) (hf : ∀ th p, f { th with prog := p } = f th) (l : List Thread)
    (progs : List (List Cmd)) : sumT f (reloadL l progs) = sumT f l := by
  induction l generalizing progs with
  | nil => rfl
  | cons a l ih => cases progs <;> simp only [reloadL, sumT_cons, hf, ih]

theorem reload_poolInv (cfg : Cfg) (s : State) (progs : List (List Cmd)) (h : PoolInv cfg s) :
    PoolInv cfg (reload s progs) := by
  obtain ⟨h1, h2, h3⟩ := h
  refine ⟨?_, ?_, ?_⟩
  · intro i
    simp only [reload]
    rw [sumT_reloadL (holdS i) (fun th p => rfl)]
    exact h1 i
  · intro x hx
    obtain ⟨th, hth, p, rfl⟩ := mem_reloadL _ _ _ hx
    exact h2 th hth
  · unfold CountInv at *
    simp only [reload]
    rw [sumT_reloadL incP (fun th p => rfl), sumT_reloadL decP (fun th p => rfl)]
    exact h3

end CMacVerif.Atomics
