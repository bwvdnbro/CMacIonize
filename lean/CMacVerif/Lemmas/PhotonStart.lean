import CMacVerif.Lemmas.PhotonCache
import CMacVerif.Lemmas.PhotonWorker
/-! C01: the state at the start of an iteration and the reachable states of protocol and worker loop. -/
namespace CMacVerif.Photon
open CMacVerif.Worker (sumOver sumOver_congr sumOver_le)

theorem init_weight (cfg : Cfg) (w : Nat → Nat) (srcIds : Nat → List Nat) (contIds : List Nat) :
    weight cfg w (init srcIds contIds) = sumOver (List.range cfg.nsrc) (fun i => wsum w (srcIds i)) + wsum w contIds := by
  simp only [weight, init, wsum_nil, taskW_none, bufW_none, sumOver_const_zero]
  omega

theorem sumOver_flatten (w : Nat → Nat) (n : Nat) (f : Nat → List Nat) :
    sumOver (List.range n) (fun i => wsum w (f i)) = wsum w ((List.range n).map f).flatten := by
  induction (List.range n) with
  | nil => rfl
  | cons a l ih =>
    rw [CMacVerif.Worker.sumOver_cons, List.map_cons, List.flatten_cons, wsum_append, ih]

theorem wsum_perm (w : Nat → Nat) {a b : List Nat} (h : a.Perm b) : wsum w a = wsum w b := by
  unfold wsum; exact (h.map w).sum_nat

theorem start_weight {cfg : Cfg} {srcIds : Nat → List Nat} {contIds : List Nat} (h : Start cfg srcIds contIds)
    (w : Nat → Nat) : weight cfg w (init srcIds contIds) = wsum w (List.range cfg.N) := by
  rw [init_weight, sumOver_flatten, ← wsum_append]
  exact wsum_perm w h

theorem start_total {cfg : Cfg} {srcIds : Nat → List Nat} {contIds : List Nat} (h : Start cfg srcIds contIds) :
    weight cfg (fun _ => 1) (init srcIds contIds) = cfg.N := by
  rw [start_weight h, wsum_one, List.length_range]

theorem reachable {cfg : Cfg} {srcIds : Nat → List Nat} {contIds : List Nat} (h0 : Start cfg srcIds contIds)
    {ls : List Label} {s : State} (hrun : run cfg (init srcIds contIds) ls = some s) :
    Reach cfg (init srcIds contIds) s :=
  run_induction (fun l _ _ hr h => reach_step l (start_total h0) hr h) ls _ s (reach_init cfg srcIds contIds) hrun

/-- soundness of the termination test for any state with `Reach`, whether the protocol or the worker loop led to it -/
theorem Reach.terminated {cfg : Cfg} {srcIds : Nat → List Nat} {contIds : List Nat} (h0 : Start cfg srcIds contIds)
    {s : State} (hr : Reach cfg (init srcIds contIds) s) (hflag : s.run = false) : s.done.length = cfg.N ∧ AllDone cfg s :=
  ⟨(hr.flag hflag).trans (start_total h0), reach_allDone hr (hr.flag hflag)⟩

theorem reachable_invs {cfg : Cfg} {srcIds : Nat → List Nat} {contIds : List Nat} {ls : List Label} {s : State}
    (hrun : run cfg (init srcIds contIds) ls = some s) : Inv cfg s ∧ Cache s ∧ ContInv cfg s :=
  run_induction (P := fun x => Inv cfg x ∧ Cache x ∧ ContInv cfg x)
    (fun l _ _ hp hs => ⟨(step_inv l hp.1 hs).1, cache_step l hp.1 hp.2.1 hs, contInv_step l hp.1 hp.2.2 hs⟩) ls _ s
    ⟨init_inv cfg srcIds contIds, cache_init srcIds contIds, contInv_init cfg srcIds contIds⟩ hrun

theorem taskW_one (t : Option Task) : taskW (fun _ => 1) t = taskPackets t := by
  cases t with
  | none => rfl
  | some tk => cases tk with | mk k st => cases k <;> simp [taskPackets, wsum_one]

theorem done_count {cfg : Cfg} {srcIds : Nat → List Nat} {contIds : List Nat} (h0 : Start cfg srcIds contIds)
    {s : State} (hr : Reach cfg (init srcIds contIds) s) :
    (∀ p, s.done.count p ≤ 1) ∧
    (s.done.length = cfg.N → ∀ p, s.done.count p = if p < cfg.N then 1 else 0) := by
  have hw : ∀ p, s.done.count p + restWeight cfg (fun x => if x = p then 1 else 0) s = if p < cfg.N then 1 else 0 := by
    intro p
    rw [← wsum_count, ← weight_split, hr.wt, start_weight h0, wsum_count, List.count_range]
  refine ⟨fun p => ?_, fun hd p => ?_⟩
  · have := hw p
    split_ifs at this <;> omega
  · have h1 := hw p
    have h2 := hr.split
    rw [start_total h0] at h2
    have h3 := restWeight_mono cfg (fun x => if x = p then 1 else 0) (fun _ => 1) (by intro x; split_ifs <;> omega) s
    omega

/-- every state the threads can reach satisfies the two loop invariants (and with `LInv.reach` what `Reach` says of the
protocol state).  `hloop`: the fixed loop condition, or (old condition) no continuous source -/
theorem loop_reachable {cfg : Cfg} {srcIds : Nat → List Nat} {contIds : List Nat} (h0 : Start cfg srcIds contIds)
    (hloop : cfg.loopFixed = true ∨ contIds = [])
    {ls : List LLabel} {s : LState} (hrun : lrun cfg (linit srcIds contIds) ls = some s) :
    LInv cfg (init srcIds contIds) s ∧ LHeld cfg s :=
  lrun_inv (start_total h0) ls _ s (linit_inv cfg srcIds contIds) (linit_held cfg srcIds contIds hloop) hrun

end CMacVerif.Photon
