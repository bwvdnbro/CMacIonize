import CMacVerif.Lemmas.HydroSchedule
/-! The phase-by-phase schedule of the hydro tasks is a linear extension of the task graph, and
executing it is `hydroStep` on the cells of the grid (C10).  Last part, independent of the rest: the
order in which one thread executes the tasks is a linear extension (`OneThreadInv`). -/
namespace CMacVerif.HydroSchedule
open CMacVerif CMacVerif.RiemannVacuum CMacVerif.HydroGraph CMacVerif.HydroSweeps
  CMacVerif.HydroUpdate CMacVerif.HydroStep CMacVerif.HydroTasks

/-- the tasks of phase `k` in the order of `allTasks` -/
def phaseTasks (L : Layout) (k : Nat) : List Task :=
  (allTasks L).filter fun t => phase t.slot = k

/-- all gradient tasks, then all slope limiters, … , then all primitive updates -/
def phaseSched (L : Layout) : List Task := (List.range 6).flatMap (phaseTasks L)

theorem mem_phaseTasks {L : Layout} {k : Nat} {t : Task} :
    t ∈ phaseTasks L k ↔ exists_ L t = true ∧ phase t.slot = k := by
  simp [phaseTasks, mem_allTasks]

theorem phaseSched_linExt (L : Layout) : LinExt L (phaseSched L) where
  nodup := by
    unfold phaseSched
    refine List.nodup_flatMap_of_disjoint List.nodup_range
      (fun k _ => (allTasks_nodup L).filter _) ?_
    intro k _ k' _ t ht ht'
    rw [mem_phaseTasks] at ht ht'
    exact ht.2.symm.trans ht'.2
  all t := by
    simp only [phaseSched, List.mem_flatMap, List.mem_range, mem_phaseTasks]
    constructor
    · rintro ⟨k, _, h, _⟩; exact h
    · intro h; exact ⟨phase t.slot, by have := phase_le_five t.slot; omega, h, rfl⟩
  order := by
    -- a parent is one phase earlier (`phase_parents`): no task of the same or a later phase is one
    have key : ∀ {k k'}, k ≤ k' → ∀ a ∈ phaseTasks L k, ∀ b ∈ phaseTasks L k', b ∉ parents L a := by
      intro k k' hle a ha b hb hpar
      rw [mem_phaseTasks] at ha hb
      have := phase_parents L _ _ hpar
      omega
    unfold phaseSched
    rw [List.pairwise_flatMap]
    exact ⟨fun k _ => List.pairwise_of_forall_mem_list (key le_rfl),
      List.Pairwise.imp (fun hlt => key (Nat.le_of_lt hlt)) List.pairwise_lt_range⟩

/-! ### executing one phase -/

variable {flux : FluxFn ℝ} {pr : Params ℝ} {limiter : HV ℝ → Grad ℝ} {predict : HV ℝ → Q ℝ}
  {L : Layout} {c : Cells}

theorem run_sweep_tasks {κ : Type} (P : Phys (HV ℝ) κ) (ts : List Task)
    (h : ∀ t ∈ ts, ∀ s, execTask flux pr limiter predict L c t s = runOps P s (taskOps L c t))
    (s : Grid (HV ℝ)) :
    runSchedule flux pr limiter predict L c ts s = runOps P s (ts.flatMap (taskOps L c)) := by
  induction ts generalizing s with
  | nil => rfl
  | cons t ts ih =>
    simp only [runSchedule, List.foldl_cons, List.flatMap_cons] at ih ⊢
    rw [ih (fun u hu => h u (List.mem_cons_of_mem _ hu)), h t List.mem_cons_self, runOps_append]

/-- per-cell tasks of one phase on distinct subgrids: every cell that lies in the subgrid of one
of the tasks is mapped once -/
theorem run_map_tasks (k : Nat) (hk : IsCellPhase k) (ts : List Task) (hn : ts.Nodup)
    (h : ∀ t ∈ ts, phase t.slot = k) (s : Grid (HV ℝ)) (x : Cell) :
    runSchedule flux pr limiter predict L c ts s x
      = if ∃ t ∈ ts, inSub c t.g x = true then phaseFn pr limiter predict k (s x) else s x := by
  induction ts generalizing s with
  | nil => simp [runSchedule]
  | cons t ts ih =>
    rw [List.nodup_cons] at hn
    have hpt : phase t.slot = k := h t List.mem_cons_self
    simp only [runSchedule, List.foldl_cons] at ih ⊢
    rw [ih hn.2 (fun u hu => h u (List.mem_cons_of_mem _ hu)),
      execTask_map t (by rw [hpt]; exact hk), hpt]
    by_cases hin : inSub c t.g x = true
    · have hnone : ¬ ∃ u ∈ ts, inSub c u.g x = true := by
        rintro ⟨u, hu, hux⟩
        have hpu := h u (List.mem_cons_of_mem _ hu)
        have : u = t := eq_of_cellPhase (inSub_unique hux hin) (hpu.trans hpt.symm) (hpu ▸ hk)
        exact hn.1 (this ▸ hu)
      rw [if_neg hnone, if_pos ⟨t, List.mem_cons_self, hin⟩]
      simp [mapSub, hin]
    · simp only [List.mem_cons, exists_eq_or_imp, hin, mapSub, Bool.false_eq_true, false_or,
        if_false]

theorem exists_phase_task {k : Nat} (hk : IsCellPhase k) (h5 : k ≤ 5) {x : Cell}
    (hx : valid (cellGrid L c) x = true) : ∃ t ∈ phaseTasks L k, inSub c t.g x = true := by
  obtain ⟨g, p, hg, hp, rfl⟩ := exists_gcell hx
  obtain ⟨h1, _, h3⟩ := spine_facts hg (Nat.pos_of_ne_zero hk.1) h5
  have hsg : (spine g k).g = g := by unfold spine; split <;> rfl
  exact ⟨spine g k, mem_phaseTasks.mpr ⟨h1, h3⟩, by rw [hsg]; exact inSub_gcell g hp⟩

/-! ### the calls of the sweep tasks of a phase are the calls of the layout -/

/-- the calls that concern subgrid `g` along `ax`: inner loop nest ++ sweep over the upper face ++
lower boundary sweep (if there is no lower neighbour) -/
def piece (L : Layout) (c : Cells) (g : Sub) (ax : Axis) : List Op :=
  (innerLoc c ax).map (fun pq => Op.pair ax (gcell c g pq.1) (gcell c g pq.2)) ++ upOps L c ax g ++
    (if (ngbDown L ax g).isNone then downOps c ax g else [])

theorem flatMap_comm_perm {α β γ : Type} (l : List α) (m : List β) (f : α → β → List γ) :
    (l.flatMap fun a => m.flatMap fun b => f a b).Perm (m.flatMap fun b => l.flatMap fun a => f a b) := by
  induction l with
  | nil => simp
  | cons a l ih =>
    simp only [List.flatMap_cons]
    exact (List.Perm.append_left _ ih).trans (List.flatMap_append_perm m _ _)

theorem piece_eq (g : Sub) (ax : Axis) :
    (subFaces L c ax g).map (fun f => Op.pair ax f.1 f.2) ++
        (subGhosts L c ax true g).map (Op.ghost ax true) ++
        (subGhosts L c ax false g).map (Op.ghost ax false) = piece L c g ax := by
  simp only [piece, subFaces, subGhosts, upOps, downOps, List.map_append, List.map_map,
    Function.comp_def, if_true, Bool.false_eq_true, if_false]
  -- with an upper neighbour `upOps` is the second half of the pair calls and there are no upper
  -- boundary calls; without one it is the upper boundary calls and the pair calls end after the
  -- inner loop nest.  The lower boundary calls exist iff there is no lower neighbour.
  cases hn : ngbUp L ax g <;> cases hd : (ngbDown L ax g).isNone <;> simp <;> rfl

theorem layoutOps_perm_pieces :
    (layoutOps L c).Perm ((allSubs L).flatMap fun g => axes.flatMap (piece L c g)) := by
  refine List.Perm.trans ?_ (flatMap_comm_perm axes (allSubs L) (fun ax g => piece L c g ax))
  unfold layoutOps
  refine List.Perm.flatMap_left _ (fun ax _ => ?_)
  simp only [allFaces, allGhosts, List.map_flatMap]
  refine ((List.flatMap_append_perm _ _ _).append_right _).trans
    ((List.flatMap_append_perm _ _ _).trans ?_)
  exact List.Perm.of_eq (List.flatMap_congr fun g _ => piece_eq g ax)

theorem phase_ops_eq (k : Nat) :
    (phaseTasks L k).flatMap (taskOps L c) = (allSubs L).flatMap fun g =>
      ((allSlots.filter (slotExists L g)).filter (fun s => phase s = k)).flatMap
        (fun s => taskOps L c ⟨g, s⟩) := by
  unfold phaseTasks allTasks
  rw [List.filter_flatMap, List.flatMap_assoc]
  refine List.flatMap_congr fun g _ => ?_
  rw [List.filter_map, List.flatMap_map]
  rfl

/-- the seven slots of a sweep phase `k`, in the order of `allSlots`: the internal sweep `si`, per
axis the sweep `su ax` over the upper face and the sweep `sd ax` at the lower box boundary, which
exists only without a lower neighbour -/
structure SweepSlots (L : Layout) (c : Cells) (k : Nat) (si : Slot) (su sd : Axis → Slot) :
    Prop where
  slots : allSlots.filter (fun s => phase s = k) = si :: axes.flatMap fun ax => [su ax, sd ax]
  int : ∀ g, taskOps L c ⟨g, si⟩ = innerOps c g ∧ slotExists L g si = true
  up : ∀ g ax, taskOps L c ⟨g, su ax⟩ = upOps L c ax g ∧ slotExists L g (su ax) = true
  down : ∀ g ax, taskOps L c ⟨g, sd ax⟩ = downOps c ax g ∧
    slotExists L g (sd ax) = (ngbDown L ax g).isNone

theorem gradSlots : SweepSlots L c 0 .gradInt .gradUp .gradDown :=
  ⟨by decide, fun _ => ⟨rfl, rfl⟩, fun _ _ => ⟨rfl, rfl⟩, fun _ _ => ⟨rfl, rfl⟩⟩

theorem fluxSlots : SweepSlots L c 3 .fluxInt .fluxUp .fluxDown :=
  ⟨by decide, fun _ => ⟨rfl, rfl⟩, fun _ _ => ⟨rfl, rfl⟩, fun _ _ => ⟨rfl, rfl⟩⟩

theorem sweep_phase_ops_perm {k : Nat} {si : Slot} {su sd : Axis → Slot}
    (h : SweepSlots L c k si su sd) :
    ((phaseTasks L k).flatMap (taskOps L c)).Perm (layoutOps L c) := by
  obtain ⟨hs, hi, hu, hd⟩ := h
  rw [phase_ops_eq]
  refine (List.Perm.flatMap_left _ fun g _ => ?_).trans layoutOps_perm_pieces.symm
  have hax : ∀ ax, (([su ax, sd ax].filter (slotExists L g)).flatMap fun s => taskOps L c ⟨g, s⟩)
      = upOps L c ax g ++ if (ngbDown L ax g).isNone then downOps c ax g else [] := by
    intro ax
    rw [List.filter_cons_of_pos (hu g ax).2, List.flatMap_cons, (hu g ax).1, List.filter_cons,
      (hd g ax).2]
    cases (ngbDown L ax g).isNone <;> simp [(hd g ax).1]
  rw [List.filter_comm, hs, List.filter_cons_of_pos (hi g).2, List.flatMap_cons, (hi g).1,
    List.filter_flatMap, List.flatMap_assoc]
  simp only [hax, innerOps]
  refine (List.flatMap_append_perm axes _ _).trans (List.Perm.of_eq ?_)
  exact congrArg (List.flatMap · axes) (funext fun ax => (List.append_assoc _ _ _).symm)

/-! ### the phase-by-phase schedule computes `hydroStep` on the cells of the grid

Both are a fold over the six phases; a per-cell task maps only the cells of its subgrid, so the two
states agree on the cells of the grid and nowhere else. -/

/-- phase `k` of `hydroStep` with the calls `ops` -/
noncomputable def stepPhase (flux : FluxFn ℝ) (pr : Params ℝ) (limiter : HV ℝ → Grad ℝ)
    (predict : HV ℝ → Q ℝ) (ops : List Op) (k : Nat) (s : Grid (HV ℝ)) : Grid (HV ℝ) :=
  if k = 0 then runOps (gradPhys pr) s ops
  else if k = 3 then runOps (fluxPhys flux pr) s ops
  else mapCells (phaseFn pr limiter predict k) s

theorem hydroStep_eq_phases (ops : List Op) (s : Grid (HV ℝ)) :
    hydroStep flux pr limiter predict ops ops s
      = (List.range 6).foldl (fun s k => stepPhase flux pr limiter predict ops k s) s :=
  rfl  -- `List.range 6` and the `if k = …` of `stepPhase` and `phaseFn` evaluate

/-- states that agree on the cells of the grid -/
def AgreeOn (L : Layout) (c : Cells) (s t : Grid (HV ℝ)) : Prop :=
  ∀ x, valid (cellGrid L c) x = true → s x = t x

theorem map_phase_agree {k : Nat} (hk : IsCellPhase k) (h5 : k ≤ 5) {s t : Grid (HV ℝ)}
    (hst : AgreeOn L c s t) :
    AgreeOn L c (runSchedule flux pr limiter predict L c (phaseTasks L k) s)
      (mapCells (phaseFn pr limiter predict k) t) := by
  intro x hx
  rw [run_map_tasks k hk (phaseTasks L k)
    ((allTasks_nodup L).filter _) (fun t ht => (mem_phaseTasks.mp ht).2),
    if_pos (exists_phase_task hk h5 hx), hst x hx]
  rfl

theorem sweep_phase_agree {κ ρ : Type} {P : Phys (HV ℝ) κ} (A : Accum P ρ) (k : Nat)
    (hexec : ∀ t ∈ phaseTasks L k, ∀ s,
      execTask flux pr limiter predict L c t s = runOps P s (taskOps L c t))
    (hperm : ((phaseTasks L k).flatMap (taskOps L c)).Perm (layoutOps L c))
    (hc : 0 < c.cx ∧ 0 < c.cy ∧ 0 < c.cz) {s t : Grid (HV ℝ)} (hst : AgreeOn L c s t) :
    AgreeOn L c (runSchedule flux pr limiter predict L c (phaseTasks L k) s)
      (runOps P t (layoutOps L c)) := by
  rw [run_sweep_tasks P _ hexec, runOps_perm A hperm]
  exact (local_runOps P (fun x => valid (cellGrid L c) x = true) _
    (layoutOps_cells_valid L c hc)).2 s t hst

theorem phase_agree (hc : 0 < c.cx ∧ 0 < c.cy ∧ 0 < c.cz) {k : Nat} (h5 : k ≤ 5)
    {s t : Grid (HV ℝ)} (hst : AgreeOn L c s t) :
    AgreeOn L c (runSchedule flux pr limiter predict L c (phaseTasks L k) s)
      (stepPhase flux pr limiter predict (layoutOps L c) k t) := by
  unfold stepPhase
  split_ifs with h0 h3
  · subst h0
    exact sweep_phase_agree (gradAccum pr) 0 (fun t ht => execTask_grad t (mem_phaseTasks.mp ht).2)
      (sweep_phase_ops_perm gradSlots) hc hst
  · subst h3
    exact sweep_phase_agree (fluxAccum flux pr) 3
      (fun t ht => execTask_flux t (mem_phaseTasks.mp ht).2)
      (sweep_phase_ops_perm fluxSlots) hc hst
  · exact map_phase_agree ⟨h0, h3⟩ h5 hst

theorem foldl_rel {α β γ : Type} {R : β → γ → Prop} {f : β → α → β} {g : γ → α → γ} (l : List α)
    (h : ∀ a ∈ l, ∀ b c, R b c → R (f b a) (g c a)) {b : β} {c : γ} (hbc : R b c) :
    R (l.foldl f b) (l.foldl g c) := by
  induction l generalizing b c with
  | nil => exact hbc
  | cons a l ih =>
    exact ih (fun x hx => h x (List.mem_cons_of_mem _ hx)) (h a List.mem_cons_self b c hbc)

theorem phaseSched_computes_step (hc : 0 < c.cx ∧ 0 < c.cy ∧ 0 < c.cz) (s : Grid (HV ℝ)) :
    AgreeOn L c (runSchedule flux pr limiter predict L c (phaseSched L) s)
      (hydroStep flux pr limiter predict (layoutOps L c) (layoutOps L c) s) := by
  rw [hydroStep_eq_phases]
  unfold phaseSched runSchedule
  rw [List.foldl_flatMap]
  exact foldl_rel (R := AgreeOn L c) (List.range 6)
    (fun k hk _ _ hst => phase_agree hc (k := k) (by have := List.mem_range.mp hk; omega) hst)
    (fun _ _ => rfl)

/-! ### one thread -/

/-- what holds of the tasks executed so far by one thread -/
structure OneThreadInv (L : Layout) (done : List Task) : Prop where
  nodup : done.Nodup
  exist : ∀ t ∈ done, exists_ L t = true
  order : done.Pairwise fun a b => b ∉ parents L a
  closed : ∀ t ∈ done, ∀ p ∈ parents L t, p ∈ done

theorem mem_ready {L : Layout} {done : List Task} {t : Task} :
    t ∈ ready L done ↔ exists_ L t = true ∧ t ∉ done ∧ ∀ p ∈ parents L t, p ∈ done := by
  simp only [ready, List.mem_filter, mem_allTasks, Bool.and_eq_true, decide_eq_true_eq,
    List.all_eq_true]

theorem oneThreadOrder_inv (L : Layout) (pick : List Task → Option Task)
    (hpick : ∀ l t, pick l = some t → t ∈ l) (n : Nat) (done : List Task)
    (h : OneThreadInv L done) : OneThreadInv L (oneThreadOrder L pick n done) := by
  induction n generalizing done with
  | zero => exact h
  | succ n ih =>
    unfold oneThreadOrder
    cases hp : pick (ready L done) with
    | none => exact h
    | some t =>
      obtain ⟨hex, hnd, hpar⟩ := mem_ready.mp (hpick _ _ hp)
      refine ih _ ⟨?_, ?_, ?_, ?_⟩
      · exact List.nodup_append.mpr ⟨h.nodup, List.nodup_singleton t,
          fun a ha b hb hab => hnd (List.mem_singleton.mp hb ▸ hab ▸ ha)⟩
      · simp only [List.mem_append, List.mem_singleton]
        rintro u (hu | rfl)
        exacts [h.exist u hu, hex]
      · refine List.pairwise_append.mpr
          ⟨h.order, List.pairwise_singleton _ _, fun a ha b hb hab => ?_⟩
        rw [List.mem_singleton.mp hb] at hab
        exact hnd (h.closed a ha t hab)
      · simp only [List.mem_append, List.mem_singleton]
        rintro u (hu | rfl) p hp'
        exacts [Or.inl (h.closed u hu p hp'), Or.inl (hpar p hp')]

theorem oneThreadInv_nil (L : Layout) : OneThreadInv L [] :=
  ⟨List.nodup_nil, fun _ h => (List.not_mem_nil h).elim, List.Pairwise.nil,
    fun _ h => (List.not_mem_nil h).elim⟩

theorem linExt_of_oneThread {L : Layout} {done : List Task} (h : OneThreadInv L done)
    (hlen : done.length = (allTasks L).length) : LinExt L done := by
  have hsub : done ⊆ allTasks L := fun t ht => (mem_allTasks L t).mpr (h.exist t ht)
  have hperm : done.Perm (allTasks L) :=
    (List.subperm_of_subset h.nodup hsub).perm_of_length_le (by omega)
  exact ⟨h.nodup, fun t => ⟨fun ht => h.exist t ht,
    fun ht => hperm.symm.subset ((mem_allTasks L t).mpr ht)⟩, h.order⟩

end CMacVerif.HydroSchedule
