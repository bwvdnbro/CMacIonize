import CMacVerif.Model.Ranlux
import Mathlib.Tactic.Linarith
/-!
`increment_state` is `_pr` single steps: reads and writes of the state array, circular buffers as
windows of a sequence (`Window`, also used for the seeding), the bounds a step preserves, the
unrolled block as twelve single steps, the three loops as iterations of `singleStep`.
-/
namespace CMacVerif.Ranlux

theorem getD_set {α : Type} (x : Array α) (i j : Nat) (v d : α) (h : i < x.size) :
    (x.setIfInBounds i v).getD j d = if i = j then v else x.getD j d := by
  by_cases e : i = j
  · subst e; simp [Array.getD, h]
  · simp only [Array.getD_eq_getD_getElem?, Array.getElem?_setIfInBounds_ne e, if_neg e]

theorem size_wr (x : Array Int) (i : Nat) (v : Int) : (wr x i v).size = x.size :=
  Array.size_setIfInBounds

theorem rd_wr (x : Array Int) (i j : Nat) (v : Int) (h : i < x.size) :
    rd (wr x i v) j = if i = j then v else rd x j := by
  unfold rd wr; exact getD_set x i j v 0 h

theorem rd_wr_eq (x : Array Int) (i : Nat) (v : Int) (h : i < x.size) : rd (wr x i v) i = v := by
  rw [rd_wr x i i v h, if_pos rfl]

theorem rd_wr_ne (x : Array Int) (i j : Nat) (v : Int) (h : i ≠ j) :
    rd (wr x i v) j = rd x j := by
  simp only [rd, wr, Array.getD_eq_getD_getElem?, Array.getElem?_setIfInBounds_ne h]

theorem arr_ext (x y : Array Int) (hx : x.size = 12) (hy : y.size = 12)
    (h : ∀ i, i < 12 → rd x i = rd y i) : x = y := by
  apply Array.ext (by omega)
  intro i h1 h2
  have := h i (by omega)
  simp only [rd, Array.getD, h1, h2, dite_true] at this
  simpa using this

/-- the circular buffer `x` holds `f t, …, f (t + L - 1)`, `f m` at index `m % L` -/
structure Window {α : Type} (L : Nat) (x : Array α) (d : α) (f : Nat → α) (t : Nat) : Prop where
  size : x.size = L
  get : ∀ m, t ≤ m → m < t + L → x.getD (m % L) d = f m

theorem mod_ne_of_lt {L t m : Nat} (h1 : t < m) (h2 : m < t + L) : t % L ≠ m % L := fun e => by
  have := Nat.sub_mod_eq_zero_of_mod_eq e.symm
  rw [Nat.mod_eq_of_lt (by omega)] at this
  omega

theorem Window.push {α : Type} {L : Nat} {x : Array α} {d : α} {f : Nat → α} {t : Nat}
    (h : Window L x d f t) (hL : 0 < L) :
    Window L (x.setIfInBounds (t % L) (f (t + L))) d f (t + 1) := by
  refine ⟨by rw [Array.size_setIfInBounds]; exact h.size, fun m h1 h2 => ?_⟩
  rw [getD_set _ _ _ _ _ (by rw [h.size]; exact Nat.mod_lt _ hL)]
  by_cases e : m = t + L
  · rw [e, Nat.add_mod_right, if_pos rfl]
  · rw [if_neg (mod_ne_of_lt (by omega) (by omega))]
    exact h.get m (by omega) (by omega)

/-- twelve entries, each in `[0, 2^48)` -/
def Bnd (x : Array Int) : Prop := x.size = 12 ∧ ∀ i, i < 12 → 0 ≤ rd x i ∧ rd x i < B

theorem Bnd.size {x : Array Int} (h : Bnd x) : x.size = 12 := h.1

theorem Bnd.get {x : Array Int} (h : Bnd x) {i : Nat} (hi : i < 12) : 0 ≤ rd x i ∧ rd x i < B :=
  h.2 i hi

/-- the carry is 0 or one unit -/
def Cok (c : Int) : Prop := c = 0 ∨ c = 1

/-- a rounding that is exact on integers of magnitude below 2^49 (IEEE doubles: below 2^53) -/
def RExact (R : Rnd) : Prop := ∀ v : Int, -562949953421312 < v → v < 562949953421312 → R v = v

theorem exact_RExact : RExact exact := fun _ _ _ => rfl

/-- gives `omega` the numeral -/
theorem B_val : B = 281474976710656 := rfl

theorem B_nonneg : 0 ≤ B := by decide

theorem Cok.bnd {c : Int} (h : Cok c) : 0 ≤ c ∧ c ≤ 1 := by
  rcases h with h | h <;> omega

/-- a difference of two entries, less a carry, has magnitude at most `2^48`: `R` leaves it alone -/
theorem RExact.rd_sub {R : Rnd} (hR : RExact R) {x : Array Int} (hx : Bnd x) {i j : Nat}
    (hi : i < 12) (hj : j < 12) {c : Int} (hc : 0 ≤ c ∧ c ≤ 1) :
    R (rd x i - rd x j) = rd x i - rd x j ∧ R (rd x i - rd x j - c) = rd x i - rd x j - c := by
  have a := hx.get hi
  have b := hx.get hj
  rw [B_val] at a b
  exact ⟨hR _ (by omega) (by omega), hR _ (by omega) (by omega)⟩

theorem bnd_wr (x : Array Int) (i : Nat) (v : Int) (hx : Bnd x) (h0 : 0 ≤ v) (h1 : v < B) :
    Bnd (wr x i v) := by
  refine ⟨by rw [size_wr]; exact hx.size, ?_⟩
  intro j hj
  by_cases e : i = j
  · subst e; rw [rd_wr_eq x i v (by rw [hx.size]; exact hj)]; exact ⟨h0, h1⟩
  · rw [rd_wr_ne x i j v e]; exact hx.get hj

theorem rd_zeros (i : Nat) : rd (Array.replicate 12 (0 : Int)) i = 0 := by
  simp [rd, Array.getD]

theorem bnd_zeros : Bnd (Array.replicate 12 0) :=
  ⟨Array.size_replicate, fun i _ => by rw [rd_zeros, B_val]; omega⟩

/-- a difference `d ∈ [-B, B)` brought back into `[0, B)`, and the borrow this takes -/
def borrow (d : Int) : Int × Int := if d < 0 then (d + B, 1) else (d, 0)

theorem borrow_fst (d : Int) : (borrow d).1 = d + B * (borrow d).2 := by
  unfold borrow; split <;> simp

theorem borrow_cok (d : Int) : Cok (borrow d).2 := by
  unfold borrow; split
  · exact Or.inr rfl
  · exact Or.inl rfl

theorem borrow_bnd (d : Int) (h0 : -B ≤ d) (h1 : d < B) : 0 ≤ (borrow d).1 ∧ (borrow d).1 < B := by
  unfold borrow; split
  · exact ⟨by dsimp only; omega, by dsimp only; omega⟩
  · exact ⟨by dsimp only; omega, h1⟩

theorem borrow_inj (d d' : Int) (h : borrow d = borrow d') : d = d' := by
  have a := borrow_fst d
  have b := borrow_fst d'
  rw [h] at a
  exact add_right_cancel (a.symm.trans b)

theorem sb_exact (x : Array Int) (c : Int) (ir jr : Nat) :
    sb exact x c ir jr =
      (wr x ir (borrow (rd x jr - rd x ir - c)).1, (borrow (rd x jr - rd x ir - c)).2) := by
  unfold sb borrow exact
  dsimp only
  split <;> rfl

theorem sb_size (x : Array Int) (c : Int) (ir jr : Nat) :
    (sb exact x c ir jr).1.size = x.size := by
  rw [sb_exact]; exact size_wr _ _ _

/-- what a single step needs and keeps; `Inv` (RanluxStream) adds where `jr` stands and the luxury
(`Inv.good`) -/
structure Good (s : State) : Prop where
  bnd : Bnd s.x
  cok : Cok s.carry
  ir : s.ir < 12
  jr : s.jr < 12

/-- `xdbl[jr] - xdbl[ir] - carry`, not yet brought back into `[0, B)` -/
def diff (s : State) : Int := rd s.x s.jr - rd s.x s.ir - s.carry

theorem singleStep_x (s : State) : (singleStep s).x = wr s.x s.ir (borrow (diff s)).1 :=
  congrArg Prod.fst (sb_exact s.x s.carry s.ir s.jr)

theorem singleStep_carry (s : State) : (singleStep s).carry = (borrow (diff s)).2 :=
  congrArg Prod.snd (sb_exact s.x s.carry s.ir s.jr)

theorem diff_bnd (s : State) (h : Good s) : -B ≤ diff s ∧ diff s < B := by
  have a := h.bnd.get h.ir
  have b := h.bnd.get h.jr
  have := h.cok.bnd
  unfold diff
  omega

theorem singleStep_good (s : State) (h : Good s) : Good (singleStep s) := by
  have d := diff_bnd s h
  have b := borrow_bnd _ d.1 d.2
  exact ⟨by rw [singleStep_x]; exact bnd_wr _ _ _ h.bnd b.1 b.2,
    by rw [singleStep_carry]; exact borrow_cok _, Nat.mod_lt _ (by omega), Nat.mod_lt _ (by omega)⟩

theorem RExact.diff_add {R : Rnd} (hR : RExact R) {s : State} (h : Good s) :
    R (diff s + B) = diff s + B := by
  have d := diff_bnd s h
  rw [B_val] at d ⊢
  exact hR _ (by omega) (by omega)

/-- the store that ends `sb` and the unrolled block, the difference already formed -/
theorem sb_tail_exact (R : Rnd) (hR : RExact R) (s : State) (h : Good s) :
    (if diff s < 0 then (wr s.x s.ir (R (diff s + B)), 1) else (wr s.x s.ir (diff s), 0))
      = sb exact s.x s.carry s.ir s.jr := by
  rw [hR.diff_add h]
  rfl

theorem sb_R (R : Rnd) (hR : RExact R) (s : State) (h : Good s) :
    sb R s.x s.carry s.ir s.jr = sb exact s.x s.carry s.ir s.jr := by
  obtain ⟨e1, e2⟩ := hR.rd_sub h.bnd h.jr h.ir h.cok.bnd
  unfold sb
  simp only [e1, e2]
  exact sb_tail_exact R hR s h

theorem iter_succ {α : Type} (f : α → α) (n : Nat) (a : α) : iter f (n + 1) a = f (iter f n a) := by
  induction n generalizing a with
  | zero => rfl
  | succ n ih => rw [iter, ih, ← iter]

theorem iter_add {α : Type} (f : α → α) (a b : Nat) (s : α) :
    iter f (a + b) s = iter f b (iter f a s) := by
  induction a generalizing s with
  | zero => rw [Nat.zero_add]; rfl
  | succ a ih => rw [Nat.add_right_comm, iter, ih, ← iter]

theorem iter_good (n : Nat) (s : State) (h : Good s) : Good (iter singleStep n s) := by
  induction n generalizing s with
  | zero => exact h
  | succ n ih => exact ih _ (singleStep_good s h)

theorem singleStep_ir (s : State) : (singleStep s).ir = (s.ir + 1) % 12 := by unfold singleStep; rfl
theorem singleStep_jr (s : State) : (singleStep s).jr = (s.jr + 1) % 12 := by unfold singleStep; rfl

theorem iter_eta (n : Nat) (s : State) (hi : s.ir < 12) (hj : s.jr < 12) :
    iter singleStep n s = ⟨(iter singleStep n s).x, (iter singleStep n s).carry,
      (s.ir + n) % 12, (s.jr + n) % 12, s.irOld, s.pr⟩ := by
  induction n generalizing s with
  | zero => rw [Nat.add_zero, Nat.add_zero, Nat.mod_eq_of_lt hi, Nat.mod_eq_of_lt hj]; rfl
  | succ n ih =>
    have := ih (singleStep s) (Nat.mod_lt _ (by omega)) (Nat.mod_lt _ (by omega))
    rw [singleStep_ir, singleStep_jr, Nat.mod_add_mod, Nat.mod_add_mod, Nat.add_assoc,
      Nat.add_assoc, Nat.add_comm 1] at this
    exact this

theorem iter_ir (n : Nat) (s : State) (h : Good s) : (iter singleStep n s).ir = (s.ir + n) % 12 :=
  congrArg State.ir (iter_eta n s h.ir h.jr)

theorem iter_jr (n : Nat) (s : State) (h : Good s) : (iter singleStep n s).jr = (s.jr + n) % 12 :=
  congrArg State.jr (iter_eta n s h.ir h.jr)

theorem iter_pr (n : Nat) (s : State) : (iter singleStep n s).pr = s.pr := by
  induction n generalizing s with
  | zero => rfl
  | succ n ih => exact ih (singleStep s)  -- `singleStep` copies `pr`

/-- one `ranlux_step` whose pending value is the not yet normalised difference of the single
step is that single step, and leaves the pending value of the next one -/
theorem rstep_eq (R : Rnd) (hR : RExact R) (s : State) (h : Good s) (i1 i2 : Nat)
    (h1 : i1 < 12) (h2 : i2 < 12) (n1 : s.ir ≠ i1) (n2 : s.ir ≠ i2) :
    rstep R s.x (diff s) i1 i2 s.ir =
      ((singleStep s).x, rd (singleStep s).x i1 - rd (singleStep s).x i2 - (singleStep s).carry,
       rd (singleStep s).x s.ir) := by
  obtain ⟨e1, e2⟩ := hR.rd_sub h.bnd h1 h2 (c := 1) ⟨zero_le_one, le_rfl⟩
  have e3 := hR.diff_add h
  have hs : s.ir < s.x.size := by rw [h.bnd.size]; exact h.ir
  rw [singleStep_x, singleStep_carry]
  unfold rstep borrow
  simp only [e1, e2, e3]
  split
  · simp only [rd_wr_eq _ _ _ hs, rd_wr_ne _ _ _ _ n1, rd_wr_ne _ _ _ _ n2]
  · simp only [rd_wr_eq _ _ _ hs, rd_wr_ne _ _ _ _ n1, rd_wr_ne _ _ _ _ n2, Int.sub_zero]

/-- the rest of the unrolled block from position `k` on: `n` calls of `ranlux_step` with pending
value `y`, then the final store.  The call at position `k` reads at `(k + 8) % 12` and `k + 1`
(`jr + 1`, `ir + 1` of step `k`: it prepares the next difference) and stores at `k` (`ir`). -/
def blockFrom (R : Rnd) : Nat → Nat → Array Int → Int → Array Int × Int
  | 0, k, x, y => if y < 0 then (wr x k (R (y + B)), 1) else (wr x k y, 0)
  | n + 1, k, x, y =>
    let (x, y, _) := rstep R x y ((k + 8) % 12) (k + 1) k
    blockFrom R n (k + 1) x y

theorem blockFrom_eq (R : Rnd) (hR : RExact R) : ∀ (n : Nat) (s : State),
    Good s → s.jr = (s.ir + 7) % 12 → s.ir + n < 12 →
    blockFrom R n s.ir s.x (diff s) =
      ((iter singleStep (n + 1) s).x, (iter singleStep (n + 1) s).carry) := by
  intro n
  induction n with
  | zero => intro s hg _ _; exact sb_tail_exact R hR s hg
  | succ n ih =>
    intro s hg hj hn
    have ei : (singleStep s).ir = s.ir + 1 := Nat.mod_eq_of_lt (by omega)
    have ej : (singleStep s).jr = (s.ir + 8) % 12 := by rw [singleStep_jr, hj, Nat.mod_add_mod]
    have := ih (singleStep s) (singleStep_good s hg) (by rw [ei, ej]) (by rw [ei]; omega)
    unfold diff at this
    rw [ei, ej] at this
    rw [blockFrom, rstep_eq R hR s hg _ _ (Nat.mod_lt _ (by omega)) (by omega) (by omega)
      (by omega)]
    exact this

theorem block_eq_blockFrom (R : Rnd) (x : Array Int) (c : Int) :
    block R x c = blockFrom R 11 0 x (R (R (rd x 7 - rd x 0) - c)) := by
  unfold block
  simp only [blockFrom, Nat.reduceAdd, Nat.reduceMod]

theorem block_eq (R : Rnd) (hR : RExact R) (s : State) (hg : Good s) (hi : s.ir = 0)
    (hj : s.jr = 7) :
    block R s.x s.carry = ((iter singleStep 12 s).x, (iter singleStep 12 s).carry) := by
  obtain ⟨e1, e2⟩ := hR.rd_sub hg.bnd (i := 7) (j := 0) (by omega) (by omega) hg.cok.bnd
  have := blockFrom_eq R hR 11 s hg (by rw [hi, hj]) (by omega)
  unfold diff at this
  rw [hi, hj] at this
  rw [block_eq_blockFrom, e1, e2]
  exact this

theorem loop1_spec (R : Rnd) (hR : RExact R) : ∀ (f : Nat) (s : State) (k n : Nat),
    Good s → n = (12 - s.ir) % 12 → n ≤ f →
    loop1 R f s.x s.carry s.ir s.jr k =
      ((iter singleStep n s).x, (iter singleStep n s).carry, (iter singleStep n s).ir,
       (iter singleStep n s).jr, k + n) := by
  intro f
  induction f with
  | zero =>
    intro s k n _ _ hf
    rw [Nat.le_zero.mp hf]; rfl
  | succ f ih =>
    intro s k n hg hn hf
    have hi : s.ir < 12 := hg.ir
    by_cases h0 : s.ir > 0
    · obtain ⟨m, rfl⟩ : ∃ m, n = m + 1 := ⟨n - 1, by omega⟩
      rw [loop1, if_pos h0, sb_R R hR s hg, iter, ← Nat.add_assoc, Nat.add_right_comm k]
      exact ih (singleStep s) (k + 1) m (singleStep_good s hg) (by rw [singleStep_ir]; omega)
        (by omega)
    · obtain rfl : n = 0 := by omega
      rw [loop1, if_neg h0]; rfl

theorem loop3_spec (R : Rnd) (hR : RExact R) (pr : Nat) : ∀ (f : Nat) (s : State) (k n : Nat),
    Good s → n = pr - k → n ≤ f →
    loop3 R pr f s.x s.carry s.ir s.jr k =
      ((iter singleStep n s).x, (iter singleStep n s).carry, (iter singleStep n s).ir,
       (iter singleStep n s).jr) := by
  intro f
  induction f with
  | zero =>
    intro s k n _ _ hf
    rw [Nat.le_zero.mp hf]; rfl
  | succ f ih =>
    intro s k n hg hn hf
    by_cases h0 : k < pr
    · obtain ⟨m, rfl⟩ : ∃ m, n = m + 1 := ⟨n - 1, by omega⟩
      rw [loop3, if_pos h0, sb_R R hR s hg, iter]
      exact ih (singleStep s) (k + 1) m (singleStep_good s hg) (by omega) (by omega)
    · obtain rfl : n = 0 := by omega
      rw [loop3, if_neg h0]; rfl

theorem loop2_spec (R : Rnd) (hR : RExact R) (pr : Nat) : ∀ (f : Nat) (s : State) (k m : Nat),
    Good s → s.ir = 0 → s.jr = 7 → m = (pr - k) / 12 → m ≤ f →
    loop2 R pr f s.x s.carry k =
      ((iter singleStep (12 * m) s).x, (iter singleStep (12 * m) s).carry, k + 12 * m) := by
  intro f
  induction f with
  | zero =>
    intro s k m _ _ _ _ hf
    rw [Nat.le_zero.mp hf]; rfl
  | succ f ih =>
    intro s k m hg hi hj hm hf
    by_cases h0 : k + 12 ≤ pr
    · obtain ⟨m, rfl⟩ : ∃ m', m = m' + 1 := ⟨m - 1, by omega⟩
      rw [loop2, if_pos h0, block_eq R hR s hg hi hj, Nat.mul_succ, Nat.add_comm (12 * m),
        iter_add, ← Nat.add_assoc]
      exact ih (iter singleStep 12 s) (k + 12) m (iter_good 12 s hg)
        (by rw [iter_ir 12 s hg, hi]) (by rw [iter_jr 12 s hg, hj]) (by omega) (by omega)
    · obtain rfl : m = 0 := by omega
      rw [loop2, if_neg h0]; rfl

/-- `increment_state` performs exactly `_pr` single steps and records the new read index
(the first loop alone takes up to 11 of them) -/
theorem incrementState_eq (R : Rnd) (hR : RExact R) (s : State) (hg : Good s)
    (hj : s.jr = (s.ir + 7) % 12) (hp : 11 ≤ s.pr) :
    incrementState R s =
      { iter singleStep s.pr s with irOld := (iter singleStep s.pr s).ir } := by
  have hi := hg.ir
  -- the first loop runs `n1` steps up to position 0, the second `12 * m` steps: the whole blocks
  obtain ⟨n1, hn1⟩ : ∃ n, n = (12 - s.ir) % 12 := ⟨_, rfl⟩
  obtain ⟨m, hm⟩ : ∃ m, m = (s.pr - n1) / 12 := ⟨_, rfl⟩
  have i1 : (iter singleStep n1 s).ir = 0 := by
    rw [iter_ir _ _ hg, hn1, Nat.add_mod_mod, Nat.add_sub_cancel' hi.le, Nat.mod_self]
  have j1 : (iter singleStep n1 s).jr = 7 := by
    rw [iter_jr _ _ hg, hn1, hj, ← Nat.add_mod, Nat.add_right_comm, Nat.add_sub_cancel' hi.le]
  have g1 := iter_good n1 s hg
  have i2 : (iter singleStep (n1 + 12 * m) s).ir = 0 := by
    rw [iter_add, iter_ir _ _ g1, i1, Nat.zero_add, Nat.mul_mod_right]
  have j2 : (iter singleStep (n1 + 12 * m) s).jr = 7 := by
    rw [iter_add, iter_jr _ _ g1, j1, Nat.add_mul_mod_self_left]
  have h3 := loop3_spec R hR s.pr s.pr _ (n1 + 12 * m) _ (iter_good (n1 + 12 * m) s hg) rfl
    (by omega)
  rw [i2, j2, ← iter_add, show n1 + 12 * m + (s.pr - (n1 + 12 * m)) = s.pr by omega] at h3
  unfold incrementState
  rw [loop1_spec R hR 12 s 0 n1 hg hn1 (by omega)]
  dsimp only
  rw [Nat.zero_add, loop2_spec R hR s.pr s.pr _ n1 m g1 i1 j1 hm (by omega), ← iter_add]
  rw [i1, j1, h3, iter_pr]

end CMacVerif.Ranlux
