import CMacVerif.Lemmas.PhotonInv
/-! C01: the two composite labels -- `contFinish` (creates the flush tasks) and `execTraverse`
(fold of the per-direction step over the 27 output directions) -- preserve the structural invariant and
the weight; with that, every label does (`step_inv`). -/
namespace CMacVerif.Photon
open CMacVerif.Worker (sumOver sumOver_congr)

/-- `s'` is `s` except for the buffer pool, the task table, the active entries and the two counters of the
continuous source -/
def SameOther (s s' : State) : Prop :=
  s' = { s with pool := s'.pool, tasks := s'.tasks, active := s'.active, contLeft := s'.contLeft,
                flushCount := s'.flushCount }

theorem SameOther.refl (s : State) : SameOther s s := rfl
theorem SameOther.trans {a b c : State} (h1 : SameOther a b) (h2 : SameOther b c) : SameOther a c := by
  unfold SameOther at h1 h2 ⊢
  rw [h2, h1]
theorem SameOther.cont {s s' : State} (h : SameOther s s') : s'.cont = s.cont := by rw [h]
theorem SameOther.srcLeft {s s' : State} (h : SameOther s s') : s'.srcLeft = s.srcLeft := by rw [h]
theorem SameOther.contPool {s s' : State} (h : SameOther s s') : s'.contPool = s.contPool := by rw [h]
theorem SameOther.done {s s' : State} (h : SameOther s s') : s'.done = s.done := by rw [h]
theorem SameOther.run {s s' : State} (h : SameOther s s') : s'.run = s.run := by rw [h]
theorem SameOther.largest {s s' : State} (h : SameOther s s') : s'.largest = s.largest := by rw [h]

structure FlushFrame (cfg : Cfg) (s s' : State) : Prop where
  pool : s'.pool = s.pool
  active : s'.active = s.active
  rest : SameOther s s'
  tasks : ∀ u, s'.tasks u = s.tasks u ∨
    (s.tasks u = none ∧ u < cfg.taskCap ∧ ∃ c, c < cfg.nblocks ∧ s'.tasks u = some ⟨.flush c, .queued⟩)

theorem FlushFrame.tasksKeep {cfg : Cfg} {s s' : State} (h : FlushFrame cfg s s') (u : Nat) (hu : s.tasks u ≠ none) :
    s'.tasks u = s.tasks u := by
  rcases h.tasks u with e | ⟨e, _⟩
  · exact e
  · exact absurd e hu

/-- the new flush tasks carry no packets and refer to no buffer -/
theorem FlushFrame.inv {cfg : Cfg} {s s' : State} (h : FlushFrame cfg s s') (hi : Inv cfg s) :
    Inv cfg s' ∧ ∀ w, weight cfg w s' = weight cfg w s := by
  refine ⟨⟨own_same hi.own h.pool ?_, ?_, contOK_same hi.ct h.rest.cont⟩, ?_⟩
  · intro x
    cases x with
    | act g i => simp only [refBuf, h.active]
    | task u =>
      rcases h.tasks u with e | ⟨e0, _, c, _, e1⟩
      · simp only [refBuf, e]
      · simp only [refBuf, e0, e1, kindBuf_flush]
  · intro u tk hu
    rcases h.tasks u with e | ⟨_, hcap, c, hc, e1⟩
    · exact hi.tk u tk (e ▸ hu)
    · rw [e1] at hu; injection hu with hu; subst hu; exact ⟨hcap, hc⟩
  · intro w
    simp only [weight, h.pool, h.rest.cont, h.rest.srcLeft, h.rest.contPool, h.rest.done]
    congr 3
    apply sumOver_congr
    intro u _
    rcases h.tasks u with e | ⟨e0, _, c, _, e1⟩
    · rw [e]
    · rw [e0, e1]; rfl

theorem addFlush_frame {cfg : Cfg} : ∀ (fl : List Nat) (s s' : State) (c : Nat), c + fl.length ≤ cfg.nblocks →
    addFlush cfg s c fl = some s' → FlushFrame cfg s s' ∧ s'.contLeft = s.contLeft ∧ s'.flushCount = s.flushCount ∧
      ∀ j, j < fl.length → ∃ t, s'.tasks t = some ⟨.flush (c + j), .queued⟩ := by
  intro fl
  induction fl with
  | nil =>
    intro s s' c _ h
    injection h with h; subst h
    exact ⟨⟨rfl, rfl, SameOther.refl _, fun _ => Or.inl rfl⟩, rfl, rfl, fun _ hj => nomatch hj⟩
  | cons t ts ih =>
    intro s s' c hc h
    simp only [addFlush] at h
    split_ifs at h with hf
    have hf' := (taskFree_iff cfg s t).mp hf
    rw [List.length_cons] at hc
    obtain ⟨hfr, h1, h2, hts⟩ := ih _ s' (c + 1) (by omega) h
    -- the task created first is not overwritten by the later ones: its slot is no longer free
    have ht : s'.tasks t = some ⟨.flush c, .queued⟩ := (hfr.tasksKeep t (by simp)).trans (upd_same _ _ _)
    refine ⟨⟨hfr.pool, hfr.active, hfr.rest, fun u => ?_⟩, h1, h2, fun j hj => ?_⟩
    · by_cases hu : u = t
      · subst hu
        exact Or.inr ⟨hf'.2, hf'.1, c, by omega, ht⟩
      · rcases hfr.tasks u with e | ⟨e, hr⟩
        · exact Or.inl (e.trans (upd_other _ _ _ hu))
        · exact Or.inr ⟨(upd_other _ _ _ hu).symm.trans e, hr⟩
    · cases j with
      | zero => exact ⟨t, ht⟩
      | succ j =>
        obtain ⟨u, hu⟩ := hts j (Nat.lt_of_succ_lt_succ hj)
        exact ⟨u, by rw [hu, Nat.add_assoc, Nat.add_comm 1]⟩

/-- `s2`: the state before the finished task is removed -/
theorem step_contFinish {cfg : Cfg} {s s' : State} {t : Nat} {fl : List Nat} (h : step cfg s (.contFinish t fl) = some s') :
    ∃ c n s2, s.tasks t = some ⟨.contSource c n [], .running⟩ ∧ n ≤ s.contLeft ∧
      (∀ g, g < cfg.norig → (s.cont (c, g)).length < BUFSZ) ∧
      s' = { s2 with tasks := upd s2.tasks t none } ∧ FlushFrame cfg s s2 ∧ s2.contLeft = s.contLeft - n ∧
      ((s.contLeft - n = 0 ∧ s.flushCount = 0 ∧ s2.flushCount = 1 ∧
          ∀ j, j < cfg.nblocks → ∃ u, s2.tasks u = some ⟨.flush j, .queued⟩) ∨
       (s.contLeft - n = 0 ∧ s.flushCount ≠ 0 ∧ s2.flushCount = s.flushCount + 1 ∧ s2.tasks = s.tasks) ∨
       (s.contLeft - n ≠ 0 ∧ s2.flushCount = s.flushCount ∧ s2.tasks = s.tasks)) := by
  dsimp only [step] at h
  split at h
  · rename_i c n hk
    obtain ⟨hg, h⟩ := Option.ite_none_right_eq_some.mp h
    split at h
    · rename_i s2 hs2
      cases h
      refine ⟨c, n, s2, hk, hg.2, fun g hg' => of_decide_eq_true (List.all_eq_true.mp hg.1 g (List.mem_range.mpr hg')),
        rfl, ?_⟩
      have hsame : ∀ fc, FlushFrame cfg s { s with contLeft := s.contLeft - n, flushCount := fc } := fun _ =>
        ⟨rfl, rfl, rfl, fun _ => Or.inl rfl⟩
      by_cases h0 : s.contLeft - n = 0
      · rw [if_pos h0] at hs2
        by_cases hf : s.flushCount = 0
        · rw [if_pos hf] at hs2
          obtain ⟨hl, hs2⟩ := Option.ite_none_right_eq_some.mp hs2
          obtain ⟨hfr, h1, h2, hfl⟩ := addFlush_frame fl _ s2 0 (by omega) hs2
          -- `hfr` starts from `s` with the two counters set, which the frame ignores
          refine ⟨⟨hfr.pool, hfr.active, hfr.rest, hfr.tasks⟩, h1, Or.inl ⟨h0, hf, h2, fun j hj => ?_⟩⟩
          simpa only [Nat.zero_add] using hfl j (by omega)
        · rw [if_neg hf] at hs2
          cases hs2
          exact ⟨hsame _, rfl, Or.inr (Or.inl ⟨h0, hf, rfl, rfl⟩)⟩
      · rw [if_neg h0] at hs2
        cases hs2
        exact ⟨hsame _, rfl, Or.inr (Or.inr ⟨h0, rfl, rfl⟩)⟩
    · cases h
  · cases h

theorem addPhotons_fst (old L : List Nat) : (addPhotons old L).1 = old ++ L.take (BUFSZ - old.length) := rfl
theorem addPhotons_snd (old L : List Nat) : (addPhotons old L).2 = L.drop (BUFSZ - old.length) := rfl

theorem addPhotons_wsum (w : Nat → Nat) (old L : List Nat) :
    wsum w (addPhotons old L).1 + wsum w (addPhotons old L).2 = wsum w old + wsum w L := by
  rw [addPhotons_fst, addPhotons_snd, wsum_append, Nat.add_assoc, wsum_take_drop]

theorem addPhotons_fst_length (old L : List Nat) :
    (addPhotons old L).1.length = old.length + min (BUFSZ - old.length) L.length := by
  rw [addPhotons_fst, List.length_append, List.length_take]

theorem addPhotons_len (old L : List Nat) (h : old.length ≤ BUFSZ) : (addPhotons old L).1.length ≤ BUFSZ := by
  rw [addPhotons_fst_length]
  omega

theorem addPhotons_ne_nil (old L : List Nat) (h : old.length < BUFSZ) (hL : L ≠ []) : (addPhotons old L).1 ≠ [] := by
  apply List.ne_nil_of_length_pos
  have := List.length_pos_iff.mpr hL
  rw [addPhotons_fst_length]
  omega

theorem addPhotons_rest_nil (old L : List Nat) (h : old.length ≤ BUFSZ) (hn : (addPhotons old L).1.length ≠ BUFSZ) :
    (addPhotons old L).2 = [] := by
  rw [addPhotons_fst_length] at hn
  rw [addPhotons_snd]
  exact List.drop_eq_nil_of_le (by omega)

theorem addPhotons_rest_len (old L : List Nat) (h : old.length ≤ BUFSZ) (hL : L.length ≤ BUFSZ) :
    (addPhotons old L).2.length ≤ old.length := by
  rw [addPhotons_snd, List.length_drop]; omega

def fillKeep (s : State) (g i a : Nat) (b1 : Buf) : State :=
  { s with pool := upd s.pool a (some b1), active := upd2 s.active g i (some a) }
def fillLaunch (s : State) (g i a : Nat) (b1 : Buf) (nt : Nat) (k : Kind) : State :=
  { s with pool := upd s.pool a (some b1), tasks := upd s.tasks nt (some ⟨k, .pending⟩), active := upd2 s.active g i none }
def fillLaunchRest (s : State) (g i a : Nat) (b1 : Buf) (nb : Nat) (b2 : Buf) (nt : Nat) (k : Kind) : State :=
  { s with pool := upd (upd s.pool a (some b1)) nb (some b2), tasks := upd s.tasks nt (some ⟨k, .pending⟩),
           active := upd2 s.active g i (some nb) }

theorem fillDir_cases {cfg : Cfg} {g i a sub dir : Nat} {old L : List Nat} {r : DirRes} {s s1 : State}
    (h : fillDir cfg g i a sub dir old L r s = some s1) :
    ((addPhotons old L).1.length ≠ BUFSZ ∧ s1 = fillKeep s g i a ⟨sub, dir, (addPhotons old L).1⟩) ∨
    ((addPhotons old L).1.length = BUFSZ ∧ r.nb < cfg.bufCap ∧
      upd s.pool a (some ⟨sub, dir, (addPhotons old L).1⟩) r.nb = none ∧ r.nt < cfg.taskCap ∧ s.tasks r.nt = none ∧
      (((addPhotons old L).2 = [] ∧ s1 = fillLaunch s g i a ⟨sub, dir, (addPhotons old L).1⟩ r.nt (fullKind i a)) ∨
       ((addPhotons old L).2 ≠ [] ∧
         s1 = fillLaunchRest s g i a ⟨sub, dir, (addPhotons old L).1⟩ r.nb ⟨sub, dir, (addPhotons old L).2⟩ r.nt (fullKind i a)))) := by
  dsimp only [fillDir] at h
  by_cases hfull : (addPhotons old L).1.length = BUFSZ
  · rw [if_pos hfull] at h
    by_cases hfree : (bufFree cfg { s with pool := upd s.pool a (some ⟨sub, dir, (addPhotons old L).1⟩) } r.nb
        && taskFree cfg { s with pool := upd s.pool a (some ⟨sub, dir, (addPhotons old L).1⟩) } r.nt) = true
    · rw [if_pos hfree] at h
      rw [Bool.and_eq_true, bufFree_iff, taskFree_iff] at hfree
      refine Or.inr ⟨hfull, hfree.1.1, hfree.1.2, hfree.2.1, hfree.2.2, ?_⟩
      by_cases hrest : (addPhotons old L).2.isEmpty = true
      · rw [if_pos hrest] at h
        injection h with h
        exact Or.inl ⟨List.isEmpty_iff.mp hrest, h.symm⟩
      · rw [if_neg hrest] at h
        injection h with h
        exact Or.inr ⟨fun e => hrest (List.isEmpty_iff.mpr e), h.symm⟩
    · rw [if_neg hfree] at h; cases h
  · rw [if_neg hfull] at h
    injection h with h
    exact Or.inl ⟨hfull, h.symm⟩

/-- the situation of the active buffer of direction i before the packets `L` are added -/
inductive ActiveCase (cfg : Cfg) (s : State) (g i a sub dir : Nat) (old : List Nat) : Prop where
  | existing (ha : s.active g i = some a) (hp : s.pool a = some ⟨sub, dir, old⟩)
  | fresh (ha : s.active g i = none) (hp : s.pool a = none) (hc : a < cfg.bufCap) (ho : old = [])

theorem inv_fillKeep {cfg : Cfg} {g i a sub dir : Nat} {old new : List Nat} {s : State} (hi : Inv cfg s)
    (hcase : ActiveCase cfg s g i a sub dir old) (hok : okFor cfg (.act g i) ⟨sub, dir, new⟩) :
    Inv cfg (fillKeep s g i a ⟨sub, dir, new⟩) ∧
    ∀ w, weight cfg w (fillKeep s g i a ⟨sub, dir, new⟩) + wsum w old = weight cfg w s + wsum w new := by
  cases hcase with
  | existing ha hp =>
    rw [fillKeep, upd2_eq_self ha]
    exact (Elem.refill a _ _ hp fun r' hr' => by cases hi.own.uniq r' (.act g i) a hr' ha; exact hok).account hi
  | fresh ha hp hc ho =>
    subst ho
    exact (Elem.newActive g i a _ ha hc hp hok).account hi

theorem inv_fillLaunch {cfg : Cfg} {g i a sub dir nt : Nat} {old new : List Nat} {s : State} (hi : Inv cfg s)
    (hcase : ActiveCase cfg s g i a sub dir old) (hok : okFor cfg (.task nt) ⟨sub, dir, new⟩)
    (hntc : nt < cfg.taskCap) (hntf : s.tasks nt = none) :
    Inv cfg (fillLaunch s g i a ⟨sub, dir, new⟩ nt (fullKind i a)) ∧
    ∀ w, weight cfg w (fillLaunch s g i a ⟨sub, dir, new⟩ nt (fullKind i a)) + wsum w old = weight cfg w s + wsum w new := by
  cases hcase with
  | existing ha hp =>
    obtain ⟨hiA, hwA⟩ := (Elem.activeToTask g i a nt .pending ha hntc hntf).account hi
    obtain ⟨hiB, hwB⟩ := Elem.account hiA (.refill a _ ⟨sub, dir, new⟩ hp fun r' hr' => by
      cases hiA.own.uniq r' (.task nt) a hr' (by simp only [refBuf, upd_same, fullKind_buf])
      exact hok)
    simp only [wsum_nil, Nat.add_zero] at hwA
    exact ⟨hiB, fun w => by rw [← hwA w]; exact hwB w⟩
  | fresh ha hp hc ho =>
    subst ho
    simp only [fillLaunch, upd2_eq_self ha]
    exact (Elem.newTaskBuf a nt _ _ .pending hc hp hntc hntf (fullKind_buf i a) hok).account hi

theorem fillDir_inv {cfg : Cfg} {g i a sub dir : Nat} {old L : List Nat} {r : DirRes} {s s1 : State}
    (hi : Inv cfg s) (hL : L ≠ []) (hLlen : L.length ≤ BUFSZ) (hngb : (cfg.ngb g i).isSome = true)
    (hcase : ActiveCase cfg s g i a sub dir old)
    (h : fillDir cfg g i a sub dir old L r s = some s1) :
    Inv cfg s1 ∧ ∀ w, weight cfg w s1 = weight cfg w s + wsum w L := by
  have hold : old.length < BUFSZ := by
    cases hcase with
    | existing ha hp =>
      obtain ⟨buf, hb, hok⟩ := hi.own.live (.act g i) a ha
      rw [hp] at hb; injection hb with hb; subst hb
      exact hok.2.1
    | fresh ha hp hc ho => subst ho; decide
  have hle := Nat.le_of_lt hold
  have hlen1 := addPhotons_len old L hle
  have hne1 := addPhotons_ne_nil old L hold hL
  -- what was in the buffer and what comes in is what the buffer holds now and the rest
  suffices hs : Inv cfg s1 ∧ ∀ w, weight cfg w s1 + wsum w old
      = weight cfg w s + (wsum w (addPhotons old L).1 + wsum w (addPhotons old L).2) by
    refine ⟨hs.1, fun w => ?_⟩
    have := hs.2 w
    rw [addPhotons_wsum] at this
    omega
  rcases fillDir_cases h with ⟨hnf, rfl⟩ | ⟨hfull, hnbc, hnbf, hntc, hntf, hsub⟩
  · -- not full: everything fitted
    simp only [addPhotons_rest_nil old L hle hnf, wsum_nil, Nat.add_zero]
    exact inv_fillKeep hi hcase ⟨hne1, Nat.lt_of_le_of_ne hlen1 hnf, hngb⟩
  · obtain ⟨hiE, hwE⟩ := inv_fillLaunch hi hcase ⟨hne1, hlen1⟩ hntc hntf
    rcases hsub with ⟨hrest, rfl⟩ | ⟨hrest, rfl⟩
    · -- the fresh buffer stays empty
      simp only [hrest, wsum_nil, Nat.add_zero]
      exact ⟨hiE, hwE⟩
    · -- the fresh buffer takes the rest and becomes the active buffer
      have hrl := addPhotons_rest_len old L hle hLlen
      obtain ⟨hiR, hwR⟩ := (Elem.newActive g i r.nb ⟨sub, dir, (addPhotons old L).2⟩ (upd2_same _ _ _ _) hnbc hnbf
        ⟨hrest, Nat.lt_of_le_of_lt hrl hold, hngb⟩).account hiE
      simp only [fillLaunch, upd2_upd2, wsum_nil, Nat.add_zero] at hiR hwR hwE
      exact ⟨hiR, fun w => by rw [fillLaunchRest, hwR w, Nat.add_right_comm, hwE w, Nat.add_assoc]⟩

/-- what a traversal leaves alone, whatever the direction (no invariant needed) -/
structure TravFrame (s s1 : State) : Prop where
  rest : SameOther s s1
  contLeft : s1.contLeft = s.contLeft
  flushCount : s1.flushCount = s.flushCount
  tasks : ∀ u, s1.tasks u = s.tasks u ∨
    (s.tasks u = none ∧ ∃ k, s1.tasks u = some ⟨k, .pending⟩ ∧ (kindBuf k).isSome = true)

theorem TravFrame.tasksKeep {s s1 : State} (h : TravFrame s s1) (u : Nat) (hu : s.tasks u ≠ none) :
    s1.tasks u = s.tasks u :=
  (h.tasks u).elim id fun e => absurd e.1 hu

theorem TravFrame.refl (s : State) : TravFrame s s := ⟨rfl, rfl, rfl, fun _ => Or.inl rfl⟩

theorem TravFrame.trans {a b c : State} (h1 : TravFrame a b) (h2 : TravFrame b c) : TravFrame a c := by
  refine ⟨h1.rest.trans h2.rest, h2.contLeft.trans h1.contLeft, h2.flushCount.trans h1.flushCount, fun u => ?_⟩
  rcases h1.tasks u with e1 | ⟨e0, k, e1, hk⟩
  · rw [← e1]; exact h2.tasks u
  · exact Or.inr ⟨e0, k, (h2.tasksKeep u (by simp [e1])).trans e1, hk⟩

/-- the fields a traversal direction does not touch -/
def SameRest (s s' : State) : Prop :=
  s'.cont = s.cont ∧ s'.srcLeft = s.srcLeft ∧ s'.contPool = s.contPool ∧ s'.done = s.done ∧ s'.run = s.run ∧
  s'.largest = s.largest ∧ s'.contLeft = s.contLeft ∧ s'.flushCount = s.flushCount ∧ s'.contBlock = s.contBlock

theorem TravFrame.sameRest {s s1 : State} (h : TravFrame s s1) : SameRest s s1 :=
  ⟨h.rest.cont, h.rest.srcLeft, h.rest.contPool, h.rest.done, h.rest.run, h.rest.largest, h.contLeft, h.flushCount,
    by rw [h.rest]⟩

structure DirFrame (s s1 : State) (g i : Nat) : Prop extends TravFrame s s1 where
  poolKeep : ∀ b, s.pool b ≠ none → s.active g i ≠ some b → s1.pool b = s.pool b
  actKeep : ∀ g' j, ¬(g' = g ∧ j = i) → s1.active g' j = s.active g' j

/-- The three states `fillDir` can produce (`fillKeep`, `fillLaunch`, `fillLaunchRest`): any pool `P` that keeps the other
buffers, any entry `v` for direction i, and the task table unchanged or with one new pending task. -/
theorem DirFrame.of_upd {s : State} {g i : Nat} {P : Nat → Option Buf} {T : Nat → Option Task} (v : Option Nat)
    (hP : ∀ b, s.pool b ≠ none → s.active g i ≠ some b → P b = s.pool b)
    (hT : T = s.tasks ∨ ∃ nt k, s.tasks nt = none ∧ (kindBuf k).isSome = true ∧ T = upd s.tasks nt (some ⟨k, .pending⟩)) :
    DirFrame s { s with pool := P, tasks := T, active := upd2 s.active g i v } g i := by
  refine ⟨⟨rfl, rfl, rfl, fun u => ?_⟩, hP, fun _ _ hne => upd2_other _ _ _ _ hne⟩
  rcases hT with rfl | ⟨nt, k, hnt, hk, rfl⟩
  · exact Or.inl rfl
  · by_cases e : u = nt
    · subst e; exact Or.inr ⟨hnt, k, upd_same _ _ _, hk⟩
    · exact Or.inl (upd_other _ _ _ e)

theorem fillDir_frame {cfg : Cfg} {g i a sub dir : Nat} {old L : List Nat} {r : DirRes} {s s1 : State}
    (hcase : ActiveCase cfg s g i a sub dir old)
    (h : fillDir cfg g i a sub dir old L r s = some s1) : DirFrame s s1 g i := by
  have hpa : ∀ b1 b, s.pool b ≠ none → s.active g i ≠ some b → upd s.pool a b1 b = s.pool b := by
    intro b1 b hb hnb
    apply upd_other
    intro e; subst e
    cases hcase with
    | existing ha _ => exact hnb ha
    | fresh _ hp _ _ => exact hb hp
  rcases fillDir_cases h with ⟨_, rfl⟩ | ⟨_, _, hnbf, _, hntf, hsub⟩
  · exact .of_upd _ (hpa _) (Or.inl rfl)
  · have hk : (kindBuf (fullKind i a)).isSome = true := by rw [fullKind_buf]; rfl
    rcases hsub with ⟨_, rfl⟩ | ⟨_, rfl⟩
    · exact .of_upd _ (hpa _) (Or.inr ⟨_, _, hntf, hk, rfl⟩)
    · refine .of_upd _ (fun b hb hnb => ?_) (Or.inr ⟨_, _, hntf, hk, rfl⟩)
      -- `r.nb` was free, so `b` is another buffer
      have e := hpa (some ⟨sub, dir, (addPhotons old L).1⟩) b hb hnb
      exact (upd_other _ _ _ (fun e' => hb (by rw [← e, e']; exact hnbf))).trans e

theorem travDirState_cases {cfg : Cfg} {g i : Nat} {L : List Nat} {r : DirRes} {s s1 : State}
    (h : travDirState cfg g L r i s = some s1) :
    (L = [] ∧ s1 = s) ∨ (L ≠ [] ∧ (cfg.ngb g i).isSome = true ∧ ∃ a sub dir old,
      ActiveCase cfg s g i a sub dir old ∧ fillDir cfg g i a sub dir old L r s = some s1) := by
  dsimp only [travDirState] at h
  by_cases hL : L.isEmpty = true
  · rw [if_pos hL] at h; injection h with h
    exact Or.inl ⟨List.isEmpty_iff.mp hL, h.symm⟩
  · rw [if_neg hL] at h
    refine Or.inr ⟨fun e => hL (List.isEmpty_iff.mpr e), ?_⟩
    split at h
    · cases h
    · rename_i ng hng
      refine ⟨by rw [hng]; rfl, ?_⟩
      split at h
      · rename_i a ha
        split at h
        · rename_i tb htb
          exact ⟨a, tb.sub, tb.dir, tb.ids, .existing ha htb, h⟩
        · cases h
      · rename_i ha
        by_cases hf : bufFree cfg s r.na = true
        · rw [if_pos hf] at h
          have hf' := (bufFree_iff cfg s r.na).mp hf
          exact ⟨r.na, ng, cfg.o2i i, [], .fresh ha hf'.2 hf'.1 rfl, h⟩
        · rw [if_neg hf] at h; cases h

theorem travDirState_frame {cfg : Cfg} {g i : Nat} {L : List Nat} {r : DirRes} {s s1 : State}
    (h : travDirState cfg g L r i s = some s1) : DirFrame s s1 g i := by
  rcases travDirState_cases h with ⟨_, rfl⟩ | ⟨_, _, a, sub, dir, old, hcase, hf⟩
  · exact ⟨TravFrame.refl s1, fun _ _ _ => rfl, fun _ _ _ => rfl⟩
  · exact fillDir_frame hcase hf

theorem travDirState_inv {cfg : Cfg} {g i : Nat} {L : List Nat} {r : DirRes} {s s1 : State}
    (hi : Inv cfg s) (hLlen : L.length ≤ BUFSZ) (h : travDirState cfg g L r i s = some s1) :
    Inv cfg s1 ∧ (∀ w, weight cfg w s1 = weight cfg w s + wsum w L) := by
  rcases travDirState_cases h with ⟨rfl, rfl⟩ | ⟨hL, hngb, a, sub, dir, old, hcase, hf⟩
  · exact ⟨hi, fun w => (Nat.add_zero _).symm⟩
  · exact fillDir_inv hi hL hLlen hngb hcase hf

theorem travFold_cons {cfg : Cfg} {g i : Nat} {l : List Nat} {outs : Nat → List Nat} {res : Nat → DirRes}
    {acc acc' : State × Nat × Nat} (h : foldOpt (travDir cfg g outs res) acc (i :: l) = some acc') :
    ∃ s1, travDirState cfg g (outs i) (res i) i acc.1 = some s1 ∧
      foldOpt (travDir cfg g outs res) (s1, travLargest cfg g i s1 acc.2.1 acc.2.2) l = some acc' := by
  cases hs1 : travDirState cfg g (outs i) (res i) i acc.1 with
  | none =>
    simp only [foldOpt, travDir, hs1] at h
    cases h
  | some s1 =>
    simp only [foldOpt, travDir, hs1] at h
    exact ⟨s1, rfl, h⟩

theorem travFold_frame {cfg : Cfg} {g : Nat} {outs : Nat → List Nat} {res : Nat → DirRes} :
    ∀ (l : List Nat) (acc acc' : State × Nat × Nat), foldOpt (travDir cfg g outs res) acc l = some acc' →
      TravFrame acc.1 acc'.1 := by
  intro l
  induction l with
  | nil => intro acc acc' h; injection h with h; subst h; exact TravFrame.refl _
  | cons i l ih =>
    intro acc acc' h
    obtain ⟨s1, hs1, h'⟩ := travFold_cons h
    exact (travDirState_frame hs1).toTravFrame.trans (ih _ acc' h')

theorem outsOf_cons (cfg : Cfg) (g x f : Nat) (pk : List (Nat × Nat)) (i : Nat) :
    outsOf cfg g ((x, f) :: pk) i = if dirEnabled cfg g i ∧ f = i then x :: outsOf cfg g pk i else outsOf cfg g pk i := by
  simp only [outsOf]
  by_cases he : dirEnabled cfg g i = true <;> by_cases hf : f = i <;> simp [he, hf]

theorem goneOf_cons (cfg : Cfg) (g x f : Nat) (pk : List (Nat × Nat)) :
    goneOf cfg g ((x, f) :: pk) = if dirEnabled cfg g f then goneOf cfg g pk else x :: goneOf cfg g pk := by
  simp only [goneOf]
  by_cases he : dirEnabled cfg g f = true <;> simp [he]

theorem outs_partition (cfg : Cfg) (g : Nat) (w : Nat → Nat) (pk : List (Nat × Nat)) (hf : ∀ p ∈ pk, p.2 < NDIR) :
    sumOver (List.range NDIR) (fun i => wsum w (outsOf cfg g pk i)) + wsum w (goneOf cfg g pk) = wsum w (pk.map (·.1)) := by
  induction pk with
  | nil => simp [outsOf, goneOf, sumOver_const_zero]
  | cons p pk ih =>
    obtain ⟨x, f⟩ := p
    have ih' := ih (fun p hp => hf p (List.mem_cons_of_mem _ hp))
    -- the new packet only changes the term of its own direction `f`
    have hS := Worker.sumOver_update List.nodup_range (List.mem_range.mpr (hf (x, f) List.mem_cons_self))
      (f := fun i => wsum w (outsOf cfg g pk i)) (f' := fun i => wsum w (outsOf cfg g ((x, f) :: pk) i))
      (fun i _ hi => by rw [outsOf_cons, if_neg (fun h => hi h.2.symm)])
    dsimp only at hS
    rw [outsOf_cons] at hS
    simp only [goneOf_cons, List.map_cons, wsum_cons]
    by_cases he : dirEnabled cfg g f = true
    · rw [if_pos ⟨he, rfl⟩, wsum_cons] at hS
      rw [if_pos he]
      omega
    · rw [if_neg (fun h => he h.1)] at hS
      rw [if_neg he, wsum_cons]
      omega

theorem outsOf_le (cfg : Cfg) (g : Nat) {ids : List Nat} (fates : List Nat) (h : ids.length ≤ BUFSZ) (i : Nat) :
    (outsOf cfg g (ids.zip fates) i).length ≤ BUFSZ := by
  refine Nat.le_trans (?_ : _ ≤ (ids.zip fates).length) (by rw [List.length_zip]; exact Nat.le_trans (Nat.min_le_left _ _) h)
  simp only [outsOf]
  split_ifs
  · rw [List.length_map]; exact List.length_filter_le _ _
  · exact Nat.zero_le _

theorem trav_fold {cfg : Cfg} {g t b0 : Nat} {outs : Nat → List Nat} {res : Nat → DirRes} {st : TSt} {bb : Buf}
    (houts : ∀ i, (outs i).length ≤ BUFSZ) :
    ∀ (l : List Nat) (acc acc' : State × Nat × Nat), Inv cfg acc.1 →
      acc.1.tasks t = some ⟨.traverse b0, st⟩ → acc.1.pool b0 = some bb →
      foldOpt (travDir cfg g outs res) acc l = some acc' →
      Inv cfg acc'.1 ∧ acc'.1.tasks t = some ⟨.traverse b0, st⟩ ∧ acc'.1.pool b0 = some bb ∧
      (∀ w, weight cfg w acc'.1 = weight cfg w acc.1 + sumOver l (fun i => wsum w (outs i))) ∧
      SameRest acc.1 acc'.1 := by
  intro l
  induction l with
  | nil =>
    intro acc acc' hi ht hb h
    have hrest := (travFold_frame _ acc acc' h).sameRest
    injection h with h; subst h
    exact ⟨hi, ht, hb, fun w => by simp [sumOver], hrest⟩
  | cons i l ih =>
    intro acc acc' hi ht hb h
    have hrest := (travFold_frame _ acc acc' h).sameRest
    obtain ⟨s1, hs1, h'⟩ := travFold_cons h
    have hI1 := travDirState_inv hi (houts i) hs1
    have hF1 := travDirState_frame hs1
    have ht1 : s1.tasks t = some ⟨.traverse b0, st⟩ := (hF1.tasksKeep t (by simp [ht])).trans ht
    -- the input buffer belongs to the running task, so it is not the active buffer of direction i
    have hnact : acc.1.active g i ≠ some b0 := fun e =>
      active_ne_task hi e (by rw [refBuf_task_some ht]; rfl) rfl
    have hb1 : s1.pool b0 = some bb := (hF1.poolKeep b0 (by simp [hb]) hnact).trans hb
    obtain ⟨hI2, ht2, hb2, hw2, -⟩ := ih _ acc' hI1.1 ht1 hb1 h'
    refine ⟨hI2, ht2, hb2, fun w => ?_, hrest⟩
    rw [hw2 w, hI1.2 w, CMacVerif.Worker.sumOver_cons]
    omega

theorem step_execTraverse {cfg : Cfg} {s s' : State} {t : Nat} {fates : List Nat} {res : List DirRes}
    (h : step cfg s (.execTraverse t fates res) = some s') :
    ∃ b0 buf s1 li ls, s.tasks t = some ⟨.traverse b0, .running⟩ ∧ s.pool b0 = some buf ∧
      fates.length = buf.ids.length ∧ (∀ f ∈ fates, f < NDIR) ∧
      foldOpt (travDir cfg buf.sub (outsOf cfg buf.sub (buf.ids.zip fates)) (fun i => res.getD i ⟨0, 0, 0⟩)) (s, NDIR, 0)
        (List.range NDIR) = some (s1, li, ls) ∧
      s' = { s1 with largest := upd s1.largest buf.sub (li, ls), done := s1.done ++ goneOf cfg buf.sub (buf.ids.zip fates),
                     pool := upd s1.pool b0 none, tasks := upd s1.tasks t none } := by
  dsimp only [step] at h
  split at h
  · rename_i b0 hk
    split at h
    · rename_i buf hb
      obtain ⟨hg, h⟩ := Option.ite_none_right_eq_some.mp h
      split at h
      · rename_i s1 li ls hfold
        cases h
        exact ⟨b0, buf, s1, li, ls, hk, hb, hg.1, fun f hf => of_decide_eq_true (List.all_eq_true.mp hg.2 f hf), hfold, rfl⟩
      · cases h
    · cases h
  · cases h

theorem inv_execTraverse {cfg : Cfg} {s s' : State} {t : Nat} {fates : List Nat} {res : List DirRes} (hi : Inv cfg s)
    (h : step cfg s (.execTraverse t fates res) = some s') : Inv cfg s' ∧ ∀ w, weight cfg w s' = weight cfg w s := by
  obtain ⟨b0, buf, s1, li, ls, hk, hb, hlen, hfates, hfold, rfl⟩ := step_execTraverse h
  obtain ⟨hI1, ht1, hb1, hw1, -⟩ := trav_fold (outsOf_le cfg buf.sub fates (hi.taskBuf hk rfl hb).2) (List.range NDIR) (s, NDIR, 0) (s1, li, ls) hi hk hb hfold
  obtain ⟨hI3, hw3⟩ := Seq.account (.cons (.field { s1 with largest := upd s1.largest buf.sub (li, ls) } rfl)
    (.cons (.done (goneOf cfg buf.sub (buf.ids.zip fates))) (.cons (.removeBuf t b0 _ buf ht1 rfl hb1) (.nil _)))) hI1
  refine ⟨hI3, fun w => ?_⟩
  have e := outs_partition cfg buf.sub w (buf.ids.zip fates) (fun p hp => hfates p.2 (List.of_mem_zip hp).2)
  rw [List.map_fst_zip (Nat.le_of_eq hlen.symm)] at e
  have e3 := hw3 w
  simp only [List.nil_append, List.append_nil] at e3
  rw [hw1 w, Nat.add_assoc, e] at e3
  exact Nat.add_right_cancel e3

/-- Every label is a sequence of elementary changes whose packets balance; the two loops (creation of the flush tasks,
output directions of a traversal) have lemmas of their own and the sequence follows them. -/
theorem step_inv {cfg : Cfg} {s s' : State} (l : Label) (hi : Inv cfg s) (h : step cfg s l = some s') :
    Inv cfg s' ∧ ∀ w, weight cfg w s' = weight cfg w s := by
  cases l with
  | launchBatch src t =>
    obtain ⟨rfl, hsrc, hne, ht, htn⟩ := step_launchBatch h
    refine Seq.inv (.cons (.src src _ hsrc)
      (.cons (.setTask t (some ⟨.source src ((s.srcLeft src).take BUFSZ), .queued⟩) ht (refBuf_task_none htn).symm
        ⟨take_ne_nil (by decide) hne, List.length_take_le _ _⟩) (.nil _))) (fun w => ?_) hi
    have := wsum_take_drop w (s.srcLeft src) BUFSZ
    simp only [htn, taskIds, wsum_append, wsum_nil]
    omega
  | launchCont t =>
    obtain ⟨rfl, hne, ht, htn, hnb⟩ := step_launchCont h
    have hne' := take_ne_nil (k := BUFSZ) (by decide) hne
    refine Seq.inv (.cons (.contPool (s.contPool.drop BUFSZ))
      (.cons (.setTask t (some ⟨.contSource (s.contBlock % cfg.nblocks) (s.contPool.take BUFSZ).length (s.contPool.take BUFSZ), .queued⟩)
        ht (refBuf_task_none htn).symm ⟨Nat.mod_lt _ hnb, List.length_pos_iff.mpr hne', fun _ => hne'⟩)
      (.cons (.field _ rfl) (.nil _)))) (fun w => ?_) hi
    have := wsum_take_drop w s.contPool BUFSZ
    simp only [htn, taskIds, wsum_append, wsum_nil]
    omega
  | acquire t =>
    obtain ⟨k, hk, _, rfl⟩ := step_acquire h
    exact inv_status hi hk (fun e => absurd rfl e)
  | enqueue t =>
    obtain ⟨k, hk, rfl⟩ := step_enqueue h
    exact inv_status hi hk (fun _ => nofun)
  | execSource t b t' =>
    obtain ⟨src, ids, rfl, hk, hb, hpb, ht', htt'⟩ := step_execSource h
    have hg := hi.tk t _ hk
    have hk1 : upd s.tasks t' (some ⟨.traverse b, .pending⟩) t = some ⟨.source src ids, .running⟩ :=
      upd_keep hk (htt' ▸ nofun) _
    -- first the new buffer with its traversal task, then the source task disappears
    refine Seq.inv (.cons (.newTaskBuf b t' ⟨cfg.srcSub src, 0, ids⟩ (.traverse b) .pending hb hpb ht' htt' rfl hg.2)
      (.cons (.setTask t none hg.1 (by simp only [refBuf, hk1]; rfl) trivial) (.nil _))) (fun w => ?_) hi
    simp only [hk1, taskIds, wsum_append, wsum_nil]
    omega
  | contGen t g k =>
    obtain ⟨c, n, ids, rfl, hk, hk0, hkl, hg, hc, hlen⟩ := step_contGen h
    obtain ⟨htc, hcb, hn, -⟩ := hi.contTask hk
    refine Seq.inv (.cons (.setCont (c, g) _ ((mem_pairsU cfg c g).mpr ⟨hc, hg⟩)
        (by rw [List.length_append, List.length_take]; omega))
      (.cons (.setTask t (some ⟨.contSource c n (ids.drop k), .running⟩) htc (refBuf_task_some hk).symm
        ⟨hcb, hn, fun hne => absurd rfl hne⟩) (.nil _))) (fun w => ?_) hi
    have := wsum_take_drop w ids k
    simp only [hk, taskIds, wsum_append, wsum_nil]
    omega
  | contOverflow t g b t' | flushOne t g b t' =>
    obtain ⟨c, _, rfl, _, _, hne, hb, hpb, ht', htt'⟩ := step_sendOff t g b t' (by simp) h
    exact Seq.inv (.cons (.setCont (c, g) [] (hi.ct.idx _ hne) (Nat.zero_le _))
      (.cons (.newTaskBuf b t' ⟨g, 0, s.cont (c, g)⟩ (.traverse b) .queued hb hpb ht' htt' rfl ⟨hne, hi.ct.len _⟩) (.nil _)))
      (fun w => by simp only [wsum_append, wsum_nil]; omega) hi
  | contFinish t fl =>
    obtain ⟨c, n, s2, hk, _, _, rfl, hfr, _⟩ := step_contFinish h
    obtain ⟨hi2, hw2⟩ := hfr.inv hi
    have hd := inv_dropTask (t := t) hi2 ((hfr.tasksKeep t (by simp [hk])).trans hk) rfl (fun _ => rfl)
    exact ⟨hd.1, fun w => by rw [hd.2 w, hw2 w]⟩
  | flushFinish t =>
    obtain ⟨c, hk, _, rfl⟩ := step_flushFinish h
    exact inv_dropTask hi hk rfl (fun _ => rfl)
  | execTraverse t fates res => exact inv_execTraverse hi h
  | execReemit t keep t' =>
    obtain ⟨b, buf, hk, hb, hlen, hcase⟩ := step_execReemit h
    have hok0 := hi.taskBuf hk rfl hb
    have hsplit := fun w => List.map_fst_zip (Nat.le_of_eq hlen.symm) ▸ wsum_filter_split w (buf.ids.zip keep) (·.2)
    rcases hcase with ⟨hnil, rfl⟩ | ⟨hnn, ht', htt', rfl⟩
    · refine Seq.inv (.cons (.done _) (.cons (.removeBuf t b _ buf hk rfl hb) (.nil _))) (fun w => ?_) hi
      have := hsplit w
      rw [hnil] at this
      simp only [wsum_append, wsum_nil] at this ⊢
      omega
    · -- the buffer goes with its task and comes back with the re-emitted packets
      have hne : t ≠ t' := fun e => by rw [e, htt'] at hk; cases hk
      rw [← upd_upd s.pool b none (some { buf with ids := ((buf.ids.zip keep).filter (·.2)).map (·.1) }),
        ← upd_comm s.tasks hne none (some ⟨.traverse b, .pending⟩)]
      refine Seq.inv (.cons (.done _) (.cons (.removeBuf t b _ buf hk rfl hb) (.cons (.newTaskBuf b t'
        { buf with ids := ((buf.ids.zip keep).filter (·.2)).map (·.1) } (.traverse b) .pending (hi.own.owned b buf hb).1
        (upd_same _ _ _) ht' ((upd_other _ _ _ hne.symm).trans htt') rfl
        ⟨hnn, Nat.le_trans (length_filter_zip_le buf.ids keep (·.2)) hok0.2⟩) (.nil _)))) (fun w => ?_) hi
      have := hsplit w
      simp only [wsum_append, wsum_nil] at this ⊢
      omega
  | premature g t' =>
    obtain ⟨b, rfl, _, _, _, ht', htt', hact⟩ := step_premature h
    exact Seq.inv (.cons (.activeToTask g _ b t' .queued hact ht' htt') (.cons (.field _ rfl) (.nil _))) (fun _ => rfl) hi
  | checkTermination =>
    obtain ⟨_, _, rfl⟩ := step_checkTermination h
    exact Seq.inv (.cons (.field _ rfl) (.nil _)) (fun _ => rfl) hi

theorem run_inv {cfg : Cfg} : ∀ (ls : List Label) (s s' : State), Inv cfg s → run cfg s ls = some s' →
    Inv cfg s' ∧ ∀ w, weight cfg w s' = weight cfg w s := by
  intro ls s s' hi h
  refine run_induction (P := fun x => Inv cfg x ∧ ∀ w, weight cfg w x = weight cfg w s) ?_ ls s s' ⟨hi, fun _ => rfl⟩ h
  intro l a b ha hab
  obtain ⟨hib, hwb⟩ := step_inv l ha.1 hab
  exact ⟨hib, fun w => by rw [hwb w, ha.2 w]⟩

end CMacVerif.Photon
