import CMacVerif.Lemmas.PhotonBasic
/-! Inversion lemmas for `Photon.step` (C01): what each enabled label requires and produces
(`contFinish` and `execTraverse`: PhotonTrav). -/
namespace CMacVerif.Photon

theorem ite_some {α : Type} {c : Prop} [Decidable c] {a b : α} (h : (if c then some a else none) = some b) : c ∧ a = b := by
  split_ifs at h with hc
  exact ⟨hc, Option.some.inj h⟩

theorem step_launchBatch {cfg : Cfg} {s s' : State} {src t : Nat} (h : step cfg s (.launchBatch src t) = some s') :
    s' = { s with srcLeft := upd s.srcLeft src ((s.srcLeft src).drop BUFSZ),
                  tasks := upd s.tasks t (some ⟨.source src ((s.srcLeft src).take BUFSZ), .queued⟩) } ∧
    src < cfg.nsrc ∧ s.srcLeft src ≠ [] ∧ t < cfg.taskCap ∧ s.tasks t = none := by
  dsimp only [step] at h
  obtain ⟨hg, rfl⟩ := ite_some h
  obtain ⟨h1, h2, h3⟩ := hg
  have h3' := (taskFree_iff cfg s t).mp h3
  refine ⟨rfl, h1, ?_, h3'.1, h3'.2⟩
  intro e; rw [e] at h2; simp at h2

theorem step_launchCont {cfg : Cfg} {s s' : State} {t : Nat} (h : step cfg s (.launchCont t) = some s') :
    s' = { s with contPool := s.contPool.drop BUFSZ, contBlock := s.contBlock + 1,
                  tasks := upd s.tasks t (some ⟨.contSource (s.contBlock % cfg.nblocks)
                    (s.contPool.take BUFSZ).length (s.contPool.take BUFSZ), .queued⟩) } ∧
    s.contPool ≠ [] ∧ t < cfg.taskCap ∧ s.tasks t = none ∧ 0 < cfg.nblocks := by
  dsimp only [step] at h
  obtain ⟨hg, rfl⟩ := ite_some h
  obtain ⟨h1, h2, h3⟩ := hg
  have h2' := (taskFree_iff cfg s t).mp h2
  refine ⟨rfl, ?_, h2'.1, h2'.2, h3⟩
  intro e; rw [e] at h1; simp at h1

theorem step_acquire {cfg : Cfg} {s s' : State} {t : Nat} (h : step cfg s (.acquire t) = some s') :
    ∃ k, s.tasks t = some ⟨k, .queued⟩ ∧ (∀ l, lockOf s.pool k = some l → lockHeld cfg s l = false) ∧
      s' = { s with tasks := upd s.tasks t (some ⟨k, .running⟩) } := by
  dsimp only [step] at h
  split at h
  · rename_i k hk
    refine ⟨k, hk, ?_⟩
    split at h
    · rename_i l hl
      obtain ⟨hh, ⟨⟩⟩ := Option.ite_none_left_eq_some.mp h
      refine ⟨?_, rfl⟩
      intro l' hl'; rw [hl] at hl'; injection hl' with hl'; subst hl'; simpa using hh
    · rename_i hl
      injection h with h
      exact ⟨(by intro l hl'; rw [hl] at hl'; cases hl'), h.symm⟩
  · cases h

theorem step_enqueue {cfg : Cfg} {s s' : State} {t : Nat} (h : step cfg s (.enqueue t) = some s') :
    ∃ k, s.tasks t = some ⟨k, .pending⟩ ∧ s' = { s with tasks := upd s.tasks t (some ⟨k, .queued⟩) } := by
  dsimp only [step] at h
  split at h
  · rename_i k hk; injection h with h; exact ⟨k, hk, h.symm⟩
  · cases h

theorem step_execSource {cfg : Cfg} {s s' : State} {t b t' : Nat} (h : step cfg s (.execSource t b t') = some s') :
    ∃ src ids,
      s' = { s with pool := upd s.pool b (some ⟨cfg.srcSub src, 0, ids⟩),
                    tasks := upd (upd s.tasks t' (some ⟨.traverse b, .pending⟩)) t none } ∧
      s.tasks t = some ⟨.source src ids, .running⟩ ∧ b < cfg.bufCap ∧ s.pool b = none ∧
      t' < cfg.taskCap ∧ s.tasks t' = none := by
  dsimp only [step] at h
  split at h
  · rename_i src ids hk
    obtain ⟨hg, rfl⟩ := ite_some h
    simp only [Bool.and_eq_true] at hg
    have h1 := (bufFree_iff cfg s b).mp hg.1
    have h2 := (taskFree_iff cfg s t').mp hg.2
    exact ⟨src, ids, rfl, hk, h1.1, h1.2, h2.1, h2.2⟩
  · cases h

theorem step_contGen {cfg : Cfg} {s s' : State} {t g k : Nat} (h : step cfg s (.contGen t g k) = some s') :
    ∃ c n ids,
      s' = { s with cont := updP s.cont (c, g) (s.cont (c, g) ++ ids.take k),
                    tasks := upd s.tasks t (some ⟨.contSource c n (ids.drop k), .running⟩) } ∧
      s.tasks t = some ⟨.contSource c n ids, .running⟩ ∧ 0 < k ∧ k ≤ ids.length ∧ g < cfg.norig ∧
      c < cfg.nblocks ∧ (s.cont (c, g)).length + k ≤ BUFSZ := by
  dsimp only [step] at h
  split at h
  · rename_i c n ids hk
    obtain ⟨hg, rfl⟩ := ite_some h
    obtain ⟨h1, h2, h3, h4, h5⟩ := hg
    exact ⟨c, n, ids, rfl, hk, h1, h2, h3, h4, h5⟩
  · cases h

/-- `contOverflow` and `flushOne` both send off the thread-local buffer of subgrid g of a block c: a running continuous
source task when the buffer is full, a running flush task when it is not empty.  `hl` says which of the two labels `l` is;
a caller that treats both in one `|` alternative closes it by `simp`. -/
theorem step_sendOff {cfg : Cfg} {s s' : State} {l : Label} (t g b t' : Nat)
    (hl : l = .contOverflow t g b t' ∨ l = .flushOne t g b t') (h : step cfg s l = some s') :
    ∃ c k,
      s' = { s with cont := updP s.cont (c, g) [],
                    pool := upd s.pool b (some ⟨g, 0, s.cont (c, g)⟩),
                    tasks := upd s.tasks t' (some ⟨.traverse b, .queued⟩) } ∧
      s.tasks t = some ⟨k, .running⟩ ∧
      (((∃ n ids, k = .contSource c n ids) ∧ (s.cont (c, g)).length = BUFSZ) ∨ (k = .flush c ∧ g < cfg.norig)) ∧
      s.cont (c, g) ≠ [] ∧ b < cfg.bufCap ∧ s.pool b = none ∧ t' < cfg.taskCap ∧ s.tasks t' = none := by
  rcases hl with rfl | rfl <;> dsimp only [step] at h <;> split at h
  · rename_i c n ids hk
    obtain ⟨⟨h1, h2, h3⟩, rfl⟩ := ite_some h
    have h2' := (bufFree_iff cfg s b).mp h2
    have h3' := (taskFree_iff cfg s t').mp h3
    exact ⟨c, _, rfl, hk, Or.inl ⟨⟨n, ids, rfl⟩, h1⟩, fun e => (by rw [e] at h1; cases h1), h2'.1, h2'.2, h3'.1, h3'.2⟩
  · cases h
  · rename_i c hk
    obtain ⟨⟨h1, h2, h3, h4⟩, rfl⟩ := ite_some h
    have h3' := (bufFree_iff cfg s b).mp h3
    have h4' := (taskFree_iff cfg s t').mp h4
    exact ⟨c, _, rfl, hk, Or.inr ⟨rfl, h2⟩, fun e => (by rw [e] at h1; simp at h1), h3'.1, h3'.2, h4'.1, h4'.2⟩
  · cases h

theorem step_flushFinish {cfg : Cfg} {s s' : State} {t : Nat} (h : step cfg s (.flushFinish t) = some s') :
    ∃ c, s.tasks t = some ⟨.flush c, .running⟩ ∧ (∀ g, g < cfg.norig → s.cont (c, g) = []) ∧
      s' = { s with tasks := upd s.tasks t none } := by
  dsimp only [step] at h
  split at h
  · rename_i c hk
    obtain ⟨hg, rfl⟩ := ite_some h
    refine ⟨c, hk, ?_, rfl⟩
    intro g hg'
    have := List.all_eq_true.mp hg g (List.mem_range.mpr hg')
    simpa using this
  · cases h

theorem step_execReemit {cfg : Cfg} {s s' : State} {t t' : Nat} {keep : List Bool}
    (h : step cfg s (.execReemit t keep t') = some s') :
    ∃ b buf, s.tasks t = some ⟨.reemit b, .running⟩ ∧ s.pool b = some buf ∧ keep.length = buf.ids.length ∧
      ((((buf.ids.zip keep).filter (·.2)).map (·.1) = [] ∧
        s' = { s with done := s.done ++ ((buf.ids.zip keep).filter (fun p => !p.2)).map (·.1),
                      pool := upd s.pool b none, tasks := upd s.tasks t none }) ∨
       (((buf.ids.zip keep).filter (·.2)).map (·.1) ≠ [] ∧ t' < cfg.taskCap ∧ s.tasks t' = none ∧
        s' = { s with done := s.done ++ ((buf.ids.zip keep).filter (fun p => !p.2)).map (·.1),
                      pool := upd s.pool b (some { buf with ids := ((buf.ids.zip keep).filter (·.2)).map (·.1) }),
                      tasks := upd (upd s.tasks t' (some ⟨.traverse b, .pending⟩)) t none })) := by
  dsimp only [step] at h
  split at h
  · rename_i b hk
    split at h
    · rename_i buf hb
      obtain ⟨hl, h⟩ := Option.ite_none_right_eq_some.mp h
      by_cases he : (((buf.ids.zip keep).filter (·.2)).map (·.1)).isEmpty = true
      · rw [if_pos he] at h
        cases h
        exact ⟨b, buf, hk, hb, hl, Or.inl ⟨List.isEmpty_iff.mp he, rfl⟩⟩
      · rw [if_neg he] at h
        obtain ⟨hf, rfl⟩ := ite_some h
        have hf' := (taskFree_iff cfg s t').mp hf
        exact ⟨b, buf, hk, hb, hl, Or.inr ⟨fun e => he (List.isEmpty_iff.mpr e), hf'.1, hf'.2, rfl⟩⟩
    · cases h
  · cases h

theorem step_premature {cfg : Cfg} {s s' : State} {g t' : Nat} (h : step cfg s (.premature g t') = some s') :
    ∃ b,
      s' = { s with active := upd2 s.active g (s.largest g).1 none,
                    tasks := upd s.tasks t' (some ⟨fullKind (s.largest g).1 b, .queued⟩),
                    largest := upd s.largest g (recomputeLargest
                      { s with active := upd2 s.active g (s.largest g).1 none,
                               tasks := upd s.tasks t' (some ⟨fullKind (s.largest g).1 b, .queued⟩) } g) } ∧
      (s.largest g).1 ≠ NDIR ∧ 0 < (s.largest g).2 ∧ lockHeld cfg s (.sub g) = false ∧
      t' < cfg.taskCap ∧ s.tasks t' = none ∧ s.active g (s.largest g).1 = some b := by
  dsimp only [step] at h
  obtain ⟨⟨h1, h2, h3, h4⟩, h⟩ := Option.ite_none_right_eq_some.mp h
  split at h
  · rename_i b hb
    cases h
    have h4' := (taskFree_iff cfg s t').mp h4
    exact ⟨b, rfl, h1, h2, by simpa using h3, h4'.1, h4'.2, hb⟩
  · cases h

theorem step_checkTermination {cfg : Cfg} {s s' : State} (h : step cfg s .checkTermination = some s') :
    poolEmpty cfg s = true ∧ s.done.length = cfg.N ∧ s' = { s with run := false } := by
  dsimp only [step] at h
  obtain ⟨hg, rfl⟩ := ite_some h
  exact ⟨hg.1, hg.2, rfl⟩

theorem lockHeld_running {cfg : Cfg} {s : State} {l : Lock} (h : lockHeld cfg s l = true) :
    ∃ u k, s.tasks u = some ⟨k, .running⟩ := by
  simp only [lockHeld, List.any_eq_true] at h
  obtain ⟨u, _, hu⟩ := h
  split at hu
  · rename_i k hk; exact ⟨u, k, hk⟩
  · cases hu

theorem run_induction {cfg : Cfg} {P : State → Prop} (hstep : ∀ l s s', P s → step cfg s l = some s' → P s') :
    ∀ (ls : List Label) (s s' : State), P s → run cfg s ls = some s' → P s' := by
  intro ls
  induction ls with
  | nil => intro s s' hp h; injection h with h; exact h ▸ hp
  | cons l ls ih =>
    intro s s' hp h
    simp only [run] at h
    split at h
    · cases h
    · rename_i s1 hs1; exact ih s1 s' (hstep l s s1 hp hs1) h

end CMacVerif.Photon
