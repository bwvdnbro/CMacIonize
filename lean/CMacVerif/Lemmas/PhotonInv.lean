import CMacVerif.Lemmas.PhotonStep
/-! The structural invariant of the photon protocol (C01).  Its preservation and the change of the weight are
proved once for a few elementary changes of a state (`Elem.account`); a label is a sequence of these (`Seq`), and
keeps every weight if the packets that leave a container are those that enter one (`Seq.inv`). -/
namespace CMacVerif.Photon
open CMacVerif.Worker (sumOver sumOver_congr)

/-- what the protocol requires of a task in the table -/
def taskGood (cfg : Cfg) (tk : Task) : Prop :=
  match tk.kind with
  | .source _ ids => ids ≠ [] ∧ ids.length ≤ BUFSZ
  | .contSource c n ids => c < cfg.nblocks ∧ 0 < n ∧ (tk.st ≠ .running → ids ≠ [])
  | .flush c => c < cfg.nblocks
  | _ => True

def TaskOK (cfg : Cfg) (s : State) : Prop := ∀ t tk, s.tasks t = some tk → t < cfg.taskCap ∧ taskGood cfg tk

structure ContOK (cfg : Cfg) (s : State) : Prop where
  idx : ∀ k, s.cont k ≠ [] → k ∈ pairsU cfg
  len : ∀ k, (s.cont k).length ≤ BUFSZ

structure Inv (cfg : Cfg) (s : State) : Prop where
  own : Own cfg s
  tk : TaskOK cfg s
  ct : ContOK cfg s

theorem init_inv (cfg : Cfg) (srcIds : Nat → List Nat) (contIds : List Nat) : Inv cfg (init srcIds contIds) := by
  refine ⟨⟨?_, ?_, ?_⟩, ?_, ⟨?_, ?_⟩⟩
  · intro r1 r2 b h1; cases r1 <;> cases h1
  · intro r b h1; cases r <;> cases h1
  · intro b buf h1; cases h1
  · intro t tk h1; cases h1
  · intro k hk; exact absurd rfl hk
  · intro k; exact Nat.zero_le _

theorem taskOK_upd {cfg : Cfg} {s s' : State} (h : TaskOK cfg s) {t : Nat} {v : Option Task}
    (ht : s'.tasks = upd s.tasks t v) (hv : v.elim True fun tk => t < cfg.taskCap ∧ taskGood cfg tk) : TaskOK cfg s' := by
  intro u tk hu
  rw [ht] at hu
  by_cases e : u = t
  · subst e; rw [upd_same] at hu; subst hu; exact hv
  · rw [upd_other _ _ _ e] at hu; exact h u tk hu

theorem contOK_upd {cfg : Cfg} {s s' : State} (h : ContOK cfg s) {k : Nat × Nat} {l : List Nat}
    (hc : s'.cont = updP s.cont k l) (hk : k ∈ pairsU cfg) (hl : l.length ≤ BUFSZ) : ContOK cfg s' := by
  refine ⟨?_, ?_⟩
  · intro x hx; rw [hc] at hx
    by_cases e : x = k
    · subst e; exact hk
    · rw [updP_other _ _ _ e] at hx; exact h.idx x hx
  · intro x; rw [hc]
    by_cases e : x = k
    · subst e; rw [updP_same]; exact hl
    · rw [updP_other _ _ _ e]; exact h.len x

theorem contOK_same {cfg : Cfg} {s s' : State} (h : ContOK cfg s) (hc : s'.cont = s.cont) : ContOK cfg s' :=
  ⟨by intro k hk; rw [hc] at hk; exact h.idx k hk, by intro k; rw [hc]; exact h.len k⟩

theorem active_ne_free {cfg : Cfg} {s : State} (hi : Inv cfg s) {g d a b : Nat} (h : s.active g d = some a)
    (hb : s.pool b = none) : a ≠ b := by
  intro e; subst e
  obtain ⟨buf, hp, _⟩ := hi.own.live (.act g d) a h
  rw [hb] at hp; cases hp

theorem active_ne_task {cfg : Cfg} {s : State} (hi : Inv cfg s) {g d a t b : Nat} (h : s.active g d = some a)
    (hb : refBuf s (.task t) = some b) : a ≠ b := by
  intro e; subst e
  cases hi.own.uniq (.act g d) (.task t) a h hb

theorem Inv.contTask {cfg : Cfg} {s : State} (hi : Inv cfg s) {t c n : Nat} {ids : List Nat} {st : TSt}
    (h : s.tasks t = some ⟨.contSource c n ids, st⟩) :
    t < cfg.taskCap ∧ c < cfg.nblocks ∧ 0 < n ∧ (st ≠ .running → ids ≠ []) :=
  hi.tk t _ h

theorem Inv.taskBuf {cfg : Cfg} {s : State} (hi : Inv cfg s) {t b : Nat} {tk : Task} {buf : Buf} (hk : s.tasks t = some tk)
    (hkb : kindBuf tk.kind = some b) (hb : s.pool b = some buf) : buf.ids ≠ [] ∧ buf.ids.length ≤ BUFSZ := by
  obtain ⟨buf0, hb0, hok⟩ := hi.own.live (.task t) b ((refBuf_task_some hk).trans hkb)
  rw [hb] at hb0
  cases hb0
  exact hok

/-- `s'` is `s` except for fields the invariant does not look at -/
theorem inv_congr {cfg : Cfg} {s s' : State} (hi : Inv cfg s)
    (h : s' = { s with srcLeft := s'.srcLeft, contPool := s'.contPool, contBlock := s'.contBlock, largest := s'.largest,
                       contLeft := s'.contLeft, flushCount := s'.flushCount, done := s'.done, run := s'.run }) :
    Inv cfg s' := by
  rw [h]
  exact ⟨own_same hi.own rfl (fun x => refBuf_congr rfl rfl x), hi.tk, contOK_same hi.ct rfl⟩

theorem weight_congr {cfg : Cfg} {s s' : State} (w : Nat → Nat)
    (h : s' = { s with contBlock := s'.contBlock, active := s'.active, largest := s'.largest, contLeft := s'.contLeft,
                       flushCount := s'.flushCount, run := s'.run }) :
    weight cfg w s' = weight cfg w s := by
  rw [h]; rfl

theorem fullKind_buf (i a : Nat) : kindBuf (fullKind i a) = some a := by
  simp only [fullKind]; split_ifs <;> rfl

theorem kindW_of_kindBuf {k : Kind} {b : Nat} (h : kindBuf k = some b) (w : Nat → Nat) : kindW w k = 0 := by
  cases k with
  | traverse | reemit => rfl
  | source | contSource | flush => cases h

theorem taskGood_of_kindBuf {k : Kind} {b : Nat} (h : kindBuf k = some b) (cfg : Cfg) (st : TSt) : taskGood cfg ⟨k, st⟩ := by
  cases k with
  | traverse | reemit => trivial
  | source | contSource | flush => cases h

/-- the packets a task carries itself -/
def taskIds : Option Task → List Nat
  | some ⟨.source _ ids, _⟩ => ids
  | some ⟨.contSource _ _ ids, _⟩ => ids
  | _ => []

theorem taskW_ids (w : Nat → Nat) (v : Option Task) : taskW w v = wsum w (taskIds v) := by
  rcases v with _ | ⟨k, st⟩
  · rfl
  · cases k <;> rfl

/-- An elementary change of a state.  `out` are the packets that leave a container (source, task, buffer,
thread-local buffer), `inn` those that enter one. -/
inductive Elem (cfg : Cfg) (s : State) : List Nat → List Nat → State → Prop
  /-- fields that neither the invariant nor the weight reads -/
  | field (s' : State) (h : s' = { s with contBlock := s'.contBlock, largest := s'.largest, contLeft := s'.contLeft,
                                          flushCount := s'.flushCount, run := s'.run }) : Elem cfg s [] [] s'
  | src (i : Nat) (l : List Nat) (hi : i < cfg.nsrc) : Elem cfg s (s.srcLeft i) l { s with srcLeft := upd s.srcLeft i l }
  | contPool (l : List Nat) : Elem cfg s s.contPool l { s with contPool := l }
  /-- a slot of the task table is overwritten by a task that refers to the same buffer (or both to none);
  `hv`: callers pass the fact itself, or `trivial` for `none` -/
  | setTask (t : Nat) (v : Option Task) (ht : t < cfg.taskCap) (hb : optKindBuf v = refBuf s (.task t))
      (hv : v.elim True (taskGood cfg)) : Elem cfg s (taskIds (s.tasks t)) (taskIds v) { s with tasks := upd s.tasks t v }
  | setCont (k : Nat × Nat) (l : List Nat) (hk : k ∈ pairsU cfg) (hl : l.length ≤ BUFSZ) :
      Elem cfg s (s.cont k) l { s with cont := updP s.cont k l }
  | done (x : List Nat) : Elem cfg s [] x { s with done := s.done ++ x }
  | newTaskBuf (b t' : Nat) (buf : Buf) (k : Kind) (st : TSt) (hb : b < cfg.bufCap) (hpb : s.pool b = none)
      (ht' : t' < cfg.taskCap) (htt' : s.tasks t' = none) (hk : kindBuf k = some b) (hok : okFor cfg (.task t') buf) :
      Elem cfg s [] buf.ids { s with pool := upd s.pool b (some buf), tasks := upd s.tasks t' (some ⟨k, st⟩) }
  | newActive (g i b : Nat) (buf : Buf) (ha : s.active g i = none) (hb : b < cfg.bufCap) (hpb : s.pool b = none)
      (hok : okFor cfg (.act g i) buf) :
      Elem cfg s [] buf.ids { s with pool := upd s.pool b (some buf), active := upd2 s.active g i (some b) }
  | refill (b : Nat) (old buf : Buf) (hp : s.pool b = some old) (hok : ∀ r, refBuf s r = some b → okFor cfg r buf) :
      Elem cfg s old.ids buf.ids { s with pool := upd s.pool b (some buf) }
  | activeToTask (g i b t' : Nat) (st : TSt) (ha : s.active g i = some b) (ht' : t' < cfg.taskCap) (htt' : s.tasks t' = none) :
      Elem cfg s [] [] { s with active := upd2 s.active g i none, tasks := upd s.tasks t' (some ⟨fullKind i b, st⟩) }
  | removeBuf (t b : Nat) (tk : Task) (buf : Buf) (hk : s.tasks t = some tk) (hkb : kindBuf tk.kind = some b)
      (hp : s.pool b = some buf) : Elem cfg s buf.ids [] { s with pool := upd s.pool b none, tasks := upd s.tasks t none }

theorem Elem.account {cfg : Cfg} {s s' : State} {out inn : List Nat} (hi : Inv cfg s) (h : Elem cfg s out inn s') :
    Inv cfg s' ∧ ∀ w, weight cfg w s' + wsum w out = weight cfg w s + wsum w inn := by
  cases h with
  | field _ h =>
    rw [h]
    exact ⟨inv_congr hi rfl, fun _ => rfl⟩
  | src j _ hj =>
    refine ⟨inv_congr hi rfl, fun w => ?_⟩
    have := sum_upd cfg.nsrc s.srcLeft j inn (wsum w) hj
    simp only [weight]
    omega
  | contPool =>
    refine ⟨inv_congr hi rfl, fun w => ?_⟩
    simp only [weight]
    omega
  | setTask t v ht hb hv =>
    refine ⟨⟨own_task_same hi.own rfl rfl rfl hb, taskOK_upd hi.tk rfl (by cases v; exacts [trivial, ⟨ht, hv⟩]), contOK_same hi.ct rfl⟩,
      fun w => ?_⟩
    have := sum_upd cfg.taskCap s.tasks t v (taskW w) ht
    simp only [weight, ← taskW_ids]
    omega
  | setCont k _ hk hl =>
    refine ⟨⟨own_same hi.own rfl (fun x => refBuf_congr rfl rfl x), hi.tk, contOK_upd hi.ct rfl hk hl⟩, fun w => ?_⟩
    have := sum_updP cfg s.cont k inn (wsum w) hk
    simp only [weight]
    omega
  | done =>
    refine ⟨inv_congr hi rfl, fun w => ?_⟩
    simp only [weight, wsum_append, wsum_nil]
    omega
  | newTaskBuf b t' buf k st hb hpb ht' htt' hk hok =>
    refine ⟨⟨?_, taskOK_upd hi.tk rfl ⟨ht', taskGood_of_kindBuf hk cfg st⟩, contOK_same hi.ct rfl⟩, fun w => ?_⟩
    · refine own_add hi.own (r := .task t') hpb hb hok rfl (fun x => ?_) (refBuf_task_none htt')
      exact (refBuf_tasks_upd (s := s) (by rfl) (by rfl) x).trans (by rw [optKindBuf_some, hk])
    · have e1 := sum_upd cfg.taskCap s.tasks t' (some ⟨k, st⟩) (taskW w) ht'
      have e2 := sum_upd cfg.bufCap s.pool b (some buf) (bufW w) hb
      rw [htt'] at e1
      rw [hpb] at e2
      simp only [taskW_none, taskW_some, kindW_of_kindBuf hk w, bufW_none] at e1 e2
      have e3 := bufW_buf w buf
      simp only [weight, wsum_nil]
      omega
  | newActive g d b buf ha hb hpb hok =>
    refine ⟨⟨own_add hi.own (r := .act g d) hpb hb hok rfl (fun x => refBuf_active_upd (s := s) (by rfl) (by rfl) x) ha, hi.tk,
      contOK_same hi.ct rfl⟩, fun w => ?_⟩
    have e2 := sum_upd cfg.bufCap s.pool b (some buf) (bufW w) hb
    rw [hpb] at e2
    have e3 := bufW_buf w buf
    simp only [weight, bufW_none, wsum_nil] at e2 ⊢
    omega
  | refill b old buf hp hok =>
    refine ⟨⟨own_refill hi.own hp rfl (fun x => refBuf_congr rfl rfl x) hok, hi.tk, contOK_same hi.ct rfl⟩, fun w => ?_⟩
    have e2 := sum_upd cfg.bufCap s.pool b (some buf) (bufW w) (hi.own.owned b old hp).1
    rw [hp] at e2
    have e3 := bufW_buf w buf
    have e4 := bufW_buf w old
    simp only [weight]
    omega
  | activeToTask g d b t' st ha ht' htt' =>
    refine ⟨⟨?_, taskOK_upd hi.tk rfl ⟨ht', taskGood_of_kindBuf (fullKind_buf d b) cfg st⟩, contOK_same hi.ct rfl⟩, fun w => ?_⟩
    · -- the buffer goes with its active entry and comes back with the task
      obtain ⟨buf, hq, hok⟩ := hi.own.live (.act g d) b ha
      have hA : Own cfg { s with pool := upd s.pool b none, active := upd2 s.active g d none } :=
        own_remove hi.own (r := .act g d) ha (by rfl) (fun x => refBuf_active_upd (s := s) (by rfl) (by rfl) x)
      refine own_add hA (r := .task t') (buf := buf) (upd_same _ _ _) (hi.own.owned b buf hq).1
        ⟨hok.1, Nat.le_of_lt hok.2.1⟩ ?_ (fun x => ?_) (refBuf_task_none htt')
      · exact ((upd_upd _ _ _ _).trans (upd_eq_self hq)).symm
      · exact (refBuf_tasks_upd (s := { s with pool := upd s.pool b none, active := upd2 s.active g d none }) (by rfl) (by rfl)
          x).trans (by rw [optKindBuf_some, fullKind_buf])
    · have e1 := sum_upd cfg.taskCap s.tasks t' (some ⟨fullKind d b, st⟩) (taskW w) ht'
      rw [htt'] at e1
      simp only [taskW_none, taskW_some, kindW_of_kindBuf (fullKind_buf d b) w] at e1
      simp only [weight]
      omega
  | removeBuf t b tk buf hk hkb hp =>
    refine ⟨⟨?_, taskOK_upd hi.tk rfl trivial, contOK_same hi.ct rfl⟩, fun w => ?_⟩
    · exact own_remove hi.own (r := .task t) ((refBuf_task_some hk).trans hkb) (by rfl)
        (fun x => refBuf_tasks_upd (s := s) (v := none) (by rfl) (by rfl) x)
    · have e1 := sum_upd cfg.taskCap s.tasks t none (taskW w) (hi.tk t tk hk).1
      have e2 := sum_upd cfg.bufCap s.pool b none (bufW w) (hi.own.owned b buf hp).1
      rw [hk] at e1
      rw [hp] at e2
      have e3 : taskW w (some tk) = 0 := kindW_of_kindBuf hkb w
      have e4 := bufW_buf w buf
      simp only [taskW_none, bufW_none] at e1 e2
      simp only [weight, wsum_nil]
      omega

/-- elementary changes one after the other; the packets that leave and those that enter add up -/
inductive Seq (cfg : Cfg) : State → List Nat → List Nat → State → Prop
  | nil (s : State) : Seq cfg s [] [] s
  | cons {s s1 s' : State} {o i o' i' : List Nat} : Elem cfg s o i s1 → Seq cfg s1 o' i' s' → Seq cfg s (o ++ o') (i ++ i') s'

theorem Seq.account {cfg : Cfg} {s s' : State} {out inn : List Nat} (h : Seq cfg s out inn s') (hi : Inv cfg s) :
    Inv cfg s' ∧ ∀ w, weight cfg w s' + wsum w out = weight cfg w s + wsum w inn := by
  induction h with
  | nil s => exact ⟨hi, fun _ => rfl⟩
  | cons he _ ih =>
    obtain ⟨h1, w1⟩ := he.account hi
    obtain ⟨h2, w2⟩ := ih h1
    refine ⟨h2, fun w => ?_⟩
    have := w1 w
    have := w2 w
    simp only [wsum_append]
    omega

theorem Seq.inv {cfg : Cfg} {s s' : State} {out inn : List Nat} (h : Seq cfg s out inn s') (hb : ∀ w, wsum w out = wsum w inn)
    (hi : Inv cfg s) : Inv cfg s' ∧ ∀ w, weight cfg w s' = weight cfg w s :=
  ⟨(h.account hi).1, fun w => by have := (h.account hi).2 w; rw [hb w] at this; exact Nat.add_right_cancel this⟩

/-- `hst`: a continuous source task that is not running must still have packets to generate (`taskGood`) -/
theorem inv_status {cfg : Cfg} {s : State} {t : Nat} {k : Kind} {st st' : TSt} (hi : Inv cfg s)
    (hk : s.tasks t = some ⟨k, st⟩) (hst : st' ≠ .running → st ≠ .running) :
    let s' : State := { s with tasks := upd s.tasks t (some ⟨k, st'⟩) }
    Inv cfg s' ∧ ∀ w, weight cfg w s' = weight cfg w s := by
  have hg := hi.tk t _ hk
  refine Seq.inv (.cons (.setTask t (some ⟨k, st'⟩) hg.1 (refBuf_task_some hk).symm ?_) (.nil _)) (fun w => ?_) hi
  · cases k with
    | contSource c n ids =>
      obtain ⟨hc, hn, hids⟩ := hg.2
      exact ⟨hc, hn, fun hne => hids (hst hne)⟩
    | source | traverse | reemit | flush => exact hg.2
  · rw [hk]; cases k <;> rfl

theorem inv_dropTask {cfg : Cfg} {s : State} {t : Nat} {tk : Task} (hi : Inv cfg s) (hk : s.tasks t = some tk)
    (hb : kindBuf tk.kind = none) (hw : ∀ w, kindW w tk.kind = 0) :
    let s' : State := { s with tasks := upd s.tasks t none }
    Inv cfg s' ∧ ∀ w, weight cfg w s' = weight cfg w s :=
  Seq.inv (.cons (.setTask t none (hi.tk t _ hk).1 ((refBuf_task_some hk).trans hb).symm trivial) (.nil _))
    (fun w => by rw [hk, List.append_nil, List.append_nil, ← taskW_ids]; exact hw w) hi

end CMacVerif.Photon
