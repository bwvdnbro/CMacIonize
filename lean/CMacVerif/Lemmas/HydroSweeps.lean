import CMacVerif.Model.HydroSweeps
import CMacVerif.Lemmas.HydroGraph
import CMacVerif.Lemmas.MixedRadix
import Mathlib.Data.List.Perm.Basic
/-! The cell pairs visited by the hydro sweeps (C04, C10): the internal and pair sweeps of all subgrids of
a layout together are a permutation of the faces of the undivided grid, the boundary sweeps of its
box-boundary cells; the index expressions of the C++ loops name the cells of the coordinate-level lists. -/
namespace CMacVerif.HydroSweeps
open CMacVerif.HydroGraph

/-! ### one axis: index `a * c + i` of cell `i` of subgrid `a`, and the index after it -/

/-- next cell of a cell that is not in the last layer of its subgrid -/
theorem up1_inner {n c a i : Nat} (p : Bool) (ha : a < n) (hi : i + 1 < c) :
    up1 (n * c) p (a * c + i) = some (a * c + (i + 1)) := by
  have := MixedRadix.lt_mul_add ha hi
  unfold up1; rw [if_pos (by omega)]; rfl

/-- next cell of a cell in the last layer: first layer of the next subgrid (periodic wrap of the
cells = periodic wrap of the subgrids); written `a' * c + 0` so that `setCoord_gcell` applies -/
theorem up1_outer {n c a i : Nat} (p : Bool) (ha : a < n) (hi : i + 1 = c) :
    up1 (n * c) p (a * c + i) = (up1 n p a).map (fun a' => a' * c + 0) := by
  unfold up1
  by_cases h : a + 1 < n
  · have := MixedRadix.lt_mul_add (m := c) (b := 0) h (by omega)
    rw [Nat.add_mul, Nat.one_mul] at this
    rw [if_pos h, if_pos (by omega)]
    simp only [Option.map_some, Option.some.injEq]
    rw [Nat.add_mul, Nat.one_mul]; omega
  · have hn : n = a + 1 := by omega
    subst hn
    rw [if_neg h, if_neg (by rw [Nat.add_mul, Nat.one_mul]; omega)]
    cases p <;> simp

theorem up1_eq_none {n i : Nat} {p : Bool} : up1 n p i = none ↔ ¬ i + 1 < n ∧ p = false := by
  unfold up1; split_ifs <;> simp_all

theorem down1_eq_none {n i : Nat} {p : Bool} : down1 n p i = none ↔ i = 0 ∧ p = false := by
  unfold down1; split_ifs <;> simp_all; omega

/-! ### coordinates: `gcell c` is a bijection from (subgrid, cell of the subgrid) to the cells of the grid -/

theorem clen_pos {c : Cells} (hc : 0 < c.cx ∧ 0 < c.cy ∧ 0 < c.cz) (ax : Axis) : 0 < clen c ax := by
  cases ax <;> simp [clen, hc]

theorem len_cellGrid (L : Layout) (c : Cells) (ax : Axis) :
    len (cellGrid L c) ax = len L ax * clen c ax := by cases ax <;> rfl

theorem per_cellGrid (L : Layout) (c : Cells) (ax : Axis) : per (cellGrid L c) ax = per L ax := by
  cases ax <;> rfl

theorem coord_gcell (c : Cells) (g : Sub) (p : Loc) (ax : Axis) :
    coord (gcell c g p) ax = coord g ax * clen c ax + coord p ax := by cases ax <;> rfl

theorem setCoord_gcell (c : Cells) (g : Sub) (p : Loc) (ax : Axis) (a v : Nat) :
    setCoord (gcell c g p) ax (a * clen c ax + v) = gcell c (setCoord g ax a) (setCoord p ax v) := by
  cases ax <;> rfl

theorem validLoc_iff (c : Cells) (p : Loc) :
    validLoc c p = true ↔ p.1 < c.cx ∧ p.2.1 < c.cy ∧ p.2.2 < c.cz :=
  -- a subgrid is a grid of `cx × cy × cz` cells: `validLoc c` is `valid` and `clen c` is `len` of that
  -- layout, by `rfl`; so also in the next two lemmas
  valid_iff ⟨c.cx, c.cy, c.cz, false, false, false⟩ p

theorem coord_lt_clen {c : Cells} {p : Loc} (h : validLoc c p = true) (ax : Axis) :
    coord p ax < clen c ax :=
  coord_lt (L := ⟨c.cx, c.cy, c.cz, false, false, false⟩) h ax

theorem validLoc_setCoord {c : Cells} {p : Loc} (h : validLoc c p = true) (ax : Axis) {v : Nat}
    (hv : v < clen c ax) : validLoc c (setCoord p ax v) = true :=
  valid_setCoord (L := ⟨c.cx, c.cy, c.cz, false, false, false⟩) h ax hv

theorem valid_gcell {L : Layout} {c : Cells} {g : Sub} {p : Loc} (hg : valid L g = true)
    (hp : validLoc c p = true) : valid (cellGrid L c) (gcell c g p) = true := by
  rw [valid_iff] at hg ⊢
  rw [validLoc_iff] at hp
  exact ⟨MixedRadix.lt_mul_add hg.1 hp.1, MixedRadix.lt_mul_add hg.2.1 hp.2.1, MixedRadix.lt_mul_add hg.2.2 hp.2.2⟩

theorem gcell_inj {c : Cells} {g g' : Sub} {p p' : Loc} (hp : validLoc c p = true)
    (hp' : validLoc c p' = true) (h : gcell c g p = gcell c g' p') : g = g' ∧ p = p' := by
  rw [validLoc_iff] at hp hp'
  obtain ⟨a, b, d⟩ := g
  obtain ⟨a', b', d'⟩ := g'
  obtain ⟨i, j, k⟩ := p
  obtain ⟨i', j', k'⟩ := p'
  simp only [gcell, Prod.mk.injEq] at h
  obtain ⟨h1, h2, h3⟩ := h
  obtain ⟨e1, e1'⟩ := MixedRadix.mul_add_inj hp.1 hp'.1 h1
  obtain ⟨e2, e2'⟩ := MixedRadix.mul_add_inj hp.2.1 hp'.2.1 h2
  obtain ⟨e3, e3'⟩ := MixedRadix.mul_add_inj hp.2.2 hp'.2.2 h3
  simp only at e1 e2 e3 e1' e2' e3'
  subst e1 e2 e3 e1' e2' e3'
  exact ⟨rfl, rfl⟩

theorem gcell_right_inj (c : Cells) (g : Sub) {p p' : Loc} (h : gcell c g p = gcell c g p') :
    p = p' := by
  obtain ⟨i, j, k⟩ := p
  obtain ⟨i', j', k'⟩ := p'
  simp only [gcell, Prod.mk.injEq] at h
  obtain ⟨h1, h2, h3⟩ := h
  have e1 : i = i' := by omega
  have e2 : j = j' := by omega
  have e3 : k = k' := by omega
  subst e1 e2 e3; rfl

/-- every cell of the global grid is a cell of a subgrid (of one only: `gcell_inj`) -/
theorem exists_gcell {L : Layout} {c : Cells} {X : Loc} (hX : valid (cellGrid L c) X = true) :
    ∃ g p, valid L g = true ∧ validLoc c p = true ∧ X = gcell c g p := by
  obtain ⟨h1, h2, h3⟩ := (valid_iff _ X).mp hX
  obtain ⟨a1, b1, e1⟩ := MixedRadix.div_mod_of_lt_mul h1
  obtain ⟨a2, b2, e2⟩ := MixedRadix.div_mod_of_lt_mul h2
  obtain ⟨a3, b3, e3⟩ := MixedRadix.div_mod_of_lt_mul h3
  exact ⟨(X.1 / c.cx, X.2.1 / c.cy, X.2.2 / c.cz), (X.1 % c.cx, X.2.1 % c.cy, X.2.2 % c.cz),
    (valid_iff _ _).mpr ⟨a1, a2, a3⟩, (validLoc_iff _ _).mpr ⟨b1, b2, b3⟩,
    by simp only [gcell, e1, e2, e3]⟩

/-! ### the next cell in the global grid, in terms of subgrid and cell in the subgrid -/

theorem ngbUp_gcell_inner {L : Layout} {c : Cells} {g : Sub} {p : Loc} (ax : Axis)
    (hg : valid L g = true) (h : coord p ax + 1 < clen c ax) :
    ngbUp (cellGrid L c) ax (gcell c g p)
      = some (gcell c g (setCoord p ax (coord p ax + 1))) := by
  unfold ngbUp
  rw [len_cellGrid, per_cellGrid, coord_gcell, up1_inner _ (coord_lt hg ax) h]
  simp only [Option.map_some, setCoord_gcell, setCoord_coord]

theorem ngbUp_gcell_outer {L : Layout} {c : Cells} {g : Sub} {p : Loc} (ax : Axis)
    (hg : valid L g = true) (h : coord p ax + 1 = clen c ax) :
    ngbUp (cellGrid L c) ax (gcell c g p)
      = (ngbUp L ax g).map (fun n => gcell c n (setCoord p ax 0)) := by
  unfold ngbUp
  rw [len_cellGrid, per_cellGrid, coord_gcell, up1_outer _ (coord_lt hg ax) h]
  cases up1 (len L ax) (per L ax) (coord g ax) with
  | none => rfl
  | some a' => simp only [Option.map_some, setCoord_gcell]

/-! ### membership in the sweep lists -/

theorem innerBound_self (c : Cells) (ax : Axis) : innerBound c ax ax = clen c ax - 1 := by
  simp [innerBound]

theorem innerLoc_eq_map (c : Cells) (ax : Axis) :
    innerLoc c ax = (allSubs ⟨innerBound c ax .x, innerBound c ax .y, innerBound c ax .z, false,
      false, false⟩).map fun p => (p, setCoord p ax (coord p ax + 1)) := by
  simp only [innerLoc, allSubs, List.map_flatMap, List.map_map, Function.comp_def]

theorem mem_innerLoc (c : Cells) (ax : Axis) (p q : Loc) :
    (p, q) ∈ innerLoc c ax ↔
      validLoc c p = true ∧ coord p ax + 1 < clen c ax ∧ q = setCoord p ax (coord p ax + 1) := by
  have hb : (p.1 < innerBound c ax .x ∧ p.2.1 < innerBound c ax .y ∧ p.2.2 < innerBound c ax .z) ↔
      (p.1 < c.cx ∧ p.2.1 < c.cy ∧ p.2.2 < c.cz) ∧ coord p ax + 1 < clen c ax := by
    cases ax <;> simp [innerBound, clen, coord] <;> omega
  simp only [innerLoc_eq_map, List.mem_map, mem_allSubs, valid_iff, Prod.mk.injEq, validLoc_iff]
  constructor
  · rintro ⟨p', hp', rfl, rfl⟩; exact ⟨(hb.mp hp').1, (hb.mp hp').2, rfl⟩
  · rintro ⟨h1, h2, rfl⟩; exact ⟨p, hb.mpr ⟨h1, h2⟩, rfl, rfl⟩

theorem mem_faceLocs (c : Cells) (ax : Axis) (v : Nat) (hv : v < clen c ax) (p : Loc) :
    p ∈ faceLocs c ax v ↔ validLoc c p = true ∧ coord p ax = v := by
  obtain ⟨ix, iy, iz⟩ := p
  simp only [faceLocs, List.mem_flatMap, List.mem_range, List.mem_map, validLoc_iff]
  constructor
  · -- `colLen`, `rowLen` of `outerGeom c ax` are the cell counts along the two other axes
    rintro ⟨ic, h1, ir, h2, h⟩
    cases ax <;> simp only [faceLoc, Prod.mk.injEq] at h <;> obtain ⟨rfl, rfl, rfl⟩ := h <;>
      simp [outerGeom, clen, coord] at h1 h2 hv ⊢ <;> omega
  · rintro ⟨⟨h1, h2, h3⟩, h4⟩
    cases ax <;> simp only [coord] at h4 <;> subst h4
    · exact ⟨iy, h2, iz, h3, rfl⟩
    · exact ⟨ix, h1, iz, h3, rfl⟩
    · exact ⟨ix, h1, iy, h2, rfl⟩

theorem setCoord_faceLoc (ax : Axis) (v w ic ir : Nat) :
    setCoord (faceLoc ax v ic ir) ax w = faceLoc ax w ic ir := by cases ax <;> rfl

theorem outerLoc_eq_map (c : Cells) (ax : Axis) :
    outerLoc c ax = (faceLocs c ax (clen c ax - 1)).map fun p => (p, setCoord p ax 0) := by
  simp only [outerLoc, faceLocs, List.map_flatMap, List.map_map, Function.comp_def, setCoord_faceLoc]

theorem mem_outerLoc (c : Cells) (ax : Axis) (hc : 0 < clen c ax) (p q : Loc) :
    (p, q) ∈ outerLoc c ax ↔
      validLoc c p = true ∧ coord p ax + 1 = clen c ax ∧ q = setCoord p ax 0 := by
  simp only [outerLoc_eq_map, List.mem_map, Prod.mk.injEq, mem_faceLocs c ax _ (by omega : clen c ax - 1 < clen c ax)]
  constructor
  · rintro ⟨p', ⟨h1, h2⟩, rfl, rfl⟩; exact ⟨h1, by omega, rfl⟩
  · rintro ⟨h1, h2, rfl⟩; exact ⟨p, ⟨h1, by omega⟩, rfl, rfl⟩

/-- the pair sweep with the upper neighbour as a list over that neighbour, if there is one: membership
without a case distinction -/
theorem subFaces_eq (L : Layout) (c : Cells) (ax : Axis) (g : Sub) :
    subFaces L c ax g = (innerLoc c ax).map (fun pq => (gcell c g pq.1, gcell c g pq.2)) ++
      (ngbUp L ax g).toList.flatMap fun n =>
        (outerLoc c ax).map fun pq => (gcell c g pq.1, gcell c n pq.2) := by
  unfold subFaces
  cases ngbUp L ax g <;> simp

/-- the pair interactions of subgrid `g` along `ax`: every cell of `g` with its next cell in the
global grid (inside `g` or, for the last layer, the first layer of the neighbour), if there is one -/
theorem mem_subFaces {L : Layout} (c : Cells) (ax : Axis) (hc : 0 < clen c ax) {g : Sub}
    (hg : valid L g = true) (X Y : Loc) :
    (X, Y) ∈ subFaces L c ax g ↔ ∃ p, validLoc c p = true ∧ X = gcell c g p ∧
      ngbUp (cellGrid L c) ax X = some Y := by
  simp only [subFaces_eq, List.mem_append, List.mem_map, List.mem_flatMap, Option.mem_toList,
    Prod.mk.injEq]
  constructor
  · rintro (⟨⟨p, q⟩, hpq, rfl, rfl⟩ | ⟨n, hn, ⟨p, q⟩, hpq, rfl, rfl⟩)
    · obtain ⟨h1, h2, rfl⟩ := (mem_innerLoc c ax p q).mp hpq
      exact ⟨p, h1, rfl, ngbUp_gcell_inner ax hg h2⟩
    · obtain ⟨h1, h2, rfl⟩ := (mem_outerLoc c ax hc p q).mp hpq
      exact ⟨p, h1, rfl, by rw [ngbUp_gcell_outer ax hg h2, hn]; rfl⟩
  · rintro ⟨p, h1, rfl, hY⟩
    by_cases h : coord p ax + 1 < clen c ax
    · rw [ngbUp_gcell_inner ax hg h] at hY
      exact Or.inl ⟨(p, _), (mem_innerLoc ..).mpr ⟨h1, h, rfl⟩, rfl, Option.some.inj hY⟩
    · have h' : coord p ax + 1 = clen c ax := by have := coord_lt_clen h1 ax; omega
      rw [ngbUp_gcell_outer ax hg h'] at hY
      obtain ⟨n, hn, rfl⟩ := Option.map_eq_some_iff.mp hY
      exact Or.inr ⟨n, hn, (p, _), (mem_outerLoc c ax hc ..).mpr ⟨h1, h', rfl⟩, rfl, rfl⟩

theorem mem_gridFaces (G : Layout) (ax : Axis) (X Y : Loc) :
    (X, Y) ∈ gridFaces G ax ↔ valid G X = true ∧ ngbUp G ax X = some Y := by
  simp only [gridFaces, List.mem_filterMap, mem_allSubs, Option.map_eq_some_iff, Prod.mk.injEq]
  constructor
  · rintro ⟨X', hX', Y', hY', rfl, rfl⟩; exact ⟨hX', hY'⟩
  · rintro ⟨hX, hY⟩; exact ⟨X, hX, Y, hY, rfl, rfl⟩

/-- same elements: the subgrid sweeps of all subgrids together visit exactly the faces of the
global grid -/
theorem mem_allFaces_iff (L : Layout) (c : Cells) (ax : Axis) (hc : 0 < clen c ax) (X Y : Loc) :
    (X, Y) ∈ allFaces L c ax ↔ (X, Y) ∈ gridFaces (cellGrid L c) ax := by
  rw [mem_gridFaces]
  simp only [allFaces, List.mem_flatMap, mem_allSubs]
  constructor
  · rintro ⟨g, hg, h⟩
    obtain ⟨p, hp, rfl, hY⟩ := (mem_subFaces c ax hc hg _ Y).mp h
    exact ⟨valid_gcell hg hp, hY⟩
  · rintro ⟨hX, hY⟩
    obtain ⟨g, p, hg, hp, rfl⟩ := exists_gcell hX
    exact ⟨g, hg, (mem_subFaces c ax hc hg _ Y).mpr ⟨p, hp, rfl, hY⟩⟩

/-! ### no interaction is performed twice -/

theorem innerLoc_nodup (c : Cells) (ax : Axis) : (innerLoc c ax).Nodup := by
  rw [innerLoc_eq_map]
  exact (allSubs_nodup _).map fun p p' h => (Prod.mk.inj h).1

theorem faceLoc_inj {ax : Axis} {v ic ir ic' ir' : Nat}
    (h : faceLoc ax v ic ir = faceLoc ax v ic' ir') : ic = ic' ∧ ir = ir' := by
  cases ax <;> simp only [faceLoc, Prod.mk.injEq] at h <;> simp [h]

theorem faceLocs_nodup (c : Cells) (ax : Axis) (v : Nat) : (faceLocs c ax v).Nodup := by
  unfold faceLocs
  refine List.nodup_flatMap_of_disjoint List.nodup_range (fun ic _ => ?_) ?_
  · exact List.nodup_range.map (fun ir ir' h => (faceLoc_inj h).2)
  · intro ic _ ic' _ b hb hb'
    simp only [List.mem_map, List.mem_range] at hb hb'
    obtain ⟨ir, _, rfl⟩ := hb
    obtain ⟨ir', _, h⟩ := hb'
    exact (faceLoc_inj h).1.symm

theorem outerLoc_nodup (c : Cells) (ax : Axis) : (outerLoc c ax).Nodup := by
  rw [outerLoc_eq_map]
  exact (faceLocs_nodup c ax _).map fun p p' h => (Prod.mk.inj h).1

theorem subFaces_nodup (L : Layout) (c : Cells) (ax : Axis) (hc : 0 < clen c ax) (g : Sub) :
    (subFaces L c ax g).Nodup := by
  have inj : ∀ n, Function.Injective fun pq : Loc × Loc => (gcell c g pq.1, gcell c n pq.2) :=
    fun n pq pq' h => Prod.ext (gcell_right_inj c g (Prod.mk.inj h).1) (gcell_right_inj c n (Prod.mk.inj h).2)
  rw [subFaces_eq, List.nodup_append]
  refine ⟨(innerLoc_nodup c ax).map (inj g), ?_, ?_⟩
  · cases ngbUp L ax g with
    | none => exact List.nodup_nil
    | some n => simpa using (outerLoc_nodup c ax).map (inj n)
  · -- an inner pair starts below the last layer, an outer pair in it
    rintro f hf _ hf' rfl
    simp only [List.mem_map, List.mem_flatMap] at hf hf'
    obtain ⟨⟨p, q⟩, hpq, rfl⟩ := hf
    obtain ⟨n, _, ⟨p', q'⟩, hpq', h⟩ := hf'
    simp only [Prod.mk.injEq] at h
    obtain rfl := gcell_right_inj c g h.1
    rw [mem_innerLoc] at hpq
    rw [mem_outerLoc c ax hc] at hpq'
    omega

theorem allFaces_nodup (L : Layout) (c : Cells) (ax : Axis) (hc : 0 < clen c ax) :
    (allFaces L c ax).Nodup := by
  unfold allFaces
  refine List.nodup_flatMap_of_disjoint (allSubs_nodup L) (fun g _ => subFaces_nodup L c ax hc g) ?_
  intro g hg g' hg' ⟨X, Y⟩ hb hb'
  obtain ⟨p, hp, rfl, _⟩ := (mem_subFaces c ax hc ((mem_allSubs L g).mp hg) _ Y).mp hb
  obtain ⟨p', hp', h, _⟩ := (mem_subFaces c ax hc ((mem_allSubs L g').mp hg') _ Y).mp hb'
  exact (gcell_inj hp hp' h).1

theorem gridFaces_nodup (G : Layout) (ax : Axis) : (gridFaces G ax).Nodup := by
  unfold gridFaces
  refine (allSubs_nodup G).filterMap ?_
  intro X X' f hf hf'
  simp only [Option.mem_def, Option.map_eq_some_iff] at hf hf'
  obtain ⟨Y, _, rfl⟩ := hf
  obtain ⟨Y', _, h⟩ := hf'
  simp only [Prod.mk.injEq] at h
  exact h.1.symm

/-! ### ghost interactions: the boundary sweeps of all subgrids visit the box-boundary cells of the grid -/

theorem mem_subGhosts (L : Layout) (c : Cells) (ax : Axis) (up : Bool) (hc : 0 < clen c ax)
    (g : Sub) (X : Loc) :
    X ∈ subGhosts L c ax up g ↔ (if up then ngbUp L ax g else ngbDown L ax g) = none ∧
      ∃ p, validLoc c p = true ∧ coord p ax = (if up then clen c ax - 1 else 0) ∧
        X = gcell c g p := by
  unfold subGhosts
  by_cases h : (if up then ngbUp L ax g else ngbDown L ax g).isNone = true
  · rw [if_pos h]
    simp only [ghostLoc, List.mem_map]
    have hv : (if up = true then clen c ax - 1 else 0) < clen c ax := by split_ifs <;> omega
    constructor
    · rintro ⟨p, hp, rfl⟩
      rw [mem_faceLocs c ax _ hv] at hp
      exact ⟨Option.isNone_iff_eq_none.mp h, p, hp.1, hp.2, rfl⟩
    · rintro ⟨_, p, h1, h2, rfl⟩
      exact ⟨p, (mem_faceLocs c ax _ hv p).mpr ⟨h1, h2⟩, rfl⟩
  · rw [if_neg h]
    simp only [List.not_mem_nil, false_iff, not_and]
    intro h'
    rw [h'] at h; simp at h

theorem mem_gridGhosts (G : Layout) (ax : Axis) (up : Bool) (X : Loc) :
    X ∈ gridGhosts G ax up ↔
      valid G X = true ∧ (if up then ngbUp G ax X else ngbDown G ax X) = none := by
  simp only [gridGhosts, List.mem_filter, mem_allSubs, Option.isNone_iff_eq_none]

theorem ngb_gcell_eq_none {L : Layout} {c : Cells} {g : Sub} {p : Loc} (ax : Axis) (up : Bool)
    (hg : valid L g = true) (hp : validLoc c p = true) (hc : 0 < clen c ax) :
    (if up then ngbUp (cellGrid L c) ax (gcell c g p) else ngbDown (cellGrid L c) ax (gcell c g p))
        = none ↔
      (if up then ngbUp L ax g else ngbDown L ax g) = none ∧
        coord p ax = (if up then clen c ax - 1 else 0) := by
  have hlt := coord_lt_clen hp ax
  cases up
  · -- no previous cell: coordinate 0 on a non-periodic axis, and `g·c + p = 0 ↔ g = 0 ∧ p = 0`
    simp only [Bool.false_eq_true, if_false, ngbDown, Option.map_eq_none_iff, down1_eq_none,
      per_cellGrid, coord_gcell, Nat.add_eq_zero_iff, Nat.mul_eq_zero, hc.ne', or_false]
    tauto
  · simp only [if_true]
    by_cases h1 : coord p ax + 1 < clen c ax
    · rw [ngbUp_gcell_inner ax hg h1]
      exact ⟨fun h => (Option.some_ne_none _ h).elim, fun h => by omega⟩
    · rw [ngbUp_gcell_outer ax hg (by omega), Option.map_eq_none_iff]
      exact ⟨fun h => ⟨h, by omega⟩, And.left⟩

theorem mem_allGhosts_iff (L : Layout) (c : Cells) (ax : Axis) (up : Bool) (hc : 0 < clen c ax)
    (X : Loc) : X ∈ allGhosts L c ax up ↔ X ∈ gridGhosts (cellGrid L c) ax up := by
  simp only [mem_gridGhosts, allGhosts, List.mem_flatMap, mem_allSubs, mem_subGhosts L c ax up hc]
  constructor
  · rintro ⟨g, hg, hn, p, hp, hv, rfl⟩
    exact ⟨valid_gcell hg hp, (ngb_gcell_eq_none ax up hg hp hc).mpr ⟨hn, hv⟩⟩
  · rintro ⟨hX, hn⟩
    obtain ⟨g, p, hg, hp, rfl⟩ := exists_gcell hX
    obtain ⟨h1, h2⟩ := (ngb_gcell_eq_none ax up hg hp hc).mp hn
    exact ⟨g, hg, h1, p, hp, h2, rfl⟩

theorem allGhosts_nodup (L : Layout) (c : Cells) (ax : Axis) (up : Bool) (hc : 0 < clen c ax) :
    (allGhosts L c ax up).Nodup := by
  unfold allGhosts
  refine List.nodup_flatMap_of_disjoint (allSubs_nodup L) (fun g _ => ?_) ?_
  · unfold subGhosts
    by_cases h : (if up then ngbUp L ax g else ngbDown L ax g).isNone = true
    · rw [if_pos h]
      exact (faceLocs_nodup c ax _).map (fun p p' h => gcell_right_inj c g h)
    · rw [if_neg h]
      exact List.nodup_nil
  · intro g _ g' _ X hb hb'
    rw [mem_subGhosts L c ax up hc] at hb hb'
    obtain ⟨_, p, hp, _, rfl⟩ := hb
    obtain ⟨_, p', hp', _, h⟩ := hb'
    exact (gcell_inj hp hp' h).1

theorem gridGhosts_nodup (G : Layout) (ax : Axis) (up : Bool) : (gridGhosts G ax up).Nodup :=
  (allSubs_nodup G).filter _

theorem allFaces_perm (L : Layout) (c : Cells) (ax : Axis) (hc : 0 < clen c ax) :
    (allFaces L c ax).Perm (gridFaces (cellGrid L c) ax) :=
  (List.perm_ext_iff_of_nodup (allFaces_nodup L c ax hc) (gridFaces_nodup _ ax)).mpr
    (fun f => mem_allFaces_iff L c ax hc f.1 f.2)

theorem allGhosts_perm (L : Layout) (c : Cells) (ax : Axis) (up : Bool) (hc : 0 < clen c ax) :
    (allGhosts L c ax up).Perm (gridGhosts (cellGrid L c) ax up) :=
  (List.perm_ext_iff_of_nodup (allGhosts_nodup L c ax up hc) (gridGhosts_nodup _ ax up)).mpr
    (fun X => mem_allGhosts_iff L c ax up hc X)

/-! ### the index level is the image of the coordinate level -/

theorem innerIdx_eq (c : Cells) (ax : Axis) :
    innerIdx c ax = (innerLoc c ax).map (fun pq => (lidx c pq.1, lidx c pq.2)) := by
  simp only [innerIdx, innerLoc, List.map_flatMap, List.map_map]
  congr 1; funext ix; congr 1; funext iy; congr 1; funext iz
  cases ax <;> simp only [Function.comp, lidx, setCoord, coord, Prod.mk.injEq, true_and]
  -- left for `.z`: `ix * n3 + iy * n2 + iz + 1 = ix * n3 + iy * n2 + (iz + 1)`
  omega

theorem outerIdx_eq (c : Cells) (ax : Axis) :
    outerIdx c ax = (outerLoc c ax).map (fun pq => (lidx c pq.1, lidx c pq.2)) := by
  simp only [outerIdx, outerLoc, List.map_flatMap, List.map_map]
  congr 1; funext ic; congr 1; funext ir
  cases ax <;>
    simp only [Function.comp, lidx, faceLoc, outerGeom, clen, Prod.mk.injEq, Nat.mul_one,
      Nat.zero_add, Nat.zero_mul] <;> omega

theorem ghostIdx_eq (c : Cells) (ax : Axis) (up : Bool) :
    ghostIdx c ax up = (ghostLoc c ax up).map (lidx c) := by
  simp only [ghostIdx, ghostLoc, faceLocs, List.map_flatMap, List.map_map]
  congr 1; funext ic; congr 1; funext ir
  cases ax <;> cases up <;>
    simp only [Function.comp, lidx, faceLoc, outerGeom, clen, Nat.mul_one, Nat.zero_add,
      Nat.zero_mul, if_true, Bool.false_eq_true, if_false] <;> omega

/-- `get_three_index` inverts the index formula: a cell index names one cell of the subgrid -/
theorem threeIndex_lidx (c : Cells) (p : Loc) (hp : validLoc c p = true) :
    threeIndex c (lidx c p) = p := by
  rw [validLoc_iff] at hp
  obtain ⟨ix, iy, iz⟩ := p
  obtain ⟨e1, e2, e3⟩ := MixedRadix.index_div_mod (a := ix) hp.2.1 hp.2.2
  -- the C++ writes the remainder as `i - i / s * s`
  simp only [threeIndex, lidx, ← Nat.mod_eq_sub_div_mul]
  rw [e1, e2, e3]

theorem lidx_inj (c : Cells) {p q : Loc} (hp : validLoc c p = true) (hq : validLoc c q = true)
    (h : lidx c p = lidx c q) : p = q := by
  rw [← threeIndex_lidx c p hp, ← threeIndex_lidx c q hq, h]

end CMacVerif.HydroSweeps
