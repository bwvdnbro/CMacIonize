import CMacVerif.Lemmas.GridNum
import CMacVerif.Lemmas.AMRTree
import Mathlib.Tactic.Ring
import Mathlib.Tactic.FieldSimp
/-! Geometry of the AMR descent (C16): block and child index in exact arithmetic (one axis at a time), the child
boxes, the descent by position (for every numeric type: it follows a leaf path; over `ℝ`: the leaf that contains the
position, and no other does), leaf volumes. -/
namespace CMacVerif.AMR
open CMacVerif.GridNum

theorem blockIndex_lt {α : Type} [Sub α] [Mul α] [Div α] [GridNum.Trunc α] [OfInt α] (n : Nat) (hn : 0 < n)
    (p a s : α) : blockIndex n p a s < n := by
  unfold blockIndex
  have := Nat.min_le_right (GridNum.Trunc.toNat ((OfInt.ofNat n : α) * (p - a) / s)) (n - 1)
  omega

theorem childIndex_le_one {α : Type} [Sub α] [Mul α] [Div α] [OfScientific α] [GridNum.Trunc α] (p a s : α) :
    childIndex p a s ≤ 1 := by
  unfold childIndex; exact Nat.min_le_right _ _

theorem toNat_quot_eq_iff {m p a s : ℝ} (hm : 0 < m) (hs : 0 < s) (hp : a ≤ p) (j : Nat) :
    Trunc.toNat (m * (p - a) / s) = j ↔ a + (j : ℝ) * (s / m) ≤ p ∧ p < a + (j : ℝ) * (s / m) + s / m := by
  have hw : 0 < s / m := div_pos hs hm
  have e : m * (p - a) / s = (p - a) / (s / m) := by rw [div_div_eq_mul_div, mul_comm]
  rw [e, toNat_eq_iff _ (div_nonneg (sub_nonneg.2 hp) hw.le), le_div_iff₀ hw, div_lt_iff₀ hw,
    le_sub_iff_add_le', sub_lt_iff_lt_add', add_one_mul, add_assoc]

/-- in exact arithmetic the clamp is inactive for positions inside the box -/
theorem blockIndex_eq_iff (n : Nat) (hn : 0 < n) (p a s : ℝ) (hs : 0 < s) (h1 : a ≤ p) (h2 : p < a + s) (j : Nat) :
    blockIndex n p a s = j ↔
      a + (OfInt.ofNat j : ℝ) * (s / OfInt.ofNat n) ≤ p ∧
      p < a + (OfInt.ofNat j : ℝ) * (s / OfInt.ofNat n) + s / OfInt.ofNat n := by
  have hn' : (0 : ℝ) < n := by exact_mod_cast hn
  have hlt : ∀ i : Nat, a + (i : ℝ) * (s / n) ≤ p → i < n := by
    intro i hi
    have : (i : ℝ) * (s / n) < n * (s / n) := by rw [mul_div_cancel₀ _ hn'.ne']; linarith
    exact_mod_cast lt_of_mul_lt_mul_right this (div_pos hs hn').le
  have := hlt _ ((toNat_quot_eq_iff hn' hs h1 _).1 rfl).1
  unfold blockIndex
  rw [ofNat_real, ofNat_real, ← toNat_quot_eq_iff hn' hs h1 j]
  omega

theorem childIndex_eq_iff (p a s : ℝ) (hs : 0 < s) (h1 : a ≤ p) (h2 : p < a + s) (j : Nat) :
    childIndex p a s = j ↔
      a + (OfInt.ofNat j : ℝ) * (s * 0.5) ≤ p ∧ p < a + (OfInt.ofNat j : ℝ) * (s * 0.5) + s * 0.5 := by
  have e : childIndex p a s = blockIndex 2 p a s := by unfold childIndex blockIndex; rw [ofNat_real]; norm_num
  have h : s * 0.5 = s / OfInt.ofNat 2 := by rw [ofNat_real]; norm_num [div_eq_mul_inv]
  rw [e, h]; exact blockIndex_eq_iff 2 (by decide) p a s hs h1 h2 j

theorem half_offset_bounds (s : ℝ) (hs : 0 < s) (i : Nat) (hi : i ≤ 1) :
    0 ≤ (i : ℝ) * (s * 0.5) ∧ (i : ℝ) * (s * 0.5) + s * 0.5 ≤ s := by
  have h5 : 0 ≤ s * 0.5 := mul_nonneg hs.le (by norm_num)
  have h1 : (i : ℝ) ≤ 1 := by exact_mod_cast hi
  refine ⟨mul_nonneg (Nat.cast_nonneg i) h5, ?_⟩
  calc (i : ℝ) * (s * 0.5) + s * 0.5 ≤ 1 * (s * 0.5) + s * 0.5 :=
        add_le_add (mul_le_mul_of_nonneg_right h1 h5) le_rfl
    _ = s := by ring

theorem half_subset_whole (a s p : ℝ) (hs : 0 < s) (i : Nat) (hi : i < 2)
    (h1 : a + (OfInt.ofNat i : ℝ) * (s * 0.5) ≤ p) (h2 : p < a + (OfInt.ofNat i : ℝ) * (s * 0.5) + s * 0.5) :
    a ≤ p ∧ p < a + s := by
  rw [ofNat_real] at h1 h2
  obtain ⟨b1, b2⟩ := half_offset_bounds s hs i (Nat.le_of_lt_succ hi)
  exact ⟨le_trans (le_add_of_nonneg_right b1) h1,
    lt_of_lt_of_le h2 (by rw [add_assoc]; exact add_le_add le_rfl b2)⟩

theorem childBox_pos (b : Box3 ℝ) (hb : PosBox b) (i j k : Nat) : PosBox (childBox b i j k) :=
  ⟨mul_pos hb.1 (by norm_num), mul_pos hb.2.1 (by norm_num), mul_pos hb.2.2 (by norm_num)⟩

theorem inBox_childBox_iff (b : Box3 ℝ) (p : V3 ℝ) (hb : PosBox b) (hp : InBox b p) (i j k : Nat) :
    InBox (childBox b i j k) p ↔
      childIndex p.x b.ax b.sx = i ∧ childIndex p.y b.ay b.sy = j ∧ childIndex p.z b.az b.sz = k := by
  obtain ⟨hx1, hx2, hy1, hy2, hz1, hz2⟩ := hp
  rw [childIndex_eq_iff p.x b.ax b.sx hb.1 hx1 hx2, childIndex_eq_iff p.y b.ay b.sy hb.2.1 hy1 hy2,
    childIndex_eq_iff p.z b.az b.sz hb.2.2 hz1 hz2, and_assoc, and_assoc]
  exact Iff.rfl

theorem childBox_contains (b : Box3 ℝ) (p : V3 ℝ) (hb : PosBox b) (hp : InBox b p) :
    InBox (childBox b (childIndex p.x b.ax b.sx) (childIndex p.y b.ay b.sy) (childIndex p.z b.az b.sz)) p :=
  (inBox_childBox_iff b p hb hp _ _ _).2 ⟨rfl, rfl, rfl⟩

theorem childBox_sub (b : Box3 ℝ) (p : V3 ℝ) (hb : PosBox b) (i j k : Nat)
    (hi : i < 2) (hj : j < 2) (hk : k < 2) (hp : InBox (childBox b i j k) p) : InBox b p := by
  obtain ⟨h1, h2, h3, h4, h5, h6⟩ := hp
  obtain ⟨x1, x2⟩ := half_subset_whole b.ax b.sx p.x hb.1 i hi h1 h2
  obtain ⟨y1, y2⟩ := half_subset_whole b.ay b.sy p.y hb.2.1 j hj h3 h4
  obtain ⟨z1, z2⟩ := half_subset_whole b.az b.sz p.z hb.2.2 k hk h5 h6
  exact ⟨x1, x2, y1, y2, z1, z2⟩

theorem boxOfPath_sub (π : List Nat) : ∀ (b : Box3 ℝ) (p : V3 ℝ), PosBox b →
    InBox (boxOfPath b π) p → InBox b p := by
  induction π with
  | nil => intro b p _ h; exact h
  | cons i r ih =>
    intro b p hb h
    exact childBox_sub b p hb _ _ _ (by omega) (by omega) (by omega) (ih _ p (childBox_pos b hb _ _ _) h)

theorem cell_bits (ix iy iz : Nat) (hx : ix ≤ 1) (hy : iy ≤ 1) (hz : iz ≤ 1) :
    (4 * ix + 2 * iy + iz) / 4 % 2 = ix ∧ (4 * ix + 2 * iy + iz) / 2 % 2 = iy ∧
      (4 * ix + 2 * iy + iz) % 2 = iz ∧ 4 * ix + 2 * iy + iz < 8 := by omega

section
variable {α : Type} [Add α] [Sub α] [Mul α] [Div α] [OfScientific α] [GridNum.Trunc α] [OfInt α]

theorem descend_node (c : Fin 8 → Tree) (L : Nat) (p : V3 α) (b : Box3 α) {ix iy iz : Nat}
    (hx : childIndex p.x b.ax b.sx = ix) (hy : childIndex p.y b.ay b.sy = iy)
    (hz : childIndex p.z b.az b.sz = iz) :
    descend (.node c) L p b =
      ((4 * ix + 2 * iy + iz) * 2 ^ (3 * L)
          + (descend (kid c (4 * ix + 2 * iy + iz)) (L + 1) p (childBox b ix iy iz)).1,
        (descend (kid c (4 * ix + 2 * iy + iz)) (L + 1) p (childBox b ix iy iz)).2) := by
  subst hx hy hz; rfl

theorem descend_path (t : Tree) : ∀ (L : Nat) (p : V3 α) (b : Box3 α),
    ∃ π ∈ leafPaths t, descend t L p b = (2 ^ (3 * L) * encodeKey π, boxOfPath b π) := by
  induction t using Tree.kid_induction with
  | leaf => intro L p b; exact ⟨[], by simp [leafPaths], by simp [descend, encodeKey, boxOfPath]⟩
  | node c ih =>
    intro L p b
    have hx := childIndex_le_one p.x b.ax b.sx
    have hy := childIndex_le_one p.y b.ay b.sy
    have hz := childIndex_le_one p.z b.az b.sz
    rw [descend_node c L p b rfl rfl rfl]
    generalize childIndex p.x b.ax b.sx = ix at hx ⊢
    generalize childIndex p.y b.ay b.sy = iy at hy ⊢
    generalize childIndex p.z b.az b.sz = iz at hz ⊢
    obtain ⟨e1, e2, e3, h8⟩ := cell_bits ix iy iz hx hy hz
    obtain ⟨π, hπ, h⟩ := ih (4 * ix + 2 * iy + iz) (L + 1) p (childBox b ix iy iz)
    refine ⟨(4 * ix + 2 * iy + iz) :: π, (mem_leafPaths_node c _).2 ⟨_, π, h8, hπ, rfl⟩, ?_⟩
    simp only [h, boxOfPath, e1, e2, e3, encodeKey, pow_three_succ]
    congr 1; ring
end

theorem descend_inBox (t : Tree) : ∀ (L : Nat) (b : Box3 ℝ) (p : V3 ℝ), PosBox b → InBox b p →
    InBox (descend t L p b).2 p := by
  induction t using Tree.kid_induction with
  | leaf => intro L b p _ hp; exact hp
  | node c ih =>
    intro L b p hb hp
    rw [descend_node c L p b rfl rfl rfl]
    exact ih _ (L + 1) _ p (childBox_pos b hb _ _ _) (childBox_contains b p hb hp)

theorem leafBox_unique (t : Tree) : ∀ (b : Box3 ℝ) (p : V3 ℝ), PosBox b → InBox b p →
    ∀ π ∈ leafPaths t, ∀ π' ∈ leafPaths t, InBox (boxOfPath b π) p → InBox (boxOfPath b π') p → π = π' := by
  induction t using Tree.kid_induction with
  | leaf => intro b p _ _ π hπ π' hπ' _ _; simp [leafPaths] at hπ hπ'; rw [hπ, hπ']
  | node c ih =>
    intro b p hb hp π hπ π' hπ' hin hin'
    obtain ⟨i, r, hi, hr, rfl⟩ := (mem_leafPaths_node c π).1 hπ
    obtain ⟨i', r', hi', hr', rfl⟩ := (mem_leafPaths_node c π').1 hπ'
    -- both child boxes contain `p`, so both child numbers have the bits of `childIndex`
    have hpos := fun j => childBox_pos b hb (j / 4 % 2) (j / 2 % 2) (j % 2)
    have hc := boxOfPath_sub r _ p (hpos i) hin
    obtain ⟨x, y, z⟩ := (inBox_childBox_iff b p hb hp _ _ _).1 hc
    obtain ⟨x', y', z'⟩ := (inBox_childBox_iff b p hb hp _ _ _).1 (boxOfPath_sub r' _ p (hpos i') hin')
    obtain rfl : i = i' := by omega
    rw [ih i _ p (hpos i) hc r hr r' hr' hin hin']

theorem volSum_eq (t : Tree) : ∀ b : Box3 ℝ, volSum t b = volume b := by
  induction t with
  | leaf => intro b; rfl
  | node c ih =>
    intro b
    simp only [volSum, ih, volume, childBox]
    norm_num; ring

end CMacVerif.AMR
