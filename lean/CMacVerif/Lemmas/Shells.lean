import CMacVerif.Model.Shells
import Mathlib.Tactic.Linarith
import Mathlib.Data.Set.Finite.Basic
import Mathlib.Data.Set.Finite.Lattice
import Mathlib.Data.Finite.Prod
import Mathlib.Order.Interval.Set.Infinite
import Mathlib.Order.Interval.Finset.Defs
import Mathlib.Data.Int.Interval
/-! The shell enumeration of the bucket search (C16): `increase_indices` visits every offset once, in
the order (level, offset); `set_max_range` on a cubic grid. -/
namespace CMacVerif.Shells

theorem iabs_lt (x L : Int) : iabs x < L ↔ (-L < x ∧ x < L) := by
  unfold iabs; split_ifs <;> omega

theorem iabs_le (x L : Int) : iabs x ≤ L ↔ (-L ≤ x ∧ x ≤ L) := by
  unfold iabs; split_ifs <;> omega

theorem iabs_eq (x L : Int) : iabs x = L ↔ (0 ≤ L ∧ (x = L ∨ x = -L)) := by
  unfold iabs; split_ifs <;> omega

theorem iabs_nonneg (x : Int) : 0 ≤ iabs x := by
  unfold iabs; split_ifs <;> omega

theorem imax_eq (a b c : Int) : imax a b = c ↔ (a ≤ c ∧ b ≤ c ∧ (a = c ∨ b = c)) := by
  unfold imax; split_ifs <;> omega

theorem imax_le (a b c : Int) : imax a b ≤ c ↔ (a ≤ c ∧ b ≤ c) := by
  unfold imax; split_ifs <;> omega

theorem le_imax_left (a b : Int) : a ≤ imax a b := by unfold imax; split_ifs <;> omega
theorem le_imax_right (a b : Int) : b ≤ imax a b := by unfold imax; split_ifs <;> omega

def maxNorm (x y z : Int) : Int := imax (iabs x) (imax (iabs y) (iabs z))

theorem maxNorm_nonneg (x y z : Int) : 0 ≤ maxNorm x y z :=
  le_trans (iabs_nonneg x) (le_imax_left _ _)

/-- `maxNorm = L` in linear form -/
theorem maxNorm_eq (x y z L : Int) : maxNorm x y z = L ↔
    (0 ≤ L ∧ -L ≤ x ∧ x ≤ L ∧ -L ≤ y ∧ y ≤ L ∧ -L ≤ z ∧ z ≤ L ∧
      (x = L ∨ x = -L ∨ y = L ∨ y = -L ∨ z = L ∨ z = -L)) := by
  unfold maxNorm
  simp only [imax_eq, imax_le, iabs_le, iabs_eq]
  omega

/-- the iterator's level is the max-norm of its offset -/
def Good (s : Idx) : Prop := maxNorm s.rx s.ry s.rz = s.level

/-- order of the traversal: by level, then lexicographic in `(rx, ry, rz)` -/
def Lt (a b : Idx) : Prop :=
  a.level < b.level ∨ (a.level = b.level ∧ (a.rx < b.rx ∨ (a.rx = b.rx ∧ (a.ry < b.ry ∨
    (a.ry = b.ry ∧ a.rz < b.rz)))))

theorem good_ext {a b : Idx} (ha : Good a) (hb : Good b) (hx : a.rx = b.rx) (hy : a.ry = b.ry)
    (hz : a.rz = b.rz) : a = b := by
  cases a; cases b
  simp only at hx hy hz
  subst hx hy hz
  rw [Idx.mk.injEq]
  exact ⟨rfl, rfl, rfl, ha.symm.trans hb⟩

theorem Lt_irrefl (a : Idx) : ¬ Lt a a := by unfold Lt; omega

theorem Lt_trans {a b c : Idx} : Lt a b → Lt b c → Lt a c := by unfold Lt; omega

theorem Lt_total (a b : Idx) : Lt a b ∨ a = b ∨ Lt b a := by
  have : a = b ↔ (a.rx = b.rx ∧ a.ry = b.ry ∧ a.rz = b.rz ∧ a.level = b.level) := by
    cases a; cases b; simp
  rw [this]; unfold Lt; omega

/-- a block of level at least `L` lies at least `L` cells from the anchor on one axis: it is on a face of
the cube of its level -/
theorem Good.far {c : Idx} (hc : Good c) {L : Int} (hL : L ≤ c.level) :
    (L ≤ c.rx ∨ c.rx ≤ -L) ∨ (L ≤ c.ry ∨ c.ry ≤ -L) ∨ (L ≤ c.rz ∨ c.rz ≤ -L) := by
  have := (maxNorm_eq _ _ _ _).1 hc
  omega

theorem good_start : Good start := by
  unfold Good; rw [maxNorm_eq]; simp [start]

/-- `increase_indices` is the successor on the good states -/
theorem inc_spec (s : Idx) (h : Good s) : Good (increaseIndices s) ∧ Lt s (increaseIndices s) ∧
    ∀ c, Good c → Lt s c → ¬ Lt c (increaseIndices s) := by
  unfold Good at h
  rw [maxNorm_eq] at h
  unfold increaseIndices
  simp only [iabs_lt]
  -- the five branches: corner `(L, L, L)` → first corner of level `L + 1`; end of an x-slab / y-row →
  -- start of the next; off the side faces, from the bottom face `rz = -L` to the top face; else `rz + 1`
  split_ifs <;>
    refine ⟨(maxNorm_eq _ _ _ _).2 (by simp only [or_true, true_or, and_true]; omega),
      by unfold Lt; simp only [lt_self_iff_false, false_or, true_and]; omega, fun c hc hlt => ?_⟩ <;>
    · unfold Good at hc; rw [maxNorm_eq] at hc
      unfold Lt at hlt ⊢
      simp only
      omega

theorem good_iter (n : Nat) : Good (iter n) := by
  induction n with
  | zero => exact good_start
  | succ n ih => exact (inc_spec _ ih).1

theorem level_nonneg (k : Nat) : 0 ≤ (iter k).level := by
  rw [← good_iter k]; exact maxNorm_nonneg _ _ _

theorem iter_lt_succ (n : Nat) : Lt (iter n) (iter (n + 1)) := (inc_spec _ (good_iter n)).2.1

theorem iter_strictMono {m n : Nat} (h : m < n) : Lt (iter m) (iter n) := by
  induction n with
  | zero => omega
  | succ n ih =>
    rcases Nat.lt_succ_iff_lt_or_eq.mp h with h' | h'
    · exact Lt_trans (ih h') (iter_lt_succ n)
    · subst h'; exact iter_lt_succ m

theorem iter_injective {m n : Nat} (h : iter m = iter n) : m = n := by
  rcases Nat.lt_trichotomy m n with h' | h' | h'
  · exact absurd (h ▸ iter_strictMono h') (Lt_irrefl _)
  · exact h'
  · exact absurd (h ▸ iter_strictMono h') (Lt_irrefl _)

theorem iter_offsets_inj {m n : Nat} (hx : (iter m).rx = (iter n).rx) (hy : (iter m).ry = (iter n).ry)
    (hz : (iter m).rz = (iter n).rz) : m = n :=
  iter_injective (good_ext (good_iter m) (good_iter n) hx hy hz)

theorem level_mono {m n : Nat} (h : m ≤ n) : (iter m).level ≤ (iter n).level := by
  rcases Nat.lt_or_eq_of_le h with h' | h'
  · have := iter_strictMono h'; unfold Lt at this; omega
  · subst h'; exact le_refl _

theorem level_pos_of_pos (k : Nat) (hk : 0 < k) : 1 ≤ (iter k).level := by
  have h1 : (iter 1).level = 1 := by decide
  have := level_mono (m := 1) (n := k) hk
  omega

theorem start_least (c : Idx) (hc : Good c) : c = start ∨ Lt start c := by
  unfold Good at hc; rw [maxNorm_eq] at hc
  have : c = start ↔ (c.rx = 0 ∧ c.ry = 0 ∧ c.rz = 0 ∧ c.level = 0) := by
    cases c; simp [start]
  rw [this]; unfold Lt start; simp only; omega

theorem finite_upto (L : Int) : {s : Idx | Good s ∧ s.level ≤ L}.Finite := by
  have hf : ((fun q : Int × Int × Int × Int => (⟨q.1, q.2.1, q.2.2.1, q.2.2.2⟩ : Idx)) ''
      (Set.Icc (-L) L ×ˢ Set.Icc (-L) L ×ˢ Set.Icc (-L) L ×ˢ Set.Icc 0 L)).Finite :=
    Set.Finite.image _ (Set.Finite.prod (Set.finite_Icc _ _) (Set.Finite.prod (Set.finite_Icc _ _)
      (Set.Finite.prod (Set.finite_Icc _ _) (Set.finite_Icc _ _))))
  refine hf.subset ?_
  rintro ⟨x, y, z, l⟩ ⟨hg, hl⟩
  unfold Good at hg; rw [maxNorm_eq] at hg
  simp only at hg hl
  refine ⟨(x, y, z, l), ?_, rfl⟩
  simp only [Set.mem_prod, Set.mem_Icc]
  omega

theorem level_unbounded (L : Int) : ∃ n, L < (iter n).level := by
  by_contra hcon
  push Not at hcon
  have hinj : Function.Injective iter := fun _ _ h => iter_injective h
  have hinf : (Set.range iter).Infinite := Set.infinite_range_of_injective hinj
  apply hinf
  refine (finite_upto L).subset ?_
  rintro s ⟨n, rfl⟩
  exact ⟨good_iter n, hcon n⟩

theorem iter_surjective (c : Idx) (hc : Good c) : ∃ n, iter n = c := by
  classical
  have hex : ∃ n, Lt c (iter n) := by
    obtain ⟨n, hn⟩ := level_unbounded c.level
    exact ⟨n, Or.inl hn⟩
  have hm := Nat.find_spec hex
  have hmin := fun k => Nat.find_min hex (m := k)
  rcases hk : Nat.find hex with _ | k
  · rw [hk] at hm
    rcases start_least c hc with h | h
    · exact ⟨0, h.symm⟩
    · exact absurd (Lt_trans h hm) (Lt_irrefl _)
  · rw [hk] at hm
    have hnot : ¬ Lt c (iter k) := hmin k (by omega)
    rcases Lt_total (iter k) c with h | h | h
    · exact absurd hm ((inc_spec _ (good_iter k)).2.2 c hc h)
    · exact ⟨k, h⟩
    · exact absurd h hnot

/-- offset inside the grid (the `Prop` form of `isInside`) -/
def Inside (ax ay az sx sy sz : Int) (c : Idx) : Prop :=
  0 ≤ ax + c.rx ∧ ax + c.rx < sx ∧ 0 ≤ ay + c.ry ∧ ay + c.ry < sy ∧ 0 ≤ az + c.rz ∧ az + c.rz < sz

theorem isInside_iff (ax ay az sx sy sz : Int) (c : Idx) :
    isInside ax ay az sx sy sz c.rx c.ry c.rz = true ↔ Inside ax ay az sx sy sz c := by
  unfold isInside Inside; simp

/-- the blocks inside the grid shrink towards the anchor: below a block inside the grid every level has a
block inside the grid (on the axis that carries the level, `L` cells out on the same side) -/
theorem inside_shrink {ax ay az sx sy sz : Int} (hx : 0 ≤ ax ∧ ax < sx) (hy : 0 ≤ ay ∧ ay < sy)
    (hz : 0 ≤ az ∧ az < sz) {c : Idx} (hc : Good c) (hin : Inside ax ay az sx sy sz c) {L : Int} (h0 : 0 ≤ L)
    (hL : L ≤ c.level) : ∃ c' : Idx, Good c' ∧ Inside ax ay az sx sy sz c' ∧ c'.level = L := by
  obtain ⟨-, -, -, -, -, -, -, hface⟩ := (maxNorm_eq _ _ _ _).1 hc
  obtain ⟨i1, i2, i3, i4, i5, i6⟩ := hin
  suffices h : ∃ x y z : Int, maxNorm x y z = L ∧ Inside ax ay az sx sy sz ⟨x, y, z, L⟩ from
    let ⟨x, y, z, h1, h2⟩ := h; ⟨⟨x, y, z, L⟩, h1, h2, rfl⟩
  simp only [maxNorm_eq, Inside]
  rcases hface with h | h | h | h | h | h
  · exact ⟨L, 0, 0, by omega⟩
  · exact ⟨-L, 0, 0, by omega⟩
  · exact ⟨0, L, 0, by omega⟩
  · exact ⟨0, -L, 0, by omega⟩
  · exact ⟨0, 0, L, by omega⟩
  · exact ⟨0, 0, -L, by omega⟩

theorem setMaxRange_eq (ax ay az s : Int) : setMaxRange ax ay az s s s =
    maxRangeChoice (-ax) (-ay) (-az) (s - ax - 1) (s - ay - 1) (s - az - 1)
      (imax ax (s - ax - 1)) (imax ay (s - ay - 1)) (imax az (s - az - 1))
      (imax (imax (imax ax (s - ax - 1)) (imax ay (s - ay - 1))) (imax az (s - az - 1))) := by
  unfold setMaxRange; simp only [neg_neg]

theorem setMaxRange_level (ax ay az s : Int) : (setMaxRange ax ay az s s s).level =
    imax (imax (imax ax (s - ax - 1)) (imax ay (s - ay - 1))) (imax az (s - az - 1)) := by
  rw [setMaxRange_eq]; unfold maxRangeChoice; split_ifs <;> rfl

/-- `set_max_range` on a cubic grid, with `ml` the level it returns: `ml` is the largest of the six
extents of the grid around the anchor, and the block is the one with the upper ends on all axes,
unless no upper end reaches `ml`; then it has the lower end on the last axis (z before y before x)
whose lower extent is `ml` -/
theorem setMaxRange_cubic (ax ay az s : Int) :
    let ml := (setMaxRange ax ay az s s s).level
    ((ax ≤ ml ∧ s - ax - 1 ≤ ml ∧ ay ≤ ml ∧ s - ay - 1 ≤ ml ∧ az ≤ ml ∧ s - az - 1 ≤ ml) ∧
      (ax = ml ∨ s - ax - 1 = ml ∨ ay = ml ∨ s - ay - 1 = ml ∨ az = ml ∨ s - az - 1 = ml)) ∧
    setMaxRange ax ay az s s s =
      if s - ax - 1 < ml ∧ s - ay - 1 < ml ∧ s - az - 1 < ml then
        if az = ml then ⟨s - ax - 1, s - ay - 1, -az, ml⟩
        else if ay = ml then ⟨s - ax - 1, -ay, s - az - 1, ml⟩
        else ⟨-ax, s - ay - 1, s - az - 1, ml⟩
      else ⟨s - ax - 1, s - ay - 1, s - az - 1, ml⟩ := by
  intro ml
  have h5 : imax (imax (imax ax (s - ax - 1)) (imax ay (s - ay - 1))) (imax az (s - az - 1)) = ml :=
    (setMaxRange_level ax ay az s).symm
  clear_value ml
  rw [setMaxRange_eq, h5]
  generalize h1 : imax ax (s - ax - 1) = lx at h5 ⊢
  generalize h2 : imax ay (s - ay - 1) = ly at h5 ⊢
  generalize h3 : imax az (s - az - 1) = lz at h5 ⊢
  generalize h4 : imax lx ly = lxy at h5
  rw [imax_eq] at h1 h2 h3 h4 h5
  refine ⟨by omega, ?_⟩
  have haz : az ≤ ml := by omega
  have hay : ay ≤ ml := by omega
  -- the three tests of the C++ (the conditions of `maxRangeChoice`) in terms of `ml`
  obtain ⟨Z, Y, X⟩ :
      ((-(-az) > s - az - 1 ∧ (lz > lx ∨ (lz = lx ∧ -ax = -az)) ∧ (lz > ly ∨ (lz = ly ∧ -ay = -az))) ↔
        (s - ax - 1 < ml ∧ s - ay - 1 < ml ∧ s - az - 1 < ml) ∧ az = ml) ∧
      ((-(-ay) > s - ay - 1 ∧ ly > lz ∧ (ly > lx ∨ (ly = lx ∧ -ax = -ay))) ↔
        (s - ax - 1 < ml ∧ s - ay - 1 < ml ∧ s - az - 1 < ml) ∧ az < ml ∧ ay = ml) ∧
      ((-(-ax) > s - ax - 1 ∧ lx > ly ∧ lx > lz) ↔
        (s - ax - 1 < ml ∧ s - ay - 1 < ml ∧ s - az - 1 < ml) ∧ az < ml ∧ ay < ml) := by
    refine ⟨⟨?_, ?_⟩, ⟨?_, ?_⟩, ?_⟩
    · rintro ⟨c1, c2, c3⟩
      have e : lz = az := by omega
      have e' : ml = lz := by omega
      omega
    · rintro ⟨⟨r1, r2, r3⟩, r4⟩
      have e : lz = az := by omega
      omega
    · rintro ⟨c1, c2, c3⟩
      have e : ly = ay := by omega
      have e' : ml = ly := by omega
      omega
    · rintro ⟨⟨r1, r2, r3⟩, r4, r5⟩
      have e : ly = ay := by omega
      omega
    · constructor <;> intro _ <;> omega
  unfold maxRangeChoice
  by_cases hhi : s - ax - 1 < ml ∧ s - ay - 1 < ml ∧ s - az - 1 < ml
  · rw [if_pos hhi]
    by_cases kz : az = ml
    · rw [if_pos kz, if_pos (Z.2 ⟨hhi, kz⟩)]
    · rw [if_neg kz, if_neg fun c => kz (Z.1 c).2]
      by_cases ky : ay = ml
      · rw [if_pos ky, if_pos (Y.2 ⟨hhi, lt_of_le_of_ne haz kz, ky⟩)]
      · rw [if_neg ky, if_neg fun c => ky (Y.1 c).2.2,
          if_pos (X.2 ⟨hhi, lt_of_le_of_ne haz kz, lt_of_le_of_ne hay ky⟩)]
  · rw [if_neg hhi, if_neg fun c => hhi (Z.1 c).1, if_neg fun c => hhi (Y.1 c).1, if_neg fun c => hhi (X.1 c).1]

theorem maxRange_last (ax ay az s : Int) (hx : 0 ≤ ax ∧ ax < s) (hy : 0 ≤ ay ∧ ay < s) (hz : 0 ≤ az ∧ az < s) :
    Inside ax ay az s s s (setMaxRange ax ay az s s s) ∧ Good (setMaxRange ax ay az s s s) ∧
    ∀ c, Good c → Inside ax ay az s s s c → ¬ Lt (setMaxRange ax ay az s s s) c := by
  obtain ⟨⟨hb, hm⟩, e⟩ := setMaxRange_cubic ax ay az s
  rw [e]
  -- with a lower end on one axis that coordinate is forced: only the lower face of that axis reaches `ml`
  split_ifs <;>
    refine ⟨by unfold Inside; simp only; omega, (maxNorm_eq _ _ _ _).2 (by simp only; omega), fun c hc hin => ?_⟩ <;>
    · unfold Good at hc; rw [maxNorm_eq] at hc
      unfold Inside at hin
      unfold Lt
      simp only
      omega

theorem skipOutside_reaches (ax ay az sx sy sz : Int) (d : Nat) : ∀ (a fuel : Nat),
    (∀ j, a ≤ j → j < a + d → ¬ Inside ax ay az sx sy sz (iter j)) →
    Inside ax ay az sx sy sz (iter (a + d)) → d < fuel →
    skipOutside ax ay az sx sy sz fuel (iter a) = some (iter (a + d)) := by
  induction d with
  | zero =>
    intro a fuel _ hin hf
    obtain ⟨f, rfl⟩ : ∃ f, fuel = f + 1 := ⟨fuel - 1, by omega⟩
    simp only [skipOutside, Nat.add_zero] at *
    rw [(isInside_iff _ _ _ _ _ _ _).2 hin]; rfl
  | succ d ih =>
    intro a fuel hout hin hf
    obtain ⟨f, rfl⟩ : ∃ f, fuel = f + 1 := ⟨fuel - 1, by omega⟩
    have h0 : ¬ Inside ax ay az sx sy sz (iter a) := hout a (le_refl _) (by omega)
    have h0' : isInside ax ay az sx sy sz (iter a).rx (iter a).ry (iter a).rz = false := by
      rw [← Bool.not_eq_true, isInside_iff]; exact h0
    simp only [skipOutside, h0']
    rw [show a + (d + 1) = a + 1 + d by omega] at hin ⊢
    exact ih (a + 1) f (fun j hj hj' => hout j (by omega) (by omega)) hin (by omega)

theorem increaseRange_atEnd {ax ay az sx sy sz : Int} {mx s : Idx} (fuel : Nat)
    (h : s.rx = mx.rx ∧ s.ry = mx.ry ∧ s.rz = mx.rz) : increaseRange ax ay az sx sy sz mx fuel s = .atEnd := by
  unfold increaseRange; rw [if_pos h]

theorem increaseRange_of_skip {ax ay az sx sy sz : Int} {mx s s' : Idx} {fuel : Nat}
    (hne : ¬ (s.rx = mx.rx ∧ s.ry = mx.ry ∧ s.rz = mx.rz))
    (h : skipOutside ax ay az sx sy sz fuel (increaseIndices s) = some s') :
    increaseRange ax ay az sx sy sz mx fuel s = .next s' := by
  unfold increaseRange; rw [if_neg hne, h]

end CMacVerif.Shells
