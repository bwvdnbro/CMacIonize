import CMacVerif.Lemmas.Cartesian
/-! `get_wall_intersection` of the Cartesian grid in exact arithmetic (C16). -/
namespace CMacVerif.Cartesian
open CMacVerif.GridNum

theorem fmin_real (a b : ℝ) : fmin a b = min a b := amin_eq a b

theorem feq_real (a b : ℝ) : feq a b = true ↔ a = b := by
  unfold feq
  simp only [Bool.and_eq_true, Bool.not_eq_true', decide_eq_false_iff_not, not_lt]
  constructor
  · rintro ⟨h1, h2⟩; exact le_antisymm h2 h1
  · rintro rfl; exact ⟨le_refl _, le_refl _⟩

/-- one axis of `get_wall_intersection`: the candidate distance is non-negative and leads exactly
to the wall in the direction of travel -/
theorem wallDist_spec (big o d inv bottom top : ℝ) (h1 : bottom ≤ o) (h2 : o ≤ top) (hinv : d ≠ 0 → inv = 1 / d) :
    (0 < d → 0 ≤ wallDist big o d inv bottom top ∧ o + d * wallDist big o d inv bottom top = top) ∧
    (d < 0 → 0 ≤ wallDist big o d inv bottom top ∧ o + d * wallDist big o d inv bottom top = bottom) ∧
    (d = 0 → wallDist big o d inv bottom top = big) := by
  unfold wallDist
  simp only [lit0]
  refine ⟨fun hd => ?_, fun hd => ?_, fun hd => ?_⟩
  · rw [if_pos hd, hinv hd.ne', mul_one_div, mul_comm d]; exact Axis.wallParam_up hd h2
  · rw [if_neg (not_lt.mpr hd.le), if_pos hd, hinv hd.ne, mul_one_div, mul_comm d]; exact Axis.wallParam_down hd h1
  · subst hd; simp

def ClosedIn (b : Box3 ℝ) (p : V3 ℝ) : Prop :=
  b.ax ≤ p.x ∧ p.x ≤ b.ax + b.sx ∧ b.ay ≤ p.y ∧ p.y ≤ b.ay + b.sy ∧ b.az ≤ p.z ∧ p.z ≤ b.az + b.sz

theorem nextIdx_range (a b c : ℝ) : nextIdx a b c = 0 ∨ nextIdx a b c = 1 ∨ nextIdx a b c = -1 := by
  unfold nextIdx; split_ifs <;> simp

theorem wallIntersection_offsets (big : ℝ) (o d inv : V3 ℝ) (cell : Box3 ℝ) :
    let k := (wallIntersection big o d inv cell).2.1
    (k.x = 0 ∨ k.x = 1 ∨ k.x = -1) ∧ (k.y = 0 ∨ k.y = 1 ∨ k.y = -1) ∧ (k.z = 0 ∨ k.z = 1 ∨ k.z = -1) :=
  ⟨nextIdx_range _ _ _, nextIdx_range _ _ _, nextIdx_range _ _ _⟩

/-- `hb`: `big` is the candidate of an axis that does not move -/
theorem wallDist_nonneg {big o d inv bottom top : ℝ} (h1 : bottom ≤ o) (h2 : o ≤ top) (hinv : d ≠ 0 → inv = 1 / d)
    (hb : d = 0 → 0 ≤ big) : 0 ≤ wallDist big o d inv bottom top := by
  obtain ⟨hp, hn, hz⟩ := wallDist_spec big o d inv bottom top h1 h2 hinv
  rcases lt_trichotomy d 0 with h | h | h
  · exact (hn h).1
  · rw [hz h]; exact hb h
  · exact (hp h).1

theorem wall_axis_mem {big o d inv bottom top t : ℝ} (h1 : bottom ≤ o) (h2 : o ≤ top) (hinv : d ≠ 0 → inv = 1 / d)
    (h0 : 0 ≤ t) (hle : t ≤ wallDist big o d inv bottom top) :
    bottom ≤ o + d * t ∧ o + d * t ≤ top := by
  obtain ⟨hp, hn, -⟩ := wallDist_spec big o d inv bottom top h1 h2 hinv
  rw [mul_comm]
  exact Axis.travel_mem h1 h2 (fun hd => mul_comm d _ ▸ (hp hd).2) (fun hd => mul_comm d _ ▸ (hn hd).2) h0
    fun _ => hle

/-- an offset `±1` means the step is the candidate of this axis (`ds < big` rules out an axis that does not move) -/
theorem wall_axis_idx {big o d inv bottom top ds : ℝ} (h1 : bottom ≤ o) (h2 : o ≤ top) (hinv : d ≠ 0 → inv = 1 / d)
    (hlt : ds < big) :
    (nextIdx (wallDist big o d inv bottom top) ds d = 1 → 0 < d ∧ o + d * ds = top) ∧
    (nextIdx (wallDist big o d inv bottom top) ds d = -1 → d < 0 ∧ o + d * ds = bottom) := by
  obtain ⟨hp, hn, hz⟩ := wallDist_spec big o d inv bottom top h1 h2 hinv
  unfold nextIdx
  simp only [lit0]
  by_cases he : feq (wallDist big o d inv bottom top) ds = true
  · have e := (feq_real _ _).1 he
    rw [if_pos he]
    by_cases hd : d > 0
    · rw [if_pos hd]
      exact ⟨fun _ => ⟨hd, by rw [← e]; exact (hp hd).2⟩, fun h => by omega⟩
    · rw [if_neg hd]
      refine ⟨fun h => by omega, fun _ => ?_⟩
      rcases lt_or_eq_of_le (not_lt.mp hd) with h | h
      · exact ⟨h, by rw [← e]; exact (hn h).2⟩
      · rw [← e, hz h] at hlt; exact absurd hlt (lt_irrefl _)
  · rw [if_neg he]
    exact ⟨fun h => by omega, fun h => by omega⟩

theorem nextIdx_ne_zero (cand ds d : ℝ) (h : ds = cand) : nextIdx cand ds d ≠ 0 := by
  unfold nextIdx
  rw [if_pos ((feq_real _ _).2 h.symm)]
  split_ifs <;> omega

/-- `get_wall_intersection` in exact arithmetic: from a point of the closed cell, along a
non-zero direction, the distance is ≥ 0, the whole step up to the intersection point lies in the closed cell, and an
index offset ±1 on an axis means the point lies on the upper/lower wall of that axis in the
direction of travel; at least one offset is non-zero -/
theorem wallIntersection_spec (big : ℝ) (o d inv : V3 ℝ) (cell : Box3 ℝ) (ho : ClosedIn cell o)
    (hix : d.x ≠ 0 → inv.x = 1 / d.x) (hiy : d.y ≠ 0 → inv.y = 1 / d.y) (hiz : d.z ≠ 0 → inv.z = 1 / d.z)
    (hd : d.x ≠ 0 ∨ d.y ≠ 0 ∨ d.z ≠ 0)
    (hbx : d.x ≠ 0 → wallDist big o.x d.x inv.x cell.ax (cell.ax + cell.sx) < big)
    (hby : d.y ≠ 0 → wallDist big o.y d.y inv.y cell.ay (cell.ay + cell.sy) < big)
    (hbz : d.z ≠ 0 → wallDist big o.z d.z inv.z cell.az (cell.az + cell.sz) < big) :
    let w := wallIntersection big o d inv cell
    0 ≤ w.2.2 ∧ (∀ t, 0 ≤ t → t ≤ w.2.2 → ClosedIn cell ⟨o.x + d.x * t, o.y + d.y * t, o.z + d.z * t⟩) ∧
    (w.2.1.x = 1 → 0 < d.x ∧ w.1.x = cell.ax + cell.sx) ∧ (w.2.1.x = -1 → d.x < 0 ∧ w.1.x = cell.ax) ∧
    (w.2.1.y = 1 → 0 < d.y ∧ w.1.y = cell.ay + cell.sy) ∧ (w.2.1.y = -1 → d.y < 0 ∧ w.1.y = cell.ay) ∧
    (w.2.1.z = 1 → 0 < d.z ∧ w.1.z = cell.az + cell.sz) ∧ (w.2.1.z = -1 → d.z < 0 ∧ w.1.z = cell.az) ∧
    (w.2.1.x ≠ 0 ∨ w.2.1.y ≠ 0 ∨ w.2.1.z ≠ 0) := by
  intro w
  obtain ⟨x1, x2, y1, y2, z1, z2⟩ := ho
  set dx := wallDist big o.x d.x inv.x cell.ax (cell.ax + cell.sx)
  set dy := wallDist big o.y d.y inv.y cell.ay (cell.ay + cell.sy)
  set dz := wallDist big o.z d.z inv.z cell.az (cell.az + cell.sz)
  have hds : w.2.2 = min dx (min dy dz) := by
    show fmin dx (fmin dy dz) = _
    rw [fmin_real, fmin_real]
  obtain ⟨lex, ley, lez⟩ : w.2.2 ≤ dx ∧ w.2.2 ≤ dy ∧ w.2.2 ≤ dz := by
    rw [hds]; simp only [min_le_iff, le_refl, true_or, or_true, and_self]
  -- a moving axis has a candidate in `[0, big)`: `0 ≤ big`, every candidate is `≥ 0`, the step is `< big`
  obtain ⟨c, hc0, hle, hlt⟩ : ∃ c, 0 ≤ c ∧ w.2.2 ≤ c ∧ c < big := by
    rcases hd with h | h | h
    · exact ⟨dx, wallDist_nonneg x1 x2 hix fun h0 => absurd h0 h, lex, hbx h⟩
    · exact ⟨dy, wallDist_nonneg y1 y2 hiy fun h0 => absurd h0 h, ley, hby h⟩
    · exact ⟨dz, wallDist_nonneg z1 z2 hiz fun h0 => absurd h0 h, lez, hbz h⟩
  have big0 : 0 ≤ big := hc0.trans hlt.le
  have ltbig : w.2.2 < big := hle.trans_lt hlt
  have dx0 : 0 ≤ dx := wallDist_nonneg x1 x2 hix fun _ => big0
  have dy0 : 0 ≤ dy := wallDist_nonneg y1 y2 hiy fun _ => big0
  have dz0 : 0 ≤ dz := wallDist_nonneg z1 z2 hiz fun _ => big0
  have ds0 : 0 ≤ w.2.2 := by rw [hds]; exact le_min dx0 (le_min dy0 dz0)
  obtain ⟨ax1, ax2⟩ := wall_axis_idx x1 x2 hix ltbig
  obtain ⟨ay1, ay2⟩ := wall_axis_idx y1 y2 hiy ltbig
  obtain ⟨az1, az2⟩ := wall_axis_idx z1 z2 hiz ltbig
  refine ⟨ds0, fun t t0 ht => ?_, ax1, ax2, ay1, ay2, az1, az2, ?_⟩
  · obtain ⟨sx1, sx2⟩ := wall_axis_mem x1 x2 hix t0 (ht.trans lex)
    obtain ⟨sy1, sy2⟩ := wall_axis_mem y1 y2 hiy t0 (ht.trans ley)
    obtain ⟨sz1, sz2⟩ := wall_axis_mem z1 z2 hiz t0 (ht.trans lez)
    exact ⟨sx1, sx2, sy1, sy2, sz1, sz2⟩
  -- the minimum is attained by one of the three candidates
  rcases min_choice dx (min dy dz) with h | h
  · exact Or.inl (nextIdx_ne_zero dx _ d.x (hds.trans h))
  · rcases min_choice dy dz with h' | h'
    · exact Or.inr (Or.inl (nextIdx_ne_zero dy _ d.y (hds.trans (h.trans h'))))
    · exact Or.inr (Or.inr (nextIdx_ne_zero dz _ d.z (hds.trans (h.trans h'))))
end CMacVerif.Cartesian
