import CMacVerif.Lemmas.AtomicsQueue
import CMacVerif.Lemmas.AtomicsPool
/-!
C08 lemmas: the counter protocol of the hydro worker loop
(src/TaskBasedRadiationHydrodynamicsSimulation.cpp): `number_of_tasks.pre_increment()` for every
released child before the `pre_decrement()` of the finished task.
-/
namespace CMacVerif.Atomics

/-- calls of a thread of the hydro step: tasks enter the queues only through the initial loop
(`seed`) and through the release of children, and leave them only through pops -/
def HydroCmd (cfg : Cfg) : Cmd → Prop
  | .addTask _ _ => False
  | .lockTask _ => False
  | .seed q _ => q < cfg.nq
  | .getTask q => q < cfg.nq
  | .tryGetTask q => q < cfg.nq
  | _ => True

/-- the `add_task` releases a child (and is not part of the initial loop) -/
def isRel : AddK → Bool
  | .rel _ _ => true
  | _ => false

def ctxHydro (cfg : Cfg) : Ctx → Prop
  | .alone => False
  | .pop q _ => q < cfg.nq

/-- what a thread of the hydro step keeps true of its program counter: every queue index is `< nq`, an `add_task` in
progress is never a bare one (`.plain`), `lock_dependency` is only called from a pop (`ctxHydro`) -/
def pcHydro (cfg : Cfg) : PC → Prop
  | .addLock q _ k => q < cfg.nq ∧ k ≠ .plain
  | .addBody q _ k => q < cfg.nq ∧ k ≠ .plain
  | .addUnlock q _ k => q < cfg.nq ∧ k ≠ .plain
  | .numInc q _ k => q < cfg.nq ∧ k ≠ .plain
  | .popLock q _ => q < cfg.nq
  | .popInit q => q < cfg.nq
  | .popScan q _ => q < cfg.nq
  | .popRemove q _ _ => q < cfg.nq
  | .popUnlock q _ => q < cfg.nq
  | .tlStart c _ => ctxHydro cfg c
  | .tl0 c _ => ctxHydro cfg c
  | .tl1 c _ => ctxHydro cfg c
  | .tlBack c _ => ctxHydro cfg c
  | _ => True

def HydroOk (cfg : Cfg) (th : Thread) : Prop := (∀ c ∈ th.prog, HydroCmd cfg c) ∧ pcHydro cfg th.pc

/-- task between its pop and the final `pre_decrement` of its release, by program counter -/
def livePC : PC → Nat
  | .tuStart _ => 1
  | .tu1 _ => 1
  | .tu0 _ => 1
  | .relDec _ _ _ => 1
  | .retire _ => 1
  | .addLock _ _ k => (isRel k).toNat
  | .addBody _ _ k => (isRel k).toNat
  | .addUnlock _ _ k => (isRel k).toNat
  | .numInc _ _ k => (isRel k).toNat
  | _ => 0

/-- tasks `th` has popped and not yet retired: in hand, unlocked with children to release, or in the call in progress -/
def live (th : Thread) : Nat := th.tasks.length + th.fin.length + livePC th.pc

/-- child already in its queue, `number_of_tasks.pre_increment()` still to come -/
def debtRel : PC → Nat
  | .addUnlock _ _ k => (isRel k).toNat
  | .numInc _ _ k => (isRel k).toNat
  | _ => 0

/-- task put into its queue by the initial loop, `number_of_tasks.pre_increment()` still to come -/
def debtSeed : PC → Nat
  | .addUnlock _ _ k => (!isRel k).toNat
  | .numInc _ _ k => (!isRel k).toNat
  | _ => 0

def qlen (m : Mem) (n : Nat) : Nat := sumN (fun q => (m.items q).length) n

theorem qlen_upd (m : Mem) (n q : Nat) (l : List Nat) (hq : q < n) :
    sumN (fun q' => (upd m.items q l q').length) n + (m.items q).length = qlen m n + l.length := by
  rw [upd_comp List.length]
  exact sumN_upd _ q n _ hq

theorem hydro_dispatch (cfg : Cfg) (th : Thread) (c : Cmd) (hpc : th.pc = .idle) (hc : HydroCmd cfg c)
    (hp : ∀ c ∈ th.prog, HydroCmd cfg c) :
    HydroOk cfg (dispatch cfg th c) ∧ live (dispatch cfg th c) = live th ∧
    debtSeed (dispatch cfg th c).pc = 0 ∧ debtRel (dispatch cfg th c).pc = 0 := by
  obtain ⟨pc, prog, owned, held, tasks, fin⟩ := th
  cases hpc
  cases c <;> simp only [dispatch]
  case addTask q t | lockTask t => cases hc
  case seed q t => exact ⟨⟨hp, hc, nofun⟩, rfl, rfl, rfl⟩
  case getTask q | tryGetTask q => exact ⟨⟨hp, hc⟩, rfl, rfl, rfl⟩
  -- a task moves from `tasks` to the `unlock_dependency` in progress, from `fin` to the release in progress
  case unlockTask j =>
    split
    · rename_i t ht
      have hm := pick_mem _ _ _ ht
      have hl := List.length_erase_of_mem hm
      have hpos : 0 < tasks.length := List.length_pos_of_mem hm
      refine ⟨⟨hp, trivial⟩, ?_, rfl, rfl⟩
      simp only [live, livePC, hl]; omega
    · exact ⟨⟨hp, trivial⟩, rfl, rfl, rfl⟩
  case release =>
    split
    · split <;> exact ⟨⟨hp, trivial⟩, by simp only [live, livePC, List.length_cons]; omega, rfl, rfl⟩
    · exact ⟨⟨hp, trivial⟩, rfl, rfl, rfl⟩
  all_goals (repeat' split) <;> exact ⟨⟨hp, trivial⟩, rfl, rfl, rfl⟩

theorem hydro_of_part (cfg : Cfg) (pc : PC) (h : pc.part ≠ some .sched) :
    pcHydro cfg pc ∧ livePC pc = 0 ∧ debtSeed pc = 0 ∧ debtRel pc = 0 := by
  cases pc <;> first | exact ⟨trivial, rfl, rfl, rfl⟩ | exact absurd rfl h

theorem exec_hydro (cfg : Cfg) (m : Mem) (th : Thread) (hq : ∀ c, cfg.queueOf c < cfg.nq)
    (hok : HydroOk cfg th) (href : RefOk m th) :
    HydroOk cfg (exec cfg m th).2 ∧
    ((exec cfg m th).1.num + (debtSeed (exec cfg m th).2.pc : Int) + (debtRel (exec cfg m th).2.pc : Int)
        + (qlen m cfg.nq : Int) + (live th : Int)
      = m.num + (debtSeed th.pc : Int) + (debtRel th.pc : Int) + (qlen (exec cfg m th).1 cfg.nq : Int)
        + (live (exec cfg m th).2 : Int)) := by
  obtain ⟨hp, hpcok⟩ := hok
  refine exec_sched_cases cfg m th (fun _ _ => ⟨⟨hp, hpcok⟩, rfl⟩)
    (fun c0 rest hpc hprog => by
      obtain ⟨h1, h2, h3, h4⟩ := hydro_dispatch cfg { th with prog := rest } c0 hpc
        (hp c0 (hprog ▸ List.mem_cons_self)) (fun c hc => hp c (hprog ▸ List.mem_cons_of_mem _ hc))
      refine ⟨h1, ?_⟩
      simp only [h2, h3, h4, show live { th with prog := rest } = live th from rfl]; rw [hpc]; rfl)
    ?own fun hs hold hnew => ?other
  case own =>
    rintro th pc l r rfl hs
    cases hs
    -- a task enters a queue: its increment is owed from now on; a task leaves a queue: it is live
    case enqueue q t k =>
      have := qlen_upd m cfg.nq q (m.items q ++ [t]) hpcok.1
      refine ⟨⟨hp, hpcok⟩, ?_⟩
      simp only [qlen, live, livePC, debtSeed, debtRel, List.length_append, List.length_cons,
        List.length_nil] at this ⊢
      cases isRel k <;> simp only [Bool.toNat_true, Bool.toNat_false, Bool.not_true, Bool.not_false] <;> omega
    case takeEntry q j t t' hj =>
      have hlt : j < (m.items q).length := getElem?_lt _ _ _ hj
      have := qlen_upd m cfg.nq q ((m.items q).eraseIdx j) hpcok
      refine ⟨⟨hp, hpcok⟩, ?_⟩
      simp only [qlen, live, livePC, debtSeed, debtRel, List.length_eraseIdx, hlt, if_true,
        List.length_cons] at this ⊢
      omega
    case entryGone q j t hj => rw [href q j t rfl] at hj; cases hj
    case childReady p c rem _ => exact ⟨⟨hp, hq c, nofun⟩, rfl⟩
    -- the increment that was owed is made; the finished task is retired
    case countSeeded q t k hk =>
      refine ⟨⟨hp, trivial⟩, ?_⟩
      cases k
      · exact absurd rfl hpcok.2
      · simp only [qlen, live, livePC, debtSeed, debtRel, isRel, ret, Bool.toNat_false, Bool.not_false,
          Bool.toNat_true]; omega
      · exact absurd rfl (hk _ _)
    case countLastChild q t p | countChild q t p c r | retire p =>
      refine ⟨⟨hp, trivial⟩, ?_⟩
      simp only [qlen, live, livePC, debtSeed, debtRel, isRel, ret, Bool.toNat_true, Bool.toNat_false, Bool.not_true]
      omega
    case addRelease q t => exact absurd rfl hpcok.2
    -- `lock_dependency` is only called from a pop
    case noDependency c t _ | firstBusy c t _ _ _ _ | onlyLock c t _ _ _ | firstAbsent c t _ _ | secondLock c t _ _ _ _
        | secondAbsent c t _ _ | bothAbsent c t _ _ | rollBack c t _ _ _ | rollBackNothing c t _ _ =>
      cases c
      · cases hpcok
      · exact ⟨⟨hp, hpcok⟩, rfl⟩
    -- the other rules count nothing (`rfl`).  First alternative: the rule stays inside `add_task` or a pop (a wait, the
    -- queue lock taken or given back before the increment, a scan step, `lock_dependency` going on), the bound on the
    -- queue index `hpcok` is passed on; second: it returns or goes on with the children, where no bound is asked for
    all_goals first | exact ⟨⟨hp, hpcok⟩, rfl⟩ | exact ⟨⟨hp, trivial⟩, rfl⟩
  case other =>
    obtain ⟨a1, a2, a3, a4⟩ := hydro_of_part cfg _ (hnew)
    obtain ⟨-, b2, b3, b4⟩ := hydro_of_part cfg th.pc hold
    refine ⟨⟨by rw [hs.prog]; exact hp, a1⟩, ?_⟩
    unfold live qlen
    rw [hs.num, hs.items, hs.tasks, hs.fin, a2, a3, a4, b2, b3, b4]

/-- accounting of the hydro worker loop's counter: `number_of_tasks` + (tasks already queued, by the
initial loop (`debtSeed`) or as released children (`debtRel`), whose increment is still to come)
= (tasks in the queues) + (tasks popped and not yet retired) -/
def HydroInv (cfg : Cfg) (s : State) : Prop :=
  (∀ th ∈ s.threads, HydroOk cfg th) ∧
  (s.mem.num + (sumT (fun th => debtSeed th.pc) s.threads : Int) + (sumT (fun th => debtRel th.pc) s.threads : Int)
    = (qlen s.mem cfg.nq : Int) + (sumT live s.threads : Int))

theorem hydroInv_step (cfg : Cfg) (hq : ∀ c, cfg.queueOf c < cfg.nq) (s : State) (tid : Nat)
    (hs : StabInv s) (h : HydroInv cfg s) : HydroInv cfg (step cfg s tid) := by
  refine step_inv cfg _ s tid h fun th hth => ?_
  obtain ⟨hok, heq⟩ := h
  have hloc := exec_hydro cfg s.mem th hq (hok th (List.mem_of_getElem? hth)) (hs tid th hth).1
  have f1 := sumT_set (fun th => debtSeed th.pc) s.threads tid th (exec cfg s.mem th).2 hth
  have f2 := sumT_set (fun th => debtRel th.pc) s.threads tid th (exec cfg s.mem th).2 hth
  have f3 := sumT_set live s.threads tid th (exec cfg s.mem th).2 hth
  refine ⟨forall_mem_set hok hloc.1, ?_⟩
  simp only at *
  omega

theorem hydroInv_run (cfg : Cfg) (hq : ∀ c, cfg.queueOf c < cfg.nq) (progs : List (List Cmd))
    (hprog : ∀ p ∈ progs, ∀ c ∈ p, HydroCmd cfg c) (sched : List Nat) :
    HydroInv cfg (run cfg (init progs) sched) := by
  refine run_ind cfg progs (HydroInv cfg) ⟨fun th hth => ?_, ?_⟩
    (fun pre tid => hydroInv_step cfg hq _ tid (stabInv_run cfg progs pre)) sched
  · obtain ⟨p, hp, rfl⟩ := List.mem_map.mp hth
    exact ⟨hprog p hp, trivial⟩
  · rw [sumT_init _ _ fun _ => rfl, sumT_init _ _ fun _ => rfl, sumT_init _ _ fun _ => rfl]
    simp [init, qlen, sumN_zero]

def unlockingPC : PC → Nat
  | .tuStart _ => 1
  | .tu1 _ => 1
  | .tu0 _ => 1
  | _ => 0

/-- tasks a thread runs: popped, or inside `unlock_dependency`.  Coarser than `runList` of `Lemmas/AtomicsRun.lean`
(which ends a run at the first unlock): the bound on `number_of_tasks` has to cover a task until all of
`unlock_dependency` is done, since its children are released only afterwards -/
def runCount (th : Thread) : Nat := th.tasks.length + unlockingPC th.pc

theorem runCount_add_debtRel_le_live (th : Thread) : runCount th + debtRel th.pc ≤ live th := by
  have : unlockingPC th.pc + debtRel th.pc ≤ livePC th.pc := by
    cases th.pc <;> first | exact Nat.le_refl _ | exact Nat.zero_le _ | exact Nat.le_of_eq (Nat.zero_add _)
  unfold runCount live
  omega

/-- **the counter covers every queued and every running task** -/
theorem hydro_counter_bound (cfg : Cfg) (s : State) (h : HydroInv cfg s) :
    (qlen s.mem cfg.nq : Int) + (sumT runCount s.threads : Int)
      ≤ s.mem.num + (sumT (fun th => debtSeed th.pc) s.threads : Int) := by
  have h1 := sumT_le (fun th => runCount th + debtRel th.pc) live s.threads (fun th _ => runCount_add_debtRel_le_live th)
  rw [sumT_add] at h1
  have := h.2
  omega

end CMacVerif.Atomics
