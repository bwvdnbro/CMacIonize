import CMacVerif.Model.Worker
import CMacVerif.Lemmas.ListSum
import Mathlib.Tactic.SplitIfs
/-! The generic worker loop (C07): sums over the task list (`sumOver`), `step` as a relation (`Step`), the
invariant `Inv` and its preservation by every step (`step_inv`, `run_inv`). -/
namespace CMacVerif.Worker

variable {τ : Type}

def sumOver (l : List τ) (f : τ → Nat) : Nat := (l.map f).sum

theorem sumOver_congr {l : List τ} {f g : τ → Nat} (h : ∀ x ∈ l, f x = g x) :
    sumOver l f = sumOver l g :=
  congrArg List.sum (List.map_congr_left h)

theorem sumOver_cons (a : τ) (l : List τ) (f : τ → Nat) : sumOver (a :: l) f = f a + sumOver l f := rfl

theorem sumOver_update {l : List τ} (hn : l.Nodup) {t : τ} (ht : t ∈ l) {f f' : τ → Nat}
    (h : ∀ x ∈ l, x ≠ t → f' x = f x) : sumOver l f' + f t = sumOver l f + f' t :=
  ListSum.sum_map_update hn ht h

theorem sumOver_le {l : List τ} {t : τ} (ht : t ∈ l) (f : τ → Nat) : f t ≤ sumOver l f :=
  ListSum.le_sum_map ht f

theorem sumOver_le_mul {l : List τ} {f : τ → Nat} {k : Nat} (h : ∀ x ∈ l, f x ≤ k) :
    sumOver l f ≤ k * l.length := by
  induction l with
  | nil => exact Nat.le_refl _
  | cons a l ih =>
    rw [List.length_cons, Nat.mul_succ, Nat.add_comm]
    exact Nat.add_le_add (h a List.mem_cons_self) (ih fun x hx => h x (List.mem_cons_of_mem _ hx))

theorem sumOver_mono {l : List τ} {f f' : τ → Nat} (hle : ∀ x ∈ l, f' x ≤ f x) :
    sumOver l f' ≤ sumOver l f :=
  ListSum.sum_map_mono hle

theorem sumOver_lt {l : List τ} {f f' : τ → Nat} (hle : ∀ x ∈ l, f' x ≤ f x) {t : τ} (ht : t ∈ l)
    (hlt : f' t < f t) : sumOver l f' < sumOver l f := by
  induction l with
  | nil => cases ht
  | cons a l ih =>
    have hle' : ∀ x ∈ l, f' x ≤ f x := fun x hx => hle x (List.mem_cons_of_mem _ hx)
    rcases List.mem_cons.mp ht with rfl | ht'
    · exact Nat.add_lt_add_of_lt_of_le hlt (sumOver_mono hle')
    · exact Nat.add_lt_add_of_le_of_lt (hle a List.mem_cons_self) (ih hle' ht')

theorem sumOver_pos {l : List τ} {f : τ → Nat} (h : 0 < sumOver l f) : ∃ t ∈ l, 0 < f t :=
  ListSum.sum_map_pos.mp h

theorem sumOver_zero {l : List τ} {f : τ → Nat} (h : sumOver l f = 0) : ∀ t ∈ l, f t = 0 :=
  ListSum.sum_map_eq_zero.mp h

theorem filter_length_eq_sumOver (l : List τ) (p : τ → Bool) :
    (l.filter p).length = sumOver l (fun t => if p t then 1 else 0) := by
  induction l with
  | nil => rfl
  | cons a l ih =>
    simp only [sumOver, List.map_cons, List.sum_cons, List.filter_cons] at ih ⊢
    by_cases h : p a = true
    · simp only [h, ↓reduceIte, List.length_cons]; omega
    · simp only [h, Bool.false_eq_true, ↓reduceIte]; omega

variable {ρ : Type} [DecidableEq τ] [DecidableEq ρ]

theorem sumOver_count {l : List τ} (hn : l.Nodup) (m : List τ) (hm : ∀ x ∈ m, x ∈ l) :
    sumOver l (fun p => m.count p) = m.length :=
  ListSum.sum_map_count hn m hm

/-- what task `p` still has to release -/
def pending (G : Graph τ ρ) (s : WState τ) (p : τ) : List τ :=
  match s.st p with
  | .releasing rem => rem
  | .done => []
  | _ => G.children p

/-- 1 for a task that `number_of_tasks` counts (queued, running or releasing), 0 otherwise -/
def act (st : τ → Status τ) (t : τ) : Nat := if isActive (st t) then 1 else 0

/-- how often the sweep of a task in this status has been executed -/
def execdSpec (st : Status τ) : Nat :=
  match st with | .releasing _ => 1 | .done => 1 | _ => 0

omit [DecidableEq τ] [DecidableEq ρ] in
theorem pending_congr (G : Graph τ ρ) {s s' : WState τ} {p : τ} (h : s'.st p = s.st p) :
    pending G s' p = pending G s p := by
  simp only [pending, h]

omit [DecidableEq τ] [DecidableEq ρ] in
theorem pending_releasing (G : Graph τ ρ) {s : WState τ} {p : τ} {rem : List τ}
    (h : s.st p = .releasing rem) : pending G s p = rem := by
  simp only [pending, h]

structure WF (G : Graph τ ρ) : Prop where
  nodup : G.univ.Nodup
  childIn : ∀ p ∈ G.univ, ∀ c ∈ G.children p, c ∈ G.univ
  parentIn : ∀ c ∈ G.univ, ∀ p ∈ G.parents c, p ∈ G.univ
  consistent : ∀ p ∈ G.univ, ∀ c ∈ G.univ, (G.children p).count c = (G.parents c).count p

/-- What holds in every state of the worker loop.  `num`: `number_of_tasks` is the number of queued,
running and releasing tasks.  `cnt`: the counter of `c` is the number of entries `c` in the child lists
that are still to be released (`pending`).  `ready`: a task waits exactly as long as its counter is not 0.
`excl`: two running tasks share no lock.  `execd`: a sweep has been executed once the task is releasing
or done, and not before.  `remIn`: what is left to release are tasks of the graph. -/
structure Inv (G : Graph τ ρ) (s : WState τ) : Prop where
  num : s.num = sumOver G.univ (act s.st)
  cnt : ∀ c ∈ G.univ, s.cnt c = sumOver G.univ (fun p => (pending G s p).count c)
  ready : ∀ c ∈ G.univ, (s.st c = .notReady → 0 < s.cnt c) ∧ (s.st c ≠ .notReady → s.cnt c = 0)
  excl : ∀ a ∈ G.univ, ∀ b ∈ G.univ, a ≠ b → s.st a = .running → s.st b = .running →
    conflicts G a b = false
  execd : ∀ t ∈ G.univ, s.execd t = execdSpec (s.st t)
  remIn : ∀ t ∈ G.univ, ∀ rem, s.st t = .releasing rem → ∀ c ∈ rem, c ∈ G.univ

omit [DecidableEq τ] in
theorem conflicts_symm (G : Graph τ ρ) (a b : τ) : conflicts G a b = conflicts G b a := by
  unfold conflicts
  rw [Bool.eq_iff_iff]
  simp only [List.any_eq_true, List.contains_iff_mem]
  constructor <;> (rintro ⟨r, h1, h2⟩; exact ⟨r, h2, h1⟩)

@[simp] theorem upd_same {α : Type} (f : τ → α) (t : τ) (a : α) : upd f t a t = a := by simp [upd]
theorem upd_other {α : Type} (f : τ → α) (t : τ) (a : α) {x : τ} (h : x ≠ t) : upd f t a x = f x := by
  simp [upd, h]

theorem init_inv (G : Graph τ ρ) (hG : WF G) : Inv G (init G) := by
  refine ⟨?_, ?_, ?_, ?_, ?_, ?_⟩
  · simp only [init]
    rw [filter_length_eq_sumOver]
    apply sumOver_congr
    intro t _
    simp only [act]
    by_cases h : (G.parents t).length = 0 <;> simp [h, isActive]
  · intro c hc
    have h1 : sumOver G.univ (fun p => (pending G (init G) p).count c)
        = sumOver G.univ (fun p => (G.parents c).count p) := by
      apply sumOver_congr
      intro p hp
      have : pending G (init G) p = G.children p := by
        simp only [pending, init]; split_ifs <;> rfl
      rw [this]; exact hG.consistent p hp c hc
    rw [h1, sumOver_count hG.nodup _ (hG.parentIn c hc)]
    rfl
  · intro c _
    simp only [init]
    split_ifs with h
    · exact ⟨fun h' => h'.elim, fun _ => h⟩
    · exact ⟨fun _ => Nat.pos_of_ne_zero h, fun h' => absurd rfl h'⟩
  · intro a _ b _ _ ha _
    simp only [init] at ha; split_ifs at ha
  · intro t _; simp only [init, execdSpec]; split_ifs <;> rfl
  · intro t _ rem h; simp only [init] at h; split_ifs at h

def labelTask : Label τ → τ
  | .acquire t | .finishExec t | .releaseChild t | .retire t => t

/-- `step` as a relation, one constructor per label: the status the label's task must have, and the
state the action produces -/
inductive Step (G : Graph τ ρ) (s : WState τ) : Label τ → WState τ → Prop
  | acquire {t : τ} (hst : s.st t = .queued)
      (hfree : ∀ u ∈ G.univ, s.st u = .running → conflicts G t u = false) :
      Step G s (.acquire t) { s with st := upd s.st t .running }
  | finishExec {t : τ} (hst : s.st t = .running) :
      Step G s (.finishExec t)
        { s with st := upd s.st t (.releasing (G.children t)), execd := upd s.execd t (s.execd t + 1) }
  | releaseChild {t c : τ} {rem : List τ} (hst : s.st t = .releasing (c :: rem)) :
      Step G s (.releaseChild t)
        { s with st := if s.cnt c = 1 then upd (upd s.st t (.releasing rem)) c .queued
                       else upd s.st t (.releasing rem),
                 cnt := upd s.cnt c (s.cnt c - 1), num := s.num + if s.cnt c = 1 then 1 else 0 }
  | retire {t : τ} (hst : s.st t = .releasing []) :
      Step G s (.retire t) { s with st := upd s.st t .done, num := s.num - 1 }

theorem Step.started {G : Graph τ ρ} {s s' : WState τ} {l : Label τ} (h : Step G s l s') :
    s.st (labelTask l) ≠ .notReady := by
  obtain ⟨hst, _⟩ | hst | hst | hst := h <;> exact fun e => nomatch hst.symm.trans e

omit [DecidableEq τ] in
theorem free_iff (G : Graph τ ρ) (s : WState τ) (t : τ) :
    (G.univ.all fun u => !(isRunning s u && conflicts G t u)) = true ↔
      ∀ u ∈ G.univ, s.st u = .running → conflicts G t u = false := by
  rw [List.all_eq_true]
  refine forall₂_congr fun u _ => ?_
  unfold isRunning
  cases s.st u <;> simp

theorem step_iff {G : Graph τ ρ} {s s' : WState τ} {l : Label τ} :
    step G s l = some s' ↔ Step G s l s' := by
  constructor
  · intro h
    cases l with
    | acquire t =>
      simp only [step] at h
      split at h
      · next hst =>
        split_ifs at h with hg
        cases h
        exact .acquire hst ((free_iff G s t).mp hg)
      · cases h
    | finishExec t =>
      simp only [step] at h
      split at h
      · next hst => cases h; exact .finishExec hst
      · cases h
    | releaseChild t =>
      simp only [step] at h
      split at h
      · next c rem hst =>
        have := Step.releaseChild (G := G) hst
        split_ifs at h this with hc <;> cases h <;> exact this
      · cases h
    | retire t =>
      simp only [step] at h
      split at h
      · next hst => cases h; exact .retire hst
      · cases h
  · rintro (⟨hst, hf⟩ | hst | hst | hst) <;> simp only [step, hst]
    · rw [if_pos ((free_iff G s _).mpr hf)]
    · split_ifs <;> rfl

/-- the fields of `Inv` that speak of one task at a time (`ready`, `execd`, `remIn`): a step is checked
against them once for each task whose status or counter it changes -/
structure TaskOk (G : Graph τ ρ) (st : Status τ) (cnt ex : Nat) : Prop where
  ready : (st = .notReady → 0 < cnt) ∧ (st ≠ .notReady → cnt = 0)
  execd : ex = execdSpec st
  remIn : ∀ rem, st = .releasing rem → ∀ c ∈ rem, c ∈ G.univ

theorem Inv.taskOk {G : Graph τ ρ} {s : WState τ} (hs : Inv G s) {x : τ} (hx : x ∈ G.univ) :
    TaskOk G (s.st x) (s.cnt x) (s.execd x) :=
  ⟨hs.ready x hx, hs.execd x hx, hs.remIn x hx⟩

/-- frame rule: only the status of a started task `t` changes, to another status past `notReady` with the same
`pending` list -/
theorem inv_set_status {G : Graph τ ρ} (hG : WF G) {s : WState τ} (hs : Inv G s) {t : τ}
    (ht : t ∈ G.univ) {new : Status τ} {num' : Nat} {ex' : τ → Nat}
    (hpend : pending G ⟨upd s.st t new, s.cnt, num', ex'⟩ t = pending G s t)
    (hnum : num' = s.num + act (upd s.st t new) t - act s.st t)
    (hexcl : new = .running → ∀ u ∈ G.univ, u ≠ t → s.st u = .running → conflicts G t u = false)
    (hex' : ∀ x, x ≠ t → ex' x = s.execd x) (hold : s.st t ≠ .notReady) (hnew : new ≠ .notReady)
    (hex : ex' t = execdSpec new) (hrem : ∀ rem, new = .releasing rem → ∀ c ∈ rem, c ∈ G.univ) :
    Inv G { st := upd s.st t new, cnt := s.cnt, num := num', execd := ex' } := by
  have hok : TaskOk G new (s.cnt t) (ex' t) :=
    ⟨⟨fun h => absurd h hnew, fun _ => (hs.ready t ht).2 hold⟩, hex, hrem⟩
  have ok : ∀ x ∈ G.univ, TaskOk G (upd s.st t new x) (s.cnt x) (ex' x) := fun x hx => by
    by_cases hxt : x = t
    · rw [hxt, upd_same]; exact hok
    · rw [upd_other _ _ _ hxt, hex' x hxt]; exact hs.taskOk hx
  refine {
    ready := fun x hx => (ok x hx).ready
    execd := fun x hx => (ok x hx).execd
    remIn := fun x hx => (ok x hx).remIn
    num := ?_
    cnt := fun c hc => ?_
    excl := fun a ha b hb hab hra hrb => ?_ }
  · have hupd := sumOver_update hG.nodup ht (f := act s.st) (f' := act (upd s.st t new))
      (fun x _ hx => by simp only [act, upd_other _ _ _ hx])
    have hle := sumOver_le ht (act s.st)
    have := hs.num
    simp only
    omega
  · have : ∀ p, pending G ⟨upd s.st t new, s.cnt, num', ex'⟩ p = pending G s p := fun p => by
      by_cases hp : p = t
      · rw [hp, hpend]
      · exact pending_congr G (upd_other _ _ _ hp)
    simp only [this]
    exact hs.cnt c hc
  · simp only at hra hrb
    by_cases hat : a = t
    · subst hat
      have hba : b ≠ a := fun e => hab e.symm
      rw [upd_other _ _ _ hba] at hrb
      rw [upd_same] at hra
      exact hexcl hra b hb hba hrb
    · rw [upd_other _ _ _ hat] at hra
      by_cases hbt : b = t
      · subst hbt
        rw [upd_same] at hrb
        rw [conflicts_symm]
        exact hexcl hrb a ha hat hra
      · rw [upd_other _ _ _ hbt] at hrb
        exact hs.excl a ha b hb hab hra hrb

theorem next_child_waits {G : Graph τ ρ} {s : WState τ} (hs : Inv G s) {t : τ} (ht : t ∈ G.univ)
    {c : τ} {rem : List τ} (hst : s.st t = .releasing (c :: rem)) :
    1 ≤ s.cnt c ∧ s.st c = .notReady ∧ t ≠ c := by
  have hcU : c ∈ G.univ := hs.remIn t ht _ hst c List.mem_cons_self
  have hpt := pending_releasing G hst
  have hcnt1 : 1 ≤ s.cnt c := by
    rw [hs.cnt c hcU]
    have := sumOver_le ht (fun p => (pending G s p).count c)
    simp only [hpt, List.count_cons_self] at this
    omega
  have hcNR : s.st c = .notReady := Classical.byContradiction fun hne => by
    have := (hs.ready c hcU).2 hne
    omega
  exact ⟨hcnt1, hcNR, fun e => by rw [e, hcNR] at hst; cases hst⟩

theorem upd_eq_self {α : Type} {f : τ → α} {t : τ} {a : α} (h : f t = a) : upd f t a = f := by
  funext x
  by_cases hx : x = t
  · rw [hx, upd_same, h]
  · exact upd_other _ _ _ hx

theorem inv_release {G : Graph τ ρ} (hG : WF G) {s : WState τ} (hs : Inv G s) {t : τ} (ht : t ∈ G.univ)
    {c : τ} {rem : List τ} (hst : s.st t = .releasing (c :: rem)) :
    Inv G { st := if s.cnt c = 1 then upd (upd s.st t (.releasing rem)) c .queued
                  else upd s.st t (.releasing rem),
            cnt := upd s.cnt c (s.cnt c - 1), num := s.num + (if s.cnt c = 1 then 1 else 0),
            execd := s.execd } := by
  have hcU : c ∈ G.univ := hs.remIn t ht _ hst c List.mem_cons_self
  obtain ⟨hcnt1, hcNR, htc⟩ := next_child_waits hs ht hst
  -- both branches set the status of `c`: to `queued`, or to what it is
  obtain ⟨cs, hcs, hst', hnum⟩ : ∃ cs : Status τ, (cs = .queued ∧ s.cnt c = 1 ∨ cs = .notReady ∧ s.cnt c ≠ 1) ∧
      (if s.cnt c = 1 then upd (upd s.st t (.releasing rem)) c .queued else upd s.st t (.releasing rem))
        = upd (upd s.st t (.releasing rem)) c cs ∧
      (if s.cnt c = 1 then 1 else 0) = if isActive cs then 1 else 0 := by
    by_cases h1 : s.cnt c = 1
    · exact ⟨.queued, Or.inl ⟨rfl, h1⟩, if_pos h1, by rw [if_pos h1]; rfl⟩
    · exact ⟨.notReady, Or.inr ⟨rfl, h1⟩,
        by rw [if_neg h1, upd_eq_self ((upd_other _ _ _ (Ne.symm htc)).trans hcNR)], by rw [if_neg h1]; rfl⟩
  rw [hst', hnum]
  have st_t : upd (upd s.st t (.releasing rem)) c cs t = .releasing rem := by
    rw [upd_other _ _ _ htc, upd_same]
  have st_o : ∀ x, x ≠ t → x ≠ c → upd (upd s.st t (.releasing rem)) c cs x = s.st x :=
    fun x hxt hxc => by rw [upd_other _ _ _ hxc, upd_other _ _ _ hxt]
  have hpend : ∀ cnt' num' ex' p, pending G ⟨upd (upd s.st t (.releasing rem)) c cs, cnt', num', ex'⟩ p
      = if p = t then rem else pending G s p := by
    intro _ _ _ p
    by_cases hp : p = t
    · rw [if_pos hp, hp]; exact pending_releasing G st_t
    · rw [if_neg hp]
      by_cases hpc : p = c
      · subst hpc
        rcases hcs with ⟨rfl, _⟩ | ⟨rfl, _⟩ <;> simp only [pending, upd_same, hcNR]
      · exact pending_congr G (st_o p hp hpc)
  -- task by task: `c` is queued exactly when its counter has reached 0, `t` has a shorter list to
  -- release, nobody starts running
  have ok : ∀ x ∈ G.univ,
      TaskOk G (upd (upd s.st t (.releasing rem)) c cs x) (upd s.cnt c (s.cnt c - 1) x) (s.execd x) ∧
        (upd (upd s.st t (.releasing rem)) c cs x = .running → s.st x = .running) := by
    intro x hx
    have old := hs.taskOk hx
    by_cases hxc : x = c
    · rw [hxc, upd_same, upd_same]
      rw [hxc, hcNR] at old
      -- `execdSpec` is 0 for both `notReady` and `queued`
      rcases hcs with ⟨rfl, h1⟩ | ⟨rfl, h1⟩
      · exact ⟨{ ready := ⟨nofun, fun _ => by omega⟩, execd := old.execd, remIn := nofun }, nofun⟩
      · exact ⟨{ ready := ⟨fun _ => by omega, fun h => absurd rfl h⟩, execd := old.execd, remIn := nofun }, nofun⟩
    · rw [upd_other s.cnt _ _ hxc]
      by_cases hxt : x = t
      · rw [hxt, st_t]
        rw [hxt, hst] at old
        exact ⟨{ ready := ⟨nofun, fun _ => old.ready.2 nofun⟩
                 execd := old.execd
                 remIn := fun _ h y hy => by cases h; exact old.remIn _ rfl y (List.mem_cons_of_mem _ hy) }, nofun⟩
      · rw [st_o x hxt hxc]; exact ⟨old, id⟩
  refine {
    ready := fun x hx => (ok x hx).1.ready
    execd := fun x hx => (ok x hx).1.execd
    remIn := fun x hx => (ok x hx).1.remIn
    excl := fun a ha b hb hab hra hrb => hs.excl a ha b hb hab ((ok a ha).2 hra) ((ok b hb).2 hrb)
    num := ?_
    cnt := fun c' hc' => ?_ }
  · have hupd := sumOver_update hG.nodup hcU (f := act s.st) (f' := act (upd (upd s.st t (.releasing rem)) c cs))
      (fun x _ hx => by
        by_cases hxt : x = t
        · simp only [act, hxt, st_t, hst, isActive]
        · simp only [act, st_o x hxt hx])
    have ha : act s.st c = 0 := by rw [act, hcNR]; rfl
    rw [ha, act, upd_same] at hupd
    have := hs.num
    simp only
    omega
  · simp only [hpend]
    have hupd := sumOver_update hG.nodup ht (f := fun p => (pending G s p).count c')
      (f' := fun p => (if p = t then rem else pending G s p).count c')
      (fun x _ hx => by simp only [if_neg hx])
    have hold := hs.cnt c' hc'
    have hpt := pending_releasing G hst
    simp only [if_true, hpt] at hupd
    by_cases hcc : c' = c
    · subst hcc
      simp only [upd_same, List.count_cons_self] at hupd ⊢
      omega
    · rw [upd_other _ _ _ hcc]
      rw [List.count_cons_of_ne (Ne.symm hcc)] at hupd
      omega

theorem step_inv {G : Graph τ ρ} (hG : WF G) {s s' : WState τ} {l : Label τ} (hl : labelTask l ∈ G.univ)
    (hs : Inv G s) (h : step G s l = some s') : Inv G s' := by
  have hold := (step_iff.mp h).started
  obtain ⟨hst, hfree⟩ | hst | hst | hst := step_iff.mp h
  case acquire t =>
    exact inv_set_status (t := t) hG hs hl (hpend := by simp only [pending, upd_same, hst])
      (hnum := by simp only [act, upd_same, hst, isActive]; rfl)
      (hexcl := fun _ u hu _ hru => hfree u hu hru) (hex' := fun _ _ => rfl)
      (hold := hold) (hnew := nofun) (hex := by rw [hs.execd t hl, hst]; rfl) (hrem := nofun)
  case finishExec t =>
    exact inv_set_status (t := t) hG hs hl (hpend := by simp only [pending, upd_same, hst])
      (hnum := by simp only [act, upd_same, hst, isActive]; rfl)
      (hexcl := nofun) (hex' := fun x hx => upd_other _ _ _ hx)
      (hold := hold) (hnew := nofun) (hex := by rw [upd_same, hs.execd t hl, hst]; rfl)
      (hrem := fun rem hr c hc => hG.childIn t hl c (by cases hr; exact hc))
  case retire t =>
    exact inv_set_status (t := t) hG hs hl (hpend := by simp only [pending, upd_same, hst])
      (hnum := by simp only [act, upd_same, hst, isActive]; rfl)
      (hexcl := nofun) (hex' := fun _ _ => rfl)
      (hold := hold) (hnew := nofun) (hex := by rw [hs.execd t hl, hst]; rfl) (hrem := nofun)
  case releaseChild => exact inv_release hG hs hl hst

theorem run_cons {G : Graph τ ρ} {s s' : WState τ} {l : Label τ} {ls : List (Label τ)} :
    run G s (l :: ls) = some s' ↔ ∃ s1, step G s l = some s1 ∧ run G s1 ls = some s' := by
  simp only [run]
  cases step G s l <;> simp

theorem run_inv {G : Graph τ ρ} (hG : WF G) {ls : List (Label τ)} (hl : ∀ l ∈ ls, labelTask l ∈ G.univ)
    {s s' : WState τ} (hs : Inv G s) (h : run G s ls = some s') : Inv G s' := by
  induction ls generalizing s with
  | nil => cases h; exact hs
  | cons l ls ih =>
    obtain ⟨s1, hstep, h⟩ := run_cons.mp h
    exact ih (fun l' hl' => hl l' (List.mem_cons_of_mem _ hl'))
      (step_inv hG (hl l List.mem_cons_self) hs hstep) h

theorem execd_le_one {G : Graph τ ρ} {s : WState τ} (hs : Inv G s) {t : τ} (ht : t ∈ G.univ) :
    s.execd t ≤ 1 := by
  rw [hs.execd t ht]
  unfold execdSpec
  split <;> omega

end CMacVerif.Worker
