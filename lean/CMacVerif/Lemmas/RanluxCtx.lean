import CMacVerif.Model.RanluxCtx
import CMacVerif.Lemmas.RanluxStream
import Mathlib.Data.List.Nodup
/-! The two consumers leave the generator as many draws further as they report; the list fact by
which contiguous positions per thread are positions handed out once. -/
namespace CMacVerif.Ranlux

theorem nodup_of_fibres {l : List (Nat × Nat)}
    (h : ∀ t, ((l.filter (fun q => q.1 = t)).map Prod.snd).Nodup) : l.Nodup := by
  induction l with
  | nil => exact List.nodup_nil
  | cons a l ih =>
    refine List.nodup_cons.mpr ⟨fun ha => ?_, ih fun t => ?_⟩
    · have := h a.1
      rw [List.filter_cons_of_pos (by simp), List.map_cons, List.nodup_cons] at this
      exact this.1 (List.mem_map.mpr ⟨a, List.mem_filter.mpr ⟨ha, by simp⟩, rfl⟩)
    · have := h t
      rw [List.filter_cons] at this
      split at this
      · exact (List.nodup_cons.mp this).2
      · exact this

theorem sourceLoop_state (extra : Nat) : ∀ (n : Nat) (s : State),
    (sourceLoop extra n s).2 = after exact s ((3 + extra) * n) := by
  intro n
  induction n with
  | zero => intro s; rfl
  | succ n ih =>
    intro s
    rw [sourceLoop]
    dsimp only
    rw [next_snd, ih, after_add, after_add, after_add]
    congr 1; rw [Nat.mul_succ]; omega

theorem reemitLoop_state (thr : Int) : ∀ (m : Nat) (s : State),
    (reemitLoop thr m s).2.2 = after exact s (reemitLoop thr m s).1
    ∧ (reemitLoop thr m s).1 = m + 3 * (reemitLoop thr m s).2.1.length := by
  intro m
  induction m with
  | zero => intro s; exact ⟨rfl, rfl⟩
  | succ m ih =>
    intro s
    rw [reemitLoop]
    dsimp only
    split
    · dsimp only
      rw [next_snd, next_snd]
      obtain ⟨h1, h2⟩ := ih (after exact (after exact (after exact s 1) 2) 1)
      generalize reemitLoop thr m (after exact (after exact (after exact s 1) 2) 1) = r at h1 h2
      obtain ⟨c, l, s'⟩ := r
      dsimp only at h1 h2 ⊢
      rw [h1, after_add, after_add, after_add, List.length_cons, h2]
      exact ⟨by congr 1; omega, by omega⟩
    · dsimp only
      rw [next_snd]
      obtain ⟨h1, h2⟩ := ih (after exact s 1)
      generalize reemitLoop thr m (after exact s 1) = r at h1 h2
      obtain ⟨c, l, s'⟩ := r
      dsimp only at h1 h2 ⊢
      rw [h1, after_add, h2]
      exact ⟨by congr 1; omega, by omega⟩

end CMacVerif.Ranlux
