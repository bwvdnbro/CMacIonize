import CMacVerif.Model.Snapshot
import Mathlib.Tactic.NormNum
import Mathlib.Data.Rat.Defs
/-!
The readers' fallbacks of C20 over `ℚ`: a flag of the plain reader only hides a dataset from the
choice the buffered reader makes.
-/
namespace CMacVerif.Snapshot

section
variable {α : Type} [Add α] [Mul α] [Div α] [OfScientific α]

theorem decodePlain_useDensity (mp k : α) (usePressure : Bool) (st : Stored α) :
    decodePlain mp k true usePressure st =
      decodePlain mp k false usePressure { st with numberDensity := none } := by
  rcases st with ⟨_ | _, _, _, _, _⟩ <;> rfl

theorem decodePlain_usePressure (mp k : α) (useDensity : Bool) (st : Stored α) :
    decodePlain mp k useDensity true st =
      decodePlain mp k useDensity false { st with temperature := none } := by
  rcases st with ⟨_, _, _ | _, _, _⟩ <;> rfl

end

/-- the readers differ in factors `1.0`, which exact arithmetic does not see -/
theorem decodePlain_false_false (mp k : ℚ) (st : Stored ℚ) :
    decodePlain mp k false false st = decodeBuffered mp k st := by
  have h10 : (1.0 : ℚ) = 1 := by norm_num
  rcases st with ⟨_ | _, _ | _, _ | _, _ | _, _⟩ <;>
    simp only [decodePlain, decodeBuffered, h10, mul_one, mul_one_div, Bool.false_eq_true, if_true,
      if_false]

theorem decodePlain_encode_eq (mp k pcf : ℚ) (useDensity usePressure : Bool) (c : Combo)
    (s : CellState ℚ) :
    decodePlain mp k useDensity usePressure (encode mp pcf c s) =
      decodeBuffered mp k (encode mp pcf
        { c with numberDensity := !useDensity && c.numberDensity
                 temperature := !usePressure && c.temperature } s) := by
  cases useDensity <;> cases usePressure <;>
    simp only [decodePlain_useDensity, decodePlain_usePressure, decodePlain_false_false] <;> rfl

theorem decodeBuffered_eq (mp k : ℚ) (st : Stored ℚ) :
    decodeBuffered mp k st =
      (st.numberDensity <|> st.density.map (· / mp)).bind fun n =>
        (st.temperature <|>
            st.pressure.map (· * (0.5 * (1.0 + st.xH.getD 1.0e-6) / (n * k)))).map fun T =>
          ⟨n, T, st.xH.getD 1.0e-6⟩ := by
  rcases st with ⟨_ | _, _ | _, _ | _, _ | _, _⟩ <;> rfl

/-- both fallbacks of `decodeBuffered_eq` on an encoded cell have this shape: the first dataset if
it was written, else `f` of the second -/
theorem fallback_some {a b : Bool} (h : a = true ∨ b = true) {x y : ℚ} {f : ℚ → ℚ} (hf : f y = x) :
    ((if a then some x else none) <|> (if b then some y else none).map f) = some x := by
  cases a
  · rw [h.resolve_left Bool.false_ne_true, if_pos rfl, Option.map_some, hf]
    rfl
  · rfl

end CMacVerif.Snapshot
