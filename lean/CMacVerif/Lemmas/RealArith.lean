import CMacVerif.Arith
import Mathlib.Data.Real.Basic
import Mathlib.Tactic.NormNum
import Mathlib.Tactic.Positivity
/-!
What every numeric model needs once it is instantiated at `ℝ`: value and sign of the decimal literals,
`std::max` / `std::min` as `max` / `min`, the C++ comparison `x == y` written as two `≤`, the clamp
`std::max(0., x)` and the reciprocal `1. / x`.
-/
namespace CMacVerif

section literals
theorem lit0 : (0.0 : ℝ) = 0 := by norm_num
theorem lit1 : (1.0 : ℝ) = 1 := by norm_num
theorem lit2 : (2.0 : ℝ) = 2 := by norm_num
theorem lit3 : (3.0 : ℝ) = 3 := by norm_num
theorem lit4 : (4.0 : ℝ) = 4 := by norm_num
theorem lit05 : (0.5 : ℝ) = 1 / 2 := by norm_num
theorem lit025 : (0.25 : ℝ) = 1 / 4 := by norm_num
theorem lit0125 : (0.125 : ℝ) = 1 / 8 := by norm_num
theorem lit5em9 : (5.0e-9 : ℝ) = 5e-9 := by norm_num

theorem lit_nonneg (m : ℕ) (s : Bool) (e : ℕ) : (0 : ℝ) ≤ OfScientific.ofScientific m s e := by
  rw [NNRatCast.toOfScientific_def]; exact NNRat.cast_nonneg _

/-- the sign of any decimal literal is that of its mantissa: `0 < 1.0e-22` is `lit_pos (by decide) _ _` -/
theorem lit_pos {m : ℕ} (hm : 0 < m) (s : Bool) (e : ℕ) : (0 : ℝ) < OfScientific.ofScientific m s e := by
  have hm' : (0 : ℝ) < m := Nat.cast_pos.mpr hm
  rw [NNRatCast.ofScientific_eq_ite]
  split
  · rw [NNRat.cast_divNat]; positivity
  · positivity
end literals

section order
variable {α : Type} [LinearOrder α]

theorem amax_eq (a b : α) : amax a b = max a b := (max_def_lt a b).symm

theorem amin_eq (a b : α) : amin a b = min a b := by
  rw [min_comm]; exact (min_def_lt b a).symm

/-- `x == y` as the models write it (two comparisons, so that it is `false` for a NaN) -/
theorem decide_le_and_ge (x y : α) : (decide (x ≤ y) && decide (y ≤ x)) = true ↔ x = y := by
  rw [Bool.and_eq_true, decide_eq_true_eq, decide_eq_true_eq, ← le_antisymm_iff]
end order

section clamp

theorem amax_lit0_left (x : ℝ) : amax (0.0 : ℝ) x = max x 0 := by rw [amax_eq, lit0, max_comm]
theorem amax_lit0_right (x : ℝ) : amax x (0.0 : ℝ) = max x 0 := by rw [amax_eq, lit0]

theorem amax_lit0_left_nonneg (x : ℝ) : 0 ≤ amax (0.0 : ℝ) x := by
  rw [amax_lit0_left]; exact le_max_right _ _
theorem amax_lit0_right_nonneg (x : ℝ) : 0 ≤ amax x (0.0 : ℝ) := by
  rw [amax_lit0_right]; exact le_max_right _ _
theorem amax_lit0_left_of_nonneg {x : ℝ} (h : 0 ≤ x) : amax (0.0 : ℝ) x = x := by
  rw [amax_lit0_left]; exact max_eq_left h
theorem amax_lit0_right_of_nonneg {x : ℝ} (h : 0 ≤ x) : amax x (0.0 : ℝ) = x := by
  rw [amax_lit0_right]; exact max_eq_left h
end clamp

section reciprocal

/-- what the reciprocals the solvers precompute (`rhoinv`, `Pinv`) satisfy -/
theorem mul_one_div_lit {x : ℝ} (hx : x ≠ 0) : x * (1.0 / x) = 1 := by
  rw [lit1]; exact mul_one_div_cancel hx

theorem one_div_lit_pos {x : ℝ} (hx : 0 < x) : (0 : ℝ) < 1.0 / x := by
  rw [lit1]; exact one_div_pos.mpr hx
end reciprocal

end CMacVerif
