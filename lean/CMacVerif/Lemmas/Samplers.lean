import CMacVerif.Lemmas.Locate
import CMacVerif.Lemmas.RealArith
import Mathlib.Analysis.SpecialFunctions.Pow.Real
import Mathlib.Analysis.SpecialFunctions.Log.Basic
import Mathlib.Tactic.NormNum
import Mathlib.Tactic.Ring
/-!
# C18 — what the inverse-CDF samplers over ℝ share: the interpolation `interp` in the bin `locate` chose,
table ranges, brackets
-/
namespace CMacVerif.Locate
open CMacVerif

@[simp] theorem pow_real (x y : ℝ) : ArithFns.pow x y = x ^ y := rfl
@[simp] theorem sqrt_real (x : ℝ) : ArithFns.sqrt x = Real.sqrt x := rfl
@[simp] theorem exp_real (x : ℝ) : ArithFns.exp x = Real.exp x := rfl
@[simp] theorem log10_real (x : ℝ) : ArithFns.log10 x = Real.log x / Real.log 10 := rfl

theorem weight_mem {a b x : ℝ} (hab : a < b) (hx : a ≤ x) (hx' : x ≤ b) :
    0 ≤ (x - a) / (b - a) ∧ (x - a) / (b - a) ≤ 1 :=
  ⟨div_nonneg (sub_nonneg.2 hx) (sub_pos.2 hab).le, (div_le_one (sub_pos.2 hab)).2 (sub_le_sub_right hx' a)⟩

/-- linear interpolation of the table `f` over the table `c` in bin `i`, at `x`: what every sampler computes
once `locate` has chosen the bin -/
noncomputable def interp (c f : ℕ → ℝ) (i : ℕ) (x : ℝ) : ℝ :=
  f i + (x - c i) / (c (i + 1) - c i) * (f (i + 1) - f i)

theorem interp_mem {c f : ℕ → ℝ} {i : ℕ} {x lo hi : ℝ} (hc : c i < c (i + 1)) (hx : c i ≤ x) (hx' : x ≤ c (i + 1))
    (h1 : lo ≤ f i ∧ f i ≤ hi) (h2 : lo ≤ f (i + 1) ∧ f (i + 1) ≤ hi) :
    lo ≤ interp c f i x ∧ interp c f i x ≤ hi :=
  (convex_Icc lo hi).add_smul_sub_mem h1 h2 (weight_mem hc hx hx')

theorem interp_inv {c f : ℕ → ℝ} {i : ℕ} (x : ℝ) (hc : c i ≠ c (i + 1)) (hf : f i ≠ f (i + 1)) :
    interp f c i (interp c f i x) = x := by
  unfold interp
  have h1 := sub_ne_zero.2 hc.symm
  have h2 := sub_ne_zero.2 hf.symm
  field_simp
  ring

theorem table_mem {f : ℕ → ℝ} {n i : ℕ} (hf : ∀ i j, i ≤ j → j < n → f i ≤ f j) (hi : i < n) :
    f 0 ≤ f i ∧ f i ≤ f (n - 1) :=
  ⟨hf 0 i (Nat.zero_le _) hi, hf i (n - 1) (by omega) (by omega)⟩

theorem clampT_mem (T : ℝ) (ttab : ℕ → ℝ) (nT : ℕ) (h : ttab 0 ≤ ttab (nT - 1)) :
    ttab 0 ≤ clampT T ttab nT ∧ clampT T ttab nT ≤ ttab (nT - 1) := by
  unfold clampT
  rw [amax_real, amin_real]
  exact ⟨le_max_left _ _, max_le h (min_le_right _ _)⟩

theorem clampT_bracket (T : ℝ) (ttab : ℕ → ℝ) (nT : ℕ) (hnT : 2 ≤ nT)
    (ht : ∀ i, i + 1 < nT → ttab i < ttab (i + 1)) :
    ttab (locate (clampT T ttab nT) ttab nT) < ttab (locate (clampT T ttab nT) ttab nT + 1) ∧
    ttab (locate (clampT T ttab nT) ttab nT) ≤ clampT T ttab nT ∧
    clampT T ttab nT ≤ ttab (locate (clampT T ttab nT) ttab nT + 1) := by
  have hmono : ∀ k, k < nT → ttab 0 ≤ ttab k := by
    intro k hk
    induction k with
    | zero => exact le_rfl
    | succ k ih => exact le_trans (ih (by omega)) (ht k hk).le
  obtain ⟨c0, c1⟩ := clampT_mem T ttab nT (hmono (nT - 1) (by omega))
  have hle := locate_add_two_le (clampT T ttab nT) ttab nT hnT
  exact ⟨ht _ (by omega), locate_bracket_le (clampT T ttab nT) ttab nT hnT c0 c1⟩

theorem log10_le {a b : ℝ} (ha : 0 < a) (hab : a ≤ b) : Real.log a / Real.log 10 ≤ Real.log b / Real.log 10 :=
  div_le_div_of_nonneg_right (Real.log_le_log ha hab) (Real.log_pos (by norm_num)).le

theorem log10_lt {a b : ℝ} (ha : 0 < a) (hab : a < b) : Real.log a / Real.log 10 < Real.log b / Real.log 10 :=
  div_lt_div_of_pos_right (Real.log_lt_log ha hab) (Real.log_pos (by norm_num))

/-- the bin `locate` selects in the linear table brackets `log₁₀ x` in the logarithmic table; in the
first bin the lower end is the floor `logcdf 0`, not a logarithm -/
theorem planck_log_bracket (x : ℝ) (cdf logcdf : ℕ → ℝ) (n : ℕ) (hn : 2 ≤ n)
    (hpos : ∀ i, 1 ≤ i → i < n → 0 < cdf i)
    (hlog : ∀ i, 1 ≤ i → i < n → logcdf i = Real.log (cdf i) / Real.log 10)
    (hfirst : logcdf 0 < logcdf 1) (hx : 0 < x) (h0 : cdf 0 < x) (h1 : x ≤ cdf (n - 1)) :
    logcdf (locate x cdf n) < logcdf (locate x cdf n + 1) ∧
    (logcdf 0 ≤ Real.log x / Real.log 10 → logcdf (locate x cdf n) ≤ Real.log x / Real.log 10) ∧
    Real.log x / Real.log 10 ≤ logcdf (locate x cdf n + 1) := by
  obtain ⟨ha, hb⟩ := locate_bracket x cdf n hn h0 h1
  have hle := locate_add_two_le x cdf n hn
  have hub : Real.log x / Real.log 10 ≤ logcdf (locate x cdf n + 1) := by
    rw [hlog _ (by omega) (by omega)]; exact log10_le hx hb
  rcases Nat.eq_zero_or_pos (locate x cdf n) with hz | hz
  · rw [hz] at hub ⊢; exact ⟨hfirst, id, hub⟩
  · have hlt : logcdf (locate x cdf n) < Real.log x / Real.log 10 := by
      rw [hlog _ hz (by omega)]; exact log10_lt (hpos _ hz (by omega)) ha
    exact ⟨hlt.trans_le hub, fun _ => hlt.le, hub⟩

/-- the returned Planck frequency is `10^(log frequency) · 13.6 eV/h` -/
theorem planckSample_eq (x : ℝ) (cdf logcdf logfreq : ℕ → ℝ) (n : ℕ) :
    planckSample x cdf logcdf logfreq n = (10 : ℝ) ^ planckLogFreq x cdf logcdf logfreq n * 3.288465385e15 := by
  unfold planckSample
  simp only [pow_real]
  norm_num

section
variable (u T : ℝ) (freq cdf logcdf logfreq ttab : ℕ → ℝ) (cdfT : ℕ → ℕ → ℝ) (n nT nF : ℕ)

theorem linearSample_eq : linearSample u freq cdf n = interp cdf freq (locate u cdf n) u := by
  unfold linearSample interp; ring

theorem planckLogFreq_eq : planckLogFreq u cdf logcdf logfreq n =
    interp logcdf logfreq (locate u cdf n) (Real.log u / Real.log 10) := by
  unfold planckLogFreq interp; simp only [log10_real]; ring

theorem lymanSample_eq : lymanSample u T ttab nT freq cdfT nF =
    interp ttab (fun k => freq (locate u (cdfT k) nF)) (locate (clampT T ttab nT) ttab nT) (clampT T ttab nT) := by
  unfold lymanSample interp; ring

end

end CMacVerif.Locate
