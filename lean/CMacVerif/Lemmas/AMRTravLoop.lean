import CMacVerif.Lemmas.AMRTravNext
/-! Geometric invariant of the `AMRDensityGrid::interact` loop over `ℝ` (C16): the photon stays in the closed box
of its current leaf, every deposit is a forward segment inside that leaf, the position is start + (path / |d|)·d +
whole box lengths on periodic axes; and the start state: `locate` returns the leaf that contains the position. -/
namespace CMacVerif.AMRT
open CMacVerif.GridNum CMacVerif.AMR
open CMacVerif.Axis (forall_lt_three)

/-- what the traversal needs from the grid and the ray -/
structure TravOK (big : ℝ) (G : AGrid ℝ) (d : V3 ℝ) : Prop where
  nonzero : ∃ a, a < 3 ∧ vget d a ≠ 0
  geo : ∀ r, cellAt G.g r = some .leaf → InGrid G r → NgbGeo G r
  narrow : Narrow G
  bigok : ∀ r o, cellAt G.g r = some .leaf → Closed (refBox G r) o → ∀ a, a < 3 → vget d a ≠ 0 →
    wp big (refBox G r) o d a < big

def pathSum (l : List (Ref × ℝ)) : ℝ := (l.map Prod.snd).sum

/-- a deposit `(r, len)` made from position `o`: a forward segment of that length that stays in
the closed box of the leaf `r` -/
def GoodDeposit (G : AGrid ℝ) (d : V3 ℝ) (o : V3 ℝ) (r : Ref) (len : ℝ) : Prop :=
  cellAt G.g r = some .leaf ∧ Closed (refBox G r) o ∧
  ∃ l, 0 ≤ l ∧ len = l * Real.sqrt (dnorm2 d) ∧ Closed (refBox G r) (along o d l)

/-- the current cell is a leaf whose closed box contains the position; it stays current after an
absorption; `disp`: position = start + (path / |d|) · d + whole box lengths on periodic axes -/
structure TravInv (G : AGrid ℝ) (p0 d : V3 ℝ) (st : St ℝ) : Prop where
  cur : ∀ r, st.cur = some r → LeafAt G r st.pos
  negod : st.od < 0 → st.cur = st.last
  disp : ∃ T : ℝ, 0 ≤ T ∧ pathSum st.path = T * Real.sqrt (dnorm2 d) ∧
    ∀ a, a < 3 → ∃ w : Int, vget st.pos a = vget p0 a + vget d a * T + w * bsd G.box a ∧ (per G a = false → w = 0)

theorem TravInv.step {G : AGrid ℝ} {p0 d : V3 ℝ} {st : St ℝ} (h : TravInv G p0 d st) {pos' : V3 ℝ}
    {cur' : Option Ref} {od' len Δ : ℝ} {r : Ref} (hΔ : 0 ≤ Δ) (hlen : len = Δ * Real.sqrt (dnorm2 d))
    (hpos : ∀ a, a < 3 → ∃ k : Int, vget pos' a = vget st.pos a + vget d a * Δ + k * bsd G.box a ∧
      (per G a = false → k = 0))
    (hcur : ∀ r', cur' = some r' → LeafAt G r' pos')
    (hneg : od' < 0 → cur' = some r) :
    TravInv G p0 d ⟨pos', cur', od', (r, len) :: st.path, some r⟩ := by
  obtain ⟨T, hT0, hTsum, hTpos⟩ := h.disp
  refine ⟨hcur, hneg, T + Δ, by linarith, ?_, fun a ha => ?_⟩
  · show len + pathSum st.path = _
    rw [hTsum, hlen]; ring
  · obtain ⟨w, hw1, hw2⟩ := hTpos a ha
    obtain ⟨k, hk1, hk2⟩ := hpos a ha
    refine ⟨w + k, ?_, fun hf => by rw [hw2 hf, hk2 hf]; rfl⟩
    show vget pos' a = _
    rw [hk1, hw1]; push_cast; ring

theorem body_trav (big : ℝ) (G : AGrid ℝ) (m : Medium ℝ) (p0 d : V3 ℝ) (hok : TravOK big G d) (st : St ℝ) (r : Ref)
    (hcur : st.cur = some r) (hod : 0 < st.od) (h : TravInv G p0 d st) :
    TravInv G p0 d (body big G m d st r) ∧
    ∃ len, (body big G m d st r).path = (r, len) :: st.path ∧ GoodDeposit G d st.pos r len := by
  obtain ⟨hleaf, hgrid, hB, hin⟩ := h.cur r hcur
  obtain ⟨l, hl0, hwall, hds, hstay, hcorr, hnext⟩ := wallIntersection_spec big G st.pos d r hB
    ⟨hin, hok.nonzero, hok.bigok r st.pos hleaf hin⟩ (hok.geo r hleaf hgrid) (hok.narrow r hleaf)
  unfold body
  simp only [lit0, opticalDepth_eq]
  generalize wallIntersection big G st.pos d r = W at hwall hds hcorr hnext ⊢
  by_cases hcor : st.od - kappa m (keyOf r) * W.ds < 0
  · -- the photon is absorbed in this cell, after the fraction `t` of the way to the wall
    rw [if_pos hcor]
    obtain ⟨hk, hdsne, ht0, ht1, -⟩ := Axis.absorb_frac hod (sub_neg.mp hcor).le
    rw [Axis.absorb_path_add hk hdsne]
    generalize st.od / (kappa m (keyOf r) * W.ds) = t at ht0 ht1 ⊢
    have hlen : t * W.ds = (l * t) * Real.sqrt (dnorm2 d) := by rw [hds]; ring
    have hl' : 0 ≤ l * t := mul_nonneg hl0 ht0.le
    have hend := hstay _ hl' (mul_le_of_le_one_right hl0 ht1)
    have hp : ∀ x dx : ℝ, x + (x + dx * l - x) * (t * W.ds) / W.ds = x + dx * (l * t) := fun x dx => by
      rw [mul_div_assoc, mul_div_cancel_right₀ _ hdsne]; ring
    simp only [hwall, along, hp]
    refine ⟨h.step hl' hlen (fun a ha => ⟨0, by rw [← along, vget_along]; simp, fun _ => rfl⟩) ?_ (fun _ => rfl),
      _, rfl, hleaf, hin, _, hl', hlen, hend⟩
    intro r' hr'
    cases hr'
    exact ⟨hleaf, hgrid, hB, hend⟩
  · -- the photon reaches the wall
    rw [if_neg hcor]
    refine ⟨h.step hl0 hds (fun a ha => ?_) hnext (fun hn => absurd hn hcor), _, rfl, hleaf, hin, l, hl0, hds,
      hstay l hl0 le_rfl⟩
    obtain ⟨k, hk, hk0⟩ := hcorr a ha
    exact ⟨k, by show vget (vadd W.wall W.corr) a = _; rw [vget_vadd, hwall, vget_along, hk], hk0⟩

def AllGood (G : AGrid ℝ) (d : V3 ℝ) (l : List (Ref × ℝ)) : Prop := ∀ e ∈ l, ∃ o, GoodDeposit G d o e.1 e.2

theorem loop_trav (big : ℝ) (G : AGrid ℝ) (m : Medium ℝ) (p0 d : V3 ℝ) (hok : TravOK big G d) (fuel : Nat) :
    ∀ st : St ℝ, TravInv G p0 d st → AllGood G d st.path →
      TravInv G p0 d (loop big G m d fuel st).1 ∧ AllGood G d (loop big G m d fuel st).1.path := by
  intro st h hg
  refine (loop_inv big G m d (P := fun st => TravInv G p0 d st ∧ AllGood G d st.path) ?_ fuel st ⟨h, hg⟩).1
  rintro st r hcur hod ⟨h, hg⟩
  obtain ⟨hinv, len, hpath, hgood⟩ := body_trav big G m p0 d hok st r hcur hod h
  refine ⟨hinv, fun e he => ?_⟩
  rw [hpath] at he
  rcases List.mem_cons.1 he with rfl | he
  · exact ⟨st.pos, hgood⟩
  · exact hg e he

theorem treeAt_leafPath : ∀ t, ∀ π ∈ leafPaths t, treeAt t π = some .leaf :=
  leaf_induction rfl fun _ _ _ _ _ ih => ih

theorem inBox_closed (b : Box3 ℝ) (p : V3 ℝ) (h : InBox b p) : Closed b p := by
  obtain ⟨x1, x2, y1, y2, z1, z2⟩ := h
  exact forall_lt_three ⟨x1, x2.le⟩ ⟨y1, y2.le⟩ ⟨z1, z2.le⟩

/-- the start cell is the leaf that contains the start position -/
theorem locate_spec (G : AGrid ℝ) (hg : G.g.WF) (hb : PosBox G.box) (p : V3 ℝ) (hp : InBox G.box p) :
    cellAt G.g (locate G p) = some .leaf ∧ InGrid G (locate G p) ∧ PosB (refBox G (locate G p)) ∧
      Closed (refBox G (locate G p)) p := by
  obtain ⟨hbx, hby, hbz, hin, ⟨π, hπ, hkey, hbox⟩, _⟩ :=
    amr_contains_aux G.g G.box p hg.nx_pos hg.ny_pos hg.nz_pos hb hp
  set ix := blockIndex G.g.nx p.x G.box.ax G.box.sx
  set iy := blockIndex G.g.ny p.y G.box.ay G.box.sy
  set iz := blockIndex G.g.nz p.z G.box.az G.box.sz
  obtain ⟨rb, rc, _⟩ := blockLeaf_roundtrip G.g hg ix iy iz hbx hby hbz (encodeKey π)
    (by rw [leafKeys_block]; exact List.mem_map_of_mem hπ)
  have hloc : locate G p = ⟨ix, iy, iz, π⟩ := by
    unfold locate
    simp only [hkey, rb, rc, decode_encode π (leafPaths_digits _ π hπ)]
  rw [hloc]
  exact ⟨treeAt_leafPath _ π hπ, ⟨hbx, hby, hbz⟩, posB_refBox G hb hg.nx_pos hg.ny_pos hg.nz_pos _,
    by show Closed (boxOfPath (blockBox G.g G.box ix iy iz) π) p; rw [← hbox]; exact inBox_closed _ _ hin⟩

end CMacVerif.AMRT
