import CMacVerif.Lemmas.RanluxStream
import Mathlib.Tactic.Ring
import Mathlib.Tactic.NormNum
import Mathlib.Tactic.LinearCombination
import Mathlib.Algebra.Order.Group.Int
import Mathlib.Algebra.Order.Ring.Abs
/-!
The subtract-with-borrow recurrence is a linear congruential
generator modulo `M = b^12 - b^5 + 1` (Tezuka–L'Ecuyer–Couture), and what follows for two
generators that deliver the same first 24 values.
-/
namespace CMacVerif.Ranlux

/-- value and borrow of the textbook sequence -/
def X (x0 : Nat → Int) (n : Nat) : Int := (swb x0 n).1
def C (x0 : Nat → Int) (n : Nat) : Int := (swb x0 n).2

theorem C_cok (x0 : Nat → Int) (n : Nat) : Cok (C x0 n) := by
  unfold C
  by_cases h : n < 12
  · rw [swb_lt _ _ h]; exact Or.inl rfl
  · obtain ⟨t, rfl⟩ : ∃ t, n = t + 12 := ⟨n - 12, by omega⟩
    rw [swb_add]; exact borrow_cok _

theorem C_lt12 (x0 : Nat → Int) (n : Nat) (h : n < 12) : C x0 n = 0 := by
  unfold C; rw [swb_lt _ _ h]

theorem X_lt12 (x0 : Nat → Int) (n : Nat) (h : n < 12) : X x0 n = x0 n := by
  unfold X; rw [swb_lt _ _ h]

/-- the recurrence, with the borrow made explicit -/
theorem X_rec (x0 : Nat → Int) (t : Nat) :
    X x0 (t + 12) = X x0 (t + 7) - X x0 t - C x0 (t + 11) + B * C x0 (t + 12) := by
  unfold X C
  rw [swb_add]
  exact borrow_fst _

/-- the modulus of the equivalent linear congruential generator -/
def MM : Int := B ^ 12 - B ^ 5 + 1

/-- the residue represented by the window `X t … X (t+11)` and the borrow `C (t+11)` -/
def Zf (x0 : Nat → Int) (t : Nat) : Int :=
  X x0 t + B * X x0 (t + 1) + B ^ 2 * X x0 (t + 2) + B ^ 3 * X x0 (t + 3) + B ^ 4 * X x0 (t + 4)
    + B ^ 5 * X x0 (t + 5) + B ^ 6 * X x0 (t + 6) + (B ^ 7 - 1) * X x0 (t + 7)
    + (B ^ 8 - B) * X x0 (t + 8) + (B ^ 9 - B ^ 2) * X x0 (t + 9)
    + (B ^ 10 - B ^ 3) * X x0 (t + 10) + (B ^ 11 - B ^ 4) * X x0 (t + 11) + C x0 (t + 11)

/-- one step of the recurrence divides the residue by the base, modulo `MM` -/
theorem Zf_step (x0 : Nat → Int) (t : Nat) :
    Zf x0 t = B * Zf x0 (t + 1)
      + MM * (X x0 t - X x0 (t + 7) + C x0 (t + 11) - B * C x0 (t + 12)) := by
  simp only [Zf, MM, Nat.add_assoc, Nat.reduceAdd]
  rw [X_rec x0 t]
  ring

theorem Zf_iter (x0 : Nat → Int) (t n : Nat) :
    ∃ q : Int, Zf x0 t = B ^ n * Zf x0 (t + n) + MM * q := by
  induction n with
  | zero => exact ⟨0, by simp⟩
  | succ n ih =>
    obtain ⟨q, hq⟩ := ih
    refine ⟨q + B ^ n * (X x0 (t + n) - X x0 (t + n + 7) + C x0 (t + n + 11)
      - B * C x0 (t + n + 12)), ?_⟩
    rw [hq, Zf_step x0 (t + n), show t + n + 1 = t + (n + 1) by omega]
    ring

set_option exponentiation.threshold 400 in
/-- 397 steps are not the identity, nor minus the identity, of the congruential generator -/
theorem MM_not_dvd_plus : ¬ MM ∣ B ^ 397 + 1 := by
  unfold MM; rw [B_val]; decide

set_option exponentiation.threshold 400 in
theorem MM_not_dvd_minus : ¬ MM ∣ B ^ 397 - 1 := by
  unfold MM; rw [B_val]; decide

/-- if `m ∣ x` and `|x| < m` then `x = 0`, in the form used below -/
theorem eq_of_dvd_sub_of_lt (m a b : Int) (h : m ∣ a - b) (h1 : a - b < m) (h2 : b - a < m) :
    a = b := by
  have := Int.eq_zero_of_abs_lt_dvd h (by rw [abs_lt]; constructor <;> omega)
  omega

theorem Zf_diff (xa xb : Nat → Int) (t : Nat) (h : ∀ j, j < 12 → X xa (t + j) = X xb (t + j)) :
    Zf xa t - Zf xb t = C xa (t + 11) - C xb (t + 11) := by
  have h0 : X xa t = X xb t := h 0 (by omega)
  simp only [Zf, h0, h, Nat.reduceLT]
  ring

/-- a difference of two bits that is `P` times another such difference modulo `MM` vanishes
unless `P ≡ ±1` -/
theorem borrow_diff_zero (P d1 d2 q : Int) (h1 : -1 ≤ d1 ∧ d1 ≤ 1) (h2 : -1 ≤ d2 ∧ d2 ≤ 1)
    (key : d1 = P * d2 + MM * q) (p : ¬ MM ∣ P + 1) (m : ¬ MM ∣ P - 1) : d1 = 0 := by
  have one : ¬ MM ∣ 1 := fun h => by
    have := Int.le_of_dvd (by norm_num) h
    unfold MM at this; rw [B_val] at this; norm_num at this
  by_contra h0
  obtain rfl | rfl : d1 = 1 ∨ d1 = -1 := by omega
  · obtain rfl | rfl | rfl : d2 = 0 ∨ d2 = 1 ∨ d2 = -1 := by omega
    · exact one ⟨q, by linear_combination key⟩
    · exact m ⟨-q, by linear_combination -key⟩
    · exact p ⟨q, by linear_combination key⟩
  · obtain rfl | rfl | rfl : d2 = 0 ∨ d2 = 1 ∨ d2 = -1 := by omega
    · exact one ⟨-q, by linear_combination -key⟩
    · exact p ⟨-q, by linear_combination -key⟩
    · exact m ⟨q, by linear_combination key⟩

theorem C_sub_bnd (xa xb : Nat → Int) (n : Nat) :
    -1 ≤ C xa n - C xb n ∧ C xa n - C xb n ≤ 1 := by
  have := (C_cok xa n).bnd
  have := (C_cok xb n).bnd
  omega

theorem Zf_diff_iter (xa xb : Nat → Int) (t n : Nat)
    (h : ∀ j, j < 12 → X xa (t + n + j) = X xb (t + n + j)) :
    MM ∣ Zf xa t - Zf xb t - B ^ n * (C xa (t + n + 11) - C xb (t + n + 11)) := by
  obtain ⟨qa, ha⟩ := Zf_iter xa t n
  obtain ⟨qb, hb⟩ := Zf_iter xb t n
  exact ⟨qa - qb, by rw [ha, hb, ← Zf_diff xa xb (t + n) h]; ring⟩

theorem carries_agree (xa xb : Nat → Int) (t p : Nat)
    (hp : ¬ MM ∣ B ^ p + 1) (hm : ¬ MM ∣ B ^ p - 1)
    (h1 : ∀ j, j < 12 → X xa (t + j) = X xb (t + j))
    (h2 : ∀ j, j < 12 → X xa (t + p + j) = X xb (t + p + j)) :
    C xa (t + 11) = C xb (t + 11) := by
  obtain ⟨q, hq⟩ := Zf_diff_iter xa xb t p h2
  rw [Zf_diff xa xb t h1] at hq
  have := borrow_diff_zero _ _ _ q (C_sub_bnd xa xb (t + 11)) (C_sub_bnd xa xb (t + p + 11))
    (by linear_combination hq) hp hm
  omega

/-- the number with the `k` digits `x0 i, x0 (i+1), …` in base `B`, least significant first -/
def num (x0 : Nat → Int) : Nat → Nat → Int
  | _, 0 => 0
  | i, k + 1 => x0 i + B * num x0 (i + 1) k

theorem num_bnd (x0 : Nat → Int) (b : ∀ k, k < 12 → 0 ≤ x0 k ∧ x0 k < B) :
    ∀ k i, i + k ≤ 12 → 0 ≤ num x0 i k ∧ num x0 i k ≤ B ^ k - 1 := by
  intro k
  induction k with
  | zero => intro i _; simp [num]
  | succ k ih =>
    intro i hi
    have d := b i (by omega)
    have r := ih (i + 1) (by omega)
    rw [num, pow_succ]
    exact ⟨add_nonneg d.1 (mul_nonneg B_nonneg r.1),
      calc x0 i + B * num x0 (i + 1) k ≤ (B - 1) + B * (B ^ k - 1) :=
            add_le_add (by omega) (mul_le_mul_of_nonneg_left r.2 B_nonneg)
        _ = B ^ k * B - 1 := by ring⟩

theorem Zf_zero (x0 : Nat → Int) : Zf x0 0 = num x0 0 7 + (B ^ 7 - 1) * num x0 7 5 := by
  simp only [Zf, num, Nat.zero_add, Nat.reduceAdd, X_lt12, C_lt12, Nat.reduceLT]
  ring

/-- a residue `lo + u * hi` modulo `u * v + 1` with `1 ≤ lo ≤ u` and `0 ≤ hi < v` determines
`lo`: the residue lies in `[1, u * v]`, and `lo - lo'` is a multiple of `u` smaller than `u` -/
theorem lo_unique {u v lo hi lo' hi' : Int} (l : 1 ≤ lo ∧ lo ≤ u) (h : 0 ≤ hi ∧ hi ≤ v - 1)
    (l' : 1 ≤ lo' ∧ lo' ≤ u) (h' : 0 ≤ hi' ∧ hi' ≤ v - 1)
    (hd : u * v + 1 ∣ (lo + u * hi) - (lo' + u * hi')) : lo = lo' := by
  have hu : 0 ≤ u := by omega
  have a := mul_le_mul_of_nonneg_left h.2 hu
  have a' := mul_le_mul_of_nonneg_left h'.2 hu
  have b := mul_nonneg hu h.1
  have b' := mul_nonneg hu h'.1
  rw [mul_sub_one] at a a'
  have hz := eq_of_dvd_sub_of_lt _ _ _ hd (by omega) (by omega)
  exact eq_of_dvd_sub_of_lt u _ _ ⟨hi' - hi, by linear_combination hz⟩ (by omega) (by omega)

/-- two seed arrays (entries in `[0, b)`, first entry non-zero) whose sequences agree on the
windows `X p … X (p + 11)` and `X (2 p) … X (2 p + 11)` (the first two delivered at luxury `p`)
have the same first entry, provided `B ^ p ≢ ±1` modulo `MM` -/
theorem first_word_eq (xa xb : Nat → Int) (p : Nat)
    (hp : ¬ MM ∣ B ^ p + 1) (hm : ¬ MM ∣ B ^ p - 1)
    (ba : ∀ k, k < 12 → 0 ≤ xa k ∧ xa k < B) (bb : ∀ k, k < 12 → 0 ≤ xb k ∧ xb k < B)
    (na : xa 0 ≠ 0) (nb : xb 0 ≠ 0)
    (h1 : ∀ j, j < 12 → X xa (p + j) = X xb (p + j))
    (h2 : ∀ j, j < 12 → X xa (p + p + j) = X xb (p + p + j)) : xa 0 = xb 0 := by
  -- the borrows after the first window agree, hence the initial residues modulo `MM`
  have hdvd := Zf_diff_iter xa xb 0 p (by rwa [Nat.zero_add])
  rw [Nat.zero_add, carries_agree xa xb p p hp hm h1 h2, sub_self, mul_zero, sub_zero, Zf_zero, Zf_zero,
    show MM = (B ^ 7 - 1) * B ^ 5 + 1 by unfold MM; ring] at hdvd
  -- their low parts agree, and so do the first digits of these
  have b0a := ba 0 (by omega)
  have b0b := bb 0 (by omega)
  have ra := mul_nonneg B_nonneg (num_bnd xa ba 6 1 (by omega)).1
  have rb := mul_nonneg B_nonneg (num_bnd xb bb 6 1 (by omega)).1
  have hlo : xa 0 + B * num xa 1 6 = xb 0 + B * num xb 1 6 :=
    lo_unique ⟨by omega, (num_bnd xa ba 7 0 (by omega)).2⟩ (num_bnd xa ba 5 7 (by omega))
      ⟨by omega, (num_bnd xb bb 7 0 (by omega)).2⟩ (num_bnd xb bb 5 7 (by omega)) hdvd
  exact eq_of_dvd_sub_of_lt B _ _ ⟨num xb 1 6 - num xa 1 6, by linear_combination hlo⟩ (by omega) (by omega)

end CMacVerif.Ranlux
