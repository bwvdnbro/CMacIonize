import CMacVerif.Lemmas.CartesianRay
import CMacVerif.Lemmas.CartesianWall
/-! Every path segment of the Cartesian `interact` loop lies in the cell it is credited to (C16):
position-in-cell invariant through wall crossings and periodic wraps. -/
namespace CMacVerif.Cartesian
open CMacVerif.GridNum

/-- one axis of the periodic wrap: a position in the closed interval of index `i ∈ [-1, n]`
ends, after the wrap (or the range test), in the closed interval of an index in range -/
theorem wrap_axis (per : Bool) (n : Int) (hn : 0 < n) (a S p : ℝ) (i : Int)
    (hi : -1 ≤ i ∧ i ≤ n) (hflag : axisFlag per n i = true)
    (h1 : a + S / (n : ℝ) * (i : ℝ) ≤ p) (h2 : p ≤ a + S / (n : ℝ) * (i : ℝ) + S / (n : ℝ)) :
    0 ≤ (insideAxis per n S i p).2.1 ∧ (insideAxis per n S i p).2.1 < n ∧
    a + S / (n : ℝ) * (((insideAxis per n S i p).2.1 : Int) : ℝ) ≤ (insideAxis per n S i p).2.2 ∧
    (insideAxis per n S i p).2.2 ≤ a + S / (n : ℝ) * (((insideAxis per n S i p).2.1 : Int) : ℝ) + S / (n : ℝ) := by
  have hcn : S / (n : ℝ) * (n : ℝ) = S := div_mul_cancel₀ S (by exact_mod_cast hn.ne')
  generalize S / (n : ℝ) = c at *
  unfold insideAxis
  cases per
  · simp only [axisFlag, Bool.not_false, if_true, decide_eq_true_eq] at hflag
    simp only [Bool.not_false, if_true]
    exact ⟨hflag.1, hflag.2, h1, h2⟩
  · simp only [Bool.not_true, Bool.false_eq_true, if_false]
    by_cases c1 : i < 0
    · have e : i = -1 := by omega
      subst e
      have c2 : ¬ (n - 1 ≥ n) := by omega
      simp only [c1, if_true, c2, if_false]
      push_cast at h1 h2 ⊢
      rw [mul_sub, mul_one, hcn]
      exact ⟨by omega, by omega, by linarith, by linarith⟩
    · by_cases c2 : i ≥ n
      · have e : i = n := by omega
        subst e
        simp only [c1, if_false, c2, if_true]
        rw [hcn] at h1 h2
        refine ⟨le_refl _, hn, ?_, ?_⟩ <;> push_cast <;> linarith
      · simp only [c1, if_false, c2]
        exact ⟨by omega, by omega, h1, h2⟩

/-- index of a cell or of a position one step outside the grid (where the loop body can leave it) -/
def Near (n i : I3) : Prop := -1 ≤ i.x ∧ i.x ≤ n.x ∧ -1 ≤ i.y ∧ i.y ≤ n.y ∧ -1 ≤ i.z ∧ i.z ≤ n.z
/-- the index of a cell of the grid (the same as `InRange` of Props/C16) -/
def InRange' (n i : I3) : Prop := 0 ≤ i.x ∧ i.x < n.x ∧ 0 ≤ i.y ∧ i.y < n.y ∧ 0 ≤ i.z ∧ i.z < n.z

/-- the grid was built by the constructor: `_cellside = side / ncell`, at least one cell per axis -/
structure GridOK (g : Grid ℝ) : Prop where
  nx : 0 < g.n.x
  ny : 0 < g.n.y
  nz : 0 < g.n.z
  sx : 0 < g.box.sx
  sy : 0 < g.box.sy
  sz : 0 < g.box.sz
  csx : g.cs.x = g.box.sx / (g.n.x : ℝ)
  csy : g.cs.y = g.box.sy / (g.n.y : ℝ)
  csz : g.cs.z = g.box.sz / (g.n.z : ℝ)

theorem mkGrid_ok (box : Box3 ℝ) (n : I3) (px py pz : Bool) (hnx : 0 < n.x) (hny : 0 < n.y) (hnz : 0 < n.z)
    (hb : PosBox box) : GridOK (mkGrid box n px py pz) :=
  ⟨hnx, hny, hnz, hb.1, hb.2.1, hb.2.2, rfl, rfl, rfl⟩

theorem cellBox_unique (g : Grid ℝ) (hg : GridOK g) (i j : I3) (p : V3 ℝ) (hi : InBox (cellBox g i) p)
    (hj : InBox (cellBox g j) p) : j = i := by
  obtain ⟨i1, i2, i3, i4, i5, i6⟩ := hi
  obtain ⟨j1, j2, j3, j4, j5, j6⟩ := hj
  simp only [cellBox, ofInt_real, hg.csx, hg.csy, hg.csz] at i1 i2 i3 i4 i5 i6 j1 j2 j3 j4 j5 j6
  cases i; cases j
  rw [I3.mk.injEq]
  exact ⟨axis_unique hg.nx hg.sx j1 j2 i1 i2, axis_unique hg.ny hg.sy j3 j4 i3 i4,
    axis_unique hg.nz hg.sz j5 j6 i5 i6⟩

/-- `get_cell_indices` of a position of the half-open box in exact arithmetic: the clamp of the
top index never fires, the indices are in range and their cell contains the position -/
theorem cellIndices_spec (box : Box3 ℝ) (n : I3) (px py pz : Bool) (p : V3 ℝ)
    (hnx : 0 < n.x) (hny : 0 < n.y) (hnz : 0 < n.z) (hb : PosBox box) (hp : InBox box p) :
    InRange' n (cellIndices (mkGrid box n px py pz) p) ∧
      InBox (cellBox (mkGrid box n px py pz) (cellIndices (mkGrid box n px py pz) p)) p := by
  obtain ⟨hx1, hx2, hy1, hy2, hz1, hz2⟩ := hp
  obtain ⟨ax0, ax1, ax2, ax3⟩ := axis_index n.x hnx box.ax box.sx p.x hb.1 hx1 hx2
  obtain ⟨ay0, ay1, ay2, ay3⟩ := axis_index n.y hny box.ay box.sy p.y hb.2.1 hy1 hy2
  obtain ⟨az0, az1, az2, az3⟩ := axis_index n.z hnz box.az box.sz p.z hb.2.2 hz1 hz2
  let r := rawIndices (mkGrid box n px py pz) p
  have ex : clampTop n.x r.x p.x (box.ax + box.sx) = r.x := clampTop_inactive _ _ _ _ ax1
  have ey : clampTop n.y r.y p.y (box.ay + box.sy) = r.y := clampTop_inactive _ _ _ _ ay1
  have ez : clampTop n.z r.z p.z (box.az + box.sz) = r.z := clampTop_inactive _ _ _ _ az1
  have hraw : cellIndices (mkGrid box n px py pz) p = r := by
    show (⟨clampTop n.x r.x p.x (box.ax + box.sx), clampTop n.y r.y p.y (box.ay + box.sy),
      clampTop n.z r.z p.z (box.az + box.sz)⟩ : I3) = r
    rw [ex, ey, ez]
  rw [hraw]
  exact ⟨⟨ax0, ax1, ay0, ay1, az0, az1⟩, ax2, ax3, ay2, ay3, az2, az3⟩

/-- position in the closed box of the (possibly just-outside) cell of the index; every deposit is `≥ 0` and carries
the long index of a cell of the grid -/
structure SegInv (g : Grid ℝ) (st : St ℝ) : Prop where
  inCell : ClosedIn (cellBox g st.idx) st.pos
  near : Near g.n st.idx
  pathNonneg : ∀ e ∈ st.path, 0 ≤ e.2 ∧ 0 ≤ e.1 ∧ e.1 < g.n.x * g.n.y * g.n.z

theorem wrap_seg (g : Grid ℝ) (hg : GridOK g) (st : St ℝ) (h : SegInv g st) (hf : gridFlag g st.idx = true) :
    SegInv g (wrapSt g st) ∧ InRange' g.n (wrapSt g st).idx := by
  obtain ⟨⟨c1, c2, c3, c4, c5, c6⟩, ⟨n1, n2, n3, n4, n5, n6⟩, hp⟩ := h
  simp only [gridFlag, Bool.and_eq_true] at hf
  obtain ⟨⟨fx, fy⟩, fz⟩ := hf
  simp only [cellBox, ofInt_real, hg.csx, hg.csy, hg.csz] at c1 c2 c3 c4 c5 c6
  obtain ⟨a1, a2, a3, a4⟩ := wrap_axis g.px g.n.x hg.nx g.box.ax g.box.sx st.pos.x st.idx.x ⟨n1, n2⟩ fx c1 c2
  obtain ⟨b1, b2, b3, b4⟩ := wrap_axis g.py g.n.y hg.ny g.box.ay g.box.sy st.pos.y st.idx.y ⟨n3, n4⟩ fy c3 c4
  obtain ⟨d1, d2, d3, d4⟩ := wrap_axis g.pz g.n.z hg.nz g.box.az g.box.sz st.pos.z st.idx.z ⟨n5, n6⟩ fz c5 c6
  refine ⟨⟨?_, ?_, hp⟩, ?_⟩
  · show ClosedIn (cellBox g (isInside g st.idx st.pos).2.1) (isInside g st.idx st.pos).2.2
    simp only [ClosedIn, cellBox, ofInt_real, hg.csx, hg.csy, hg.csz, isInside]
    exact ⟨a3, a4, b3, b4, d3, d4⟩
  · show Near g.n (isInside g st.idx st.pos).2.1
    simp only [Near, isInside]; omega
  · show InRange' g.n (isInside g st.idx st.pos).2.1
    simp only [InRange', isInside]; exact ⟨a1, a2, b1, b2, d1, d2⟩

/-- the hypotheses about the ray under which the wall intersection is the geometric one -/
structure RayOK (big : ℝ) (g : Grid ℝ) (d inv : V3 ℝ) : Prop where
  ix : d.x ≠ 0 → inv.x = 1 / d.x
  iy : d.y ≠ 0 → inv.y = 1 / d.y
  iz : d.z ≠ 0 → inv.z = 1 / d.z
  nonzero : d.x ≠ 0 ∨ d.y ≠ 0 ∨ d.z ≠ 0
  /-- `DBL_MAX` exceeds every wall distance that can occur -/
  big : ∀ (i : I3) (o : V3 ℝ), ClosedIn (cellBox g i) o →
    (d.x ≠ 0 → wallDist big o.x d.x inv.x (cellBox g i).ax ((cellBox g i).ax + (cellBox g i).sx) < big) ∧
    (d.y ≠ 0 → wallDist big o.y d.y inv.y (cellBox g i).ay ((cellBox g i).ay + (cellBox g i).sy) < big) ∧
    (d.z ≠ 0 → wallDist big o.z d.z inv.z (cellBox g i).az ((cellBox g i).az + (cellBox g i).sz) < big)

theorem closedIn_box (g : Grid ℝ) (hg : GridOK g) (i : I3) (hi : InRange' g.n i) (p : V3 ℝ)
    (h : ClosedIn (cellBox g i) p) : ClosedIn g.box p := by
  obtain ⟨c1, c2, c3, c4, c5, c6⟩ := h
  obtain ⟨a1, a2, a3, a4, a5, a6⟩ := hi
  simp only [cellBox, ofInt_real, hg.csx, hg.csy, hg.csz] at c1 c2 c3 c4 c5 c6
  obtain ⟨x1, x2⟩ := cell_sub_box hg.sx hg.nx ⟨a1, a2⟩ c1 c2
  obtain ⟨y1, y2⟩ := cell_sub_box hg.sy hg.ny ⟨a3, a4⟩ c3 c4
  obtain ⟨z1, z2⟩ := cell_sub_box hg.sz hg.nz ⟨a5, a6⟩ c5 c6
  exact ⟨x1, x2, y1, y2, z1, z2⟩

theorem body_seg (big : ℝ) (g : Grid ℝ) (m : Medium ℝ) (d inv : V3 ℝ) (hr : RayOK big g d inv)
    (st : St ℝ) (h : SegInv g st) (hin : InRange' g.n st.idx) (hod : 0 < st.od) :
    SegInv g (body big g m d inv st) ∧ ClosedIn (cellBox g st.idx) (body big g m d inv st).pos := by
  obtain ⟨hc, _, hp⟩ := h
  obtain ⟨bx, by', bz⟩ := hr.big st.idx st.pos hc
  obtain ⟨ds0, hmem, x1, x2, y1, y2, z1, z2, -⟩ :=
    wallIntersection_spec big st.pos d inv _ hc hr.ix hr.iy hr.iz hr.nonzero bx by' bz
  obtain ⟨w1, w2, w3, w4, w5, w6⟩ := hmem _ ds0 le_rfl
  obtain ⟨r1, r2, r3, r4, r5, r6⟩ := hin
  obtain ⟨t, t0, t1, hpos, hpath, -, -, hbr⟩ := body_spec big g m d inv st hod
  obtain ⟨kx, ky, kz⟩ := wallIntersection_offsets big st.pos d inv (cellBox g st.idx)
  have hstay : ClosedIn (cellBox g st.idx) (body big g m d inv st).pos :=
    hpos ▸ hmem _ (mul_nonneg t0.le ds0) (mul_le_of_le_one_left ds0 t1)
  refine ⟨⟨?_, ?_, ?_⟩, hstay⟩
  · rcases hbr with ⟨-, hi, -⟩ | ⟨-, rfl, hi⟩
    · rw [hi]; exact hstay
    · -- the wall point lies in the closed box of the cell the offsets point to
      rw [hi, hpos]
      simp only [one_mul]
      obtain ⟨ex1, ex2⟩ := shift_cell w1 w2 (fun h => (x1 h).2) (fun h => (x2 h).2) kx
      obtain ⟨ey1, ey2⟩ := shift_cell w3 w4 (fun h => (y1 h).2) (fun h => (y2 h).2) ky
      obtain ⟨ez1, ez2⟩ := shift_cell w5 w6 (fun h => (z1 h).2) (fun h => (z2 h).2) kz
      exact ⟨ex1, ex2, ey1, ey2, ez1, ez2⟩
  · unfold Near
    rcases hbr with ⟨-, hi, -⟩ | ⟨-, -, hi⟩ <;> rw [hi]
    · omega
    · simp only; omega
  · intro e he
    rw [hpath] at he
    rcases List.mem_cons.1 he with rfl | he
    · exact ⟨mul_nonneg t0.le ds0, longIndex_range g.n st.idx ⟨r1, r2⟩ ⟨r3, r4⟩ ⟨r5, r6⟩⟩
    · exact hp e he

end CMacVerif.Cartesian
