import CMacVerif.Lemmas.PhotonEnd
import CMacVerif.Lemmas.PhotonCont
/-! C01: the worker loop of the threads on top of the protocol (both variants of the loop condition,
termination test as two separate reads).  The labels of `lstep` are seven kinds of move (`LStep`, `lstep_sound`);
the invariants (`LInv`, `LHeld`) are kept by each kind (`lstep_invs`): every running task is held by exactly one thread
that will execute it, every pending task sits in the `tasks_to_add[]` of a thread that will enqueue it,
and for every queued flush task there is a thread that is still going to poll the shared queue. -/
namespace CMacVerif.Photon

/-- the thread will call `get_task` on the shared queue before it leaves the loop -/
def Obliged (th : Th) : Prop := (∃ u, th = .exec u) ∨ th = .post ∨ (∃ u, th = .top (some u))

theorem not_obliged_of_idle {th : Th} (h : th = .exited ∨ th = .start) : ¬ Obliged th := by
  rcases h with rfl | rfl <;> rintro (⟨u, e⟩ | e | ⟨u, e⟩) <;> cases e

structure LInv (cfg : Cfg) (s0 : State) (s : LState) : Prop where
  reach : Reach cfg s0 s.p
  /-- a running task is held by a thread that is executing it or is about to -/
  holder : ∀ t k, s.p.tasks t = some ⟨k, .running⟩ → ∃ i, s.th i = .exec t ∨ s.th i = .top (some t)
  /-- a pending task is in the `tasks_to_add[]` of a thread that is adding its tasks -/
  owner : ∀ t k, s.p.tasks t = some ⟨k, .pending⟩ → ∃ i, s.th i = .post ∧ t ∈ s.mine i
  /-- for a queued flush task some thread will poll the shared queue again -/
  oblig : ∀ t c, s.p.tasks t = some ⟨.flush c, .queued⟩ → ∃ i, Obliged (s.th i)
  exitFlag : ∀ i, s.th i = .exited → s.p.run = false

/-- the task a thread holds (took from a queue and has not finished) -/
def held : Th → Option Nat
  | .exec t => some t
  | .top (some t) => some t
  | _ => none

theorem held_eq_some {th : Th} {t : Nat} : held th = some t ↔ th = .exec t ∨ th = .top (some t) := by
  constructor
  · intro h
    unfold held at h
    split at h
    · exact Or.inl (by rw [Option.some.inj h])
    · exact Or.inr (by rw [Option.some.inj h])
    · cases h
  · rintro (rfl | rfl) <;> rfl

theorem obliged_of_held {th : Th} {t : Nat} (h : held th = some t) : Obliged th := by
  rcases held_eq_some.mp h with e | e
  · exact Or.inl ⟨t, e⟩
  · exact Or.inr (Or.inr ⟨t, e⟩)

/-- every held task is a running task and is held by one thread only -/
def HeldOK (th : Nat → Th) (tasks : Nat → Option Task) : Prop :=
  ∀ i t, held (th i) = some t → (∃ k, tasks t = some ⟨k, .running⟩) ∧ ∀ j, held (th j) = some t → j = i

structure LHeld (cfg : Cfg) (s : LState) : Prop where
  ok : HeldOK s.th s.p.tasks
  /-- the old loop `while (global_run_flag)` is admitted only without a continuous source (hypothesis `hloop` of the end
  results); with one it loses a task: `old_loop_loses_flush_task` -/
  nocont : cfg.loopFixed = false → NoCont s.p

/-- What a label of `lstep` does, by what the invariants need to know of it: a step of the protocol with the thread that makes it
and what that thread holds before and after, a move of the thread alone (`move`, `exitHeld`), or the run flag cleared when
`done.length = N` (`setFlag`: the pool was read earlier, so this is no `step`). -/
inductive LStep (cfg : Cfg) (s : LState) : LState → Prop
  /-- protocol steps that leave the thread states alone and add at most queued, non-flush tasks -/
  | create (l : Label) (p' : State) (hl : IsCreate l)
      (hp : step cfg s.p l = some p') : LStep cfg s { s with p := p' }
  /-- a thread moves on and keeps what it holds; it leaves `post` only after a poll that found no flush task -/
  | move (i : Nat) (v : Th) (hv : held v = held (s.th i))
      (hpost : s.th i = .post → s.mine i = [] ∧ flushAvailable cfg s.p = false)
      (hex : v = .exited → s.p.run = false) : LStep cfg s { s with th := upd s.th i v }
  | setFlag (i : Nat) (hth : s.th i = .check2) (hd : s.p.done.length = cfg.N) :
      LStep cfg s { s with p := { s.p with run := false }, th := upd s.th i (.top none) }
  /-- `while (global_run_flag)`: the thread leaves although it holds a task -/
  | exitHeld (i t : Nat) (hth : s.th i = .top (some t)) (hf : cfg.loopFixed = false) (hr : s.p.run = false) :
      LStep cfg s { s with th := upd s.th i .exited }
  | acquire (i t : Nat) (v : Th) (p' : State) (hp : step cfg s.p (.acquire t) = some p') (hidle : held (s.th i) = none)
      (hmine : s.th i = .post → s.mine i = []) (hv : held v = some t) :
      LStep cfg s { s with p := p', th := upd s.th i v }
  | work (i t : Nat) (l : Label) (fin : Bool) (p' : State) (hth : s.th i = .exec t) (hw : workInfo l = some (t, fin)) (hp : step cfg s.p l = some p') :
      LStep cfg s { s with p := p', th := upd s.th i (if fin then .post else .exec t),
                           mine := upd s.mine i (s.mine i ++
                             (List.range cfg.taskCap).filter (fun u => isPending p' u && !isPending s.p u)) }
  | enq (i t : Nat) (p' : State) (hth : s.th i = .post) (hp : step cfg s.p (.enqueue t) = some p') :
      LStep cfg s { s with p := p', mine := upd s.mine i ((s.mine i).erase t) }

theorem LStep.reach {cfg : Cfg} {s0 : State} {s s' : LState} (hN : weight cfg (fun _ => 1) s0 = cfg.N)
    (hr : Reach cfg s0 s.p) (h : LStep cfg s s') : Reach cfg s0 s'.p := by
  cases h with
  | move | exitHeld => exact hr
  | setFlag _ _ hd =>
    exact ⟨inv_congr hr.inv rfl, fun w => by rw [← hr.wt w]; exact weight_congr w rfl, fun _ => by rw [hN]; exact hd⟩
  | create l p' _ hp => exact reach_step l hN hr hp
  | acquire _ _ _ p' hp => exact reach_step _ hN hr hp
  | work _ _ l _ p' _ _ hp => exact reach_step l hN hr hp
  | enq _ _ p' _ hp => exact reach_step _ hN hr hp

theorem LStep.poll {cfg : Cfg} {s : LState} {i : Nat} {got : Option Nat} {p' : State} {v : Th}
    (hp : poll cfg s.p got = some p') (hidle : held (s.th i) = none) (hmine : s.th i = .post → s.mine i = [])
    (hv : held v = got) (hne : v ≠ .exited) : LStep cfg s { s with p := p', th := upd s.th i v } := by
  cases got with
  | none =>
    dsimp only [Photon.poll] at hp
    obtain ⟨hf, ⟨⟩⟩ := Option.ite_none_left_eq_some.mp hp
    exact .move i v (hv.trans hidle.symm) (fun e => ⟨hmine e, by simpa using hf⟩) (fun e => absurd e hne)
  | some t => exact .acquire i t v p' hp hidle hmine hv

theorem lstep_topExit {cfg : Cfg} {s s' : LState} {i : Nat} (h : lstep cfg s (.topExit i) = some s') :
    s' = { s with th := upd s.th i .exited } ∧ s.p.run = false ∧
      (s.th i = .top none ∨ ∃ t, s.th i = .top (some t) ∧ cfg.loopFixed = false) := by
  dsimp only [lstep] at h
  split at h
  · rename_i hth
    obtain ⟨hr, ⟨⟩⟩ := Option.ite_none_left_eq_some.mp h
    exact ⟨rfl, by simpa using hr, Or.inl hth⟩
  · rename_i t hth
    obtain ⟨hc, ⟨⟩⟩ := Option.ite_none_left_eq_some.mp h
    simp only [Bool.or_eq_true, not_or, Bool.not_eq_true] at hc
    exact ⟨rfl, hc.2, Or.inr ⟨t, hth, hc.1⟩⟩
  · cases h

theorem lstep_sound {cfg : Cfg} {s s' : LState} {l : LLabel} (h : lstep cfg s l = some s') : LStep cfg s s' := by
  cases l <;> dsimp only [lstep] at h
  case main l =>
    split at h
    · rename_i a b
      split at h
      · rename_i p' hp; cases h
        exact .create (.launchBatch a b) p' trivial hp
      · cases h
    · rename_i a
      split at h
      · rename_i p' hp; cases h
        exact .create (.launchCont a) p' trivial hp
      · cases h
    · cases h
  case startPoll i got =>
    split at h
    · rename_i hth
      split at h
      · rename_i p' hp; cases h
        exact .poll hp (hth ▸ rfl) (hth ▸ nofun) (by cases got <;> rfl) nofun
      · cases h
    · cases h
  case topExit i =>
    obtain ⟨rfl, hr, hth | ⟨t, hth, hf⟩⟩ := lstep_topExit h
    · exact .move i _ (hth ▸ rfl) (hth ▸ nofun) (fun _ => hr)
    · exact .exitHeld i t hth hf hr
  case topGo i =>
    split at h
    · rename_i t hth
      obtain ⟨-, rfl⟩ := ite_some h
      exact .move i _ (hth ▸ rfl) (hth ▸ nofun) nofun
    · cases h
  case topPoll i got =>
    split at h
    · rename_i hth
      obtain ⟨-, h⟩ := Option.ite_none_right_eq_some.mp h
      split at h
      · rename_i p' hp; cases h
        exact .poll hp (hth ▸ rfl) (hth ▸ nofun) (by cases got <;> rfl) (by cases got <;> nofun)
      · cases h
    · cases h
  case prem i g t' =>
    split at h
    · obtain ⟨-, h⟩ := Option.ite_none_right_eq_some.mp h
      split at h
      · rename_i p' hp; cases h
        exact .create (.premature g t') p' trivial hp
      · cases h
    · cases h
  case work i l =>
    split at h
    · rename_i t t0 fin hth hw
      obtain ⟨htt, h⟩ := Option.ite_none_right_eq_some.mp h
      split at h
      · rename_i p' hp; cases h
        -- only thread i changes: `if fin then upd s.th i .post else s.th` as an update of thread i
        have hup : (if fin = true then upd s.th i Th.post else s.th) = upd s.th i (if fin then .post else .exec t) := by
          cases fin with
          | true => rfl
          | false => exact (upd_eq_self hth).symm
        rw [hup]
        exact .work i t l fin p' hth (htt ▸ hw) hp
      · cases h
    · cases h
  case enq i t =>
    split at h
    · rename_i hth
      obtain ⟨-, h⟩ := Option.ite_none_right_eq_some.mp h
      split at h
      · rename_i p' hp; cases h
        exact .enq i t p' hth hp
      · cases h
    · cases h
  case innerPoll i got =>
    split at h
    · rename_i hth
      obtain ⟨hm, h⟩ := Option.ite_none_right_eq_some.mp h
      split at h
      · rename_i p' hp; cases h
        exact .poll hp (hth ▸ rfl) (fun _ => List.isEmpty_iff.mp hm) (by cases got <;> rfl) (by cases got <;> nofun)
      · cases h
    · cases h
  case checkEmpty i =>
    split at h
    · rename_i hth
      obtain ⟨-, rfl⟩ := ite_some h
      exact .move i _ (hth ▸ rfl) (hth ▸ nofun) nofun
    · cases h
  case checkYes i =>
    split at h
    · rename_i hth
      obtain ⟨hd, rfl⟩ := ite_some h
      exact .setFlag i hth hd
    · cases h
  case checkNo i got =>
    split at h
    · rename_i hth
      obtain ⟨-, h⟩ := Option.ite_none_left_eq_some.mp h
      split at h
      · rename_i p' hp; cases h
        exact .poll hp (hth ▸ rfl) (hth ▸ nofun) (by cases got <;> rfl) nofun
      · cases h
    · rename_i hth
      obtain ⟨-, h⟩ := Option.ite_none_left_eq_some.mp h
      split at h
      · rename_i p' hp; cases h
        exact .poll hp (hth ▸ rfl) (hth ▸ nofun) (by cases got <;> rfl) nofun
      · cases h
    · cases h

/-- thread `i` goes to `v` while the task table changes.  `hkeep`: what the other threads hold is still running; `hv`: what `v` holds
is running and held by no other thread -/
theorem heldOK_setThread {th : Nat → Th} {tasks tasks' : Nat → Option Task} {i : Nat} {v : Th} (ho : HeldOK th tasks)
    (hkeep : ∀ j u, j ≠ i → held (th j) = some u → ∃ k, tasks' u = some ⟨k, .running⟩)
    (hv : ∀ t, held v = some t → (∃ k, tasks' t = some ⟨k, .running⟩) ∧ ∀ j, j ≠ i → held (th j) ≠ some t) :
    HeldOK (upd th i v) tasks' := by
  intro j u hj
  by_cases e : j = i
  · subst e
    rw [upd_same] at hj
    refine ⟨(hv u hj).1, fun j' hj' => ?_⟩
    by_contra e'
    rw [upd_other _ _ _ e'] at hj'
    exact (hv u hj).2 j' e' hj'
  · rw [upd_other _ _ _ e] at hj
    refine ⟨hkeep j u e hj, fun j' hj' => ?_⟩
    by_cases e' : j' = i
    · subst e'
      rw [upd_same] at hj'
      exact absurd hj ((hv u hj').2 j e)
    · rw [upd_other _ _ _ e'] at hj'
      exact (ho j u hj).2 j' hj'

theorem heldOK_noNew {th : Nat → Th} {tasks : Nat → Option Task} {i : Nat} {v : Th} (ho : HeldOK th tasks)
    (hv : ∀ t, held v = some t → held (th i) = some t) : HeldOK (upd th i v) tasks :=
  heldOK_setThread ho (fun j u _ hj => (ho j u hj).1)
    (fun t ht => ⟨(ho i t (hv t ht)).1, fun j hj hjt => hj ((ho i t (hv t ht)).2 j hjt)⟩)

theorem heldOK_mono {th : Nat → Th} {tasks tasks' : Nat → Option Task} (ho : HeldOK th tasks)
    (hkeep : ∀ u k, tasks u = some ⟨k, .running⟩ → ∃ k', tasks' u = some ⟨k', .running⟩) : HeldOK th tasks' :=
  fun j u hj => ⟨(ho j u hj).1.elim (hkeep u), (ho j u hj).2⟩

theorem run_stays_false {cfg : Cfg} {s s' : State} (l : Label) (h : step cfg s l = some s') (hr : s.run = false) :
    s'.run = false := by
  rcases (step_done_run l h).2 with e | ⟨e, _, _⟩
  · rw [e]; exact hr
  · exact e

theorem holder_upd {th : Nat → Th} {i u : Nat} {v : Th} (h : ∃ j, th j = .exec u ∨ th j = .top (some u))
    (hv : held (th i) = some u → held v = some u) : ∃ j, upd th i v j = .exec u ∨ upd th i v j = .top (some u) :=
  exists_upd (fun _ x => x = Th.exec u ∨ x = Th.top (some u)) h fun hi => held_eq_some.mp (hv (held_eq_some.mpr hi))

theorem owner_upd {th : Nat → Th} {mine : Nat → List Nat} {i u : Nat} {v : Th} (h : ∃ j, th j = .post ∧ u ∈ mine j)
    (hi : th i = .post → mine i = []) : ∃ j, upd th i v j = .post ∧ u ∈ mine j :=
  exists_upd (fun j x => x = Th.post ∧ u ∈ mine j) h fun ⟨h1, h2⟩ => by rw [hi h1] at h2; cases h2

theorem owner_mine {th : Nat → Th} {mine : Nat → List Nat} {i u : Nat} {m : List Nat} (h : ∃ j, th j = .post ∧ u ∈ mine j)
    (hm : u ∈ mine i → u ∈ m) : ∃ j, th j = .post ∧ u ∈ upd mine i m j :=
  exists_upd (fun j x => th j = .post ∧ u ∈ x) h fun ⟨h1, h2⟩ => ⟨h1, hm h2⟩

theorem exited_upd {th : Nat → Th} {i : Nat} {v : Th} {P : Prop} (h : ∀ j, th j = .exited → P) (hv : v = .exited → P) :
    ∀ j, upd th i v j = .exited → P := by
  intro j hj
  by_cases e : j = i
  · subst e; rw [upd_same] at hj; exact hv hj
  · rw [upd_other _ _ _ e] at hj; exact h j hj

theorem linv_move {cfg : Cfg} {s0 : State} {s : LState} {i : Nat} {v : Th} {p' : State} (hi : LInv cfg s0 s)
    (hv : held v = held (s.th i)) (hpost : s.th i = .post → s.mine i = [] ∧ flushAvailable cfg s.p = false)
    (hr : Reach cfg s0 p') (ht : p'.tasks = s.p.tasks)
    (hrun : s.p.run = false → p'.run = false) (hex : v = .exited → p'.run = false) :
    LInv cfg s0 { s with p := p', th := upd s.th i v } := by
  have hkeep : ∀ u, held (s.th i) = some u → held v = some u := fun u e => hv.trans e
  refine ⟨hr, ?_, ?_, ?_, exited_upd (fun j hj => hrun (hi.exitFlag j hj)) hex⟩
  all_goals dsimp only
  · intro t k htk
    rw [ht] at htk
    exact holder_upd (hi.holder t k htk) (hkeep t)
  · intro t k htk
    rw [ht] at htk
    exact owner_upd (hi.owner t k htk) (fun e => (hpost e).1)
  · intro t c htk
    rw [ht] at htk
    obtain ⟨j, hj⟩ := hi.oblig t c htk
    by_cases e : j = i
    swap
    · exact ⟨j, by rw [upd_other _ _ _ e]; exact hj⟩
    subst e
    rcases hj with ⟨u, hu⟩ | hp | ⟨u, hu⟩
    · exact ⟨j, by rw [upd_same]; exact obliged_of_held (hkeep u (hu ▸ rfl))⟩
    · -- the poll found nothing: the lock of the flush task is held by a running task; its holder will poll again
      have hlk : lockHeld cfg s.p (.block c) = true := by
        have hfa := (hpost hp).2
        simp only [flushAvailable] at hfa
        have := List.any_eq_false.mp hfa t (List.mem_range.mpr (hi.reach.inv.tk t _ htk).1)
        simpa [htk] using this
      obtain ⟨u, k, hu⟩ := lockHeld_running hlk
      obtain ⟨j', hj'⟩ := holder_upd (hi.holder u k hu) (hkeep u)
      exact ⟨j', obliged_of_held (held_eq_some.mpr hj')⟩
    · exact ⟨j, by rw [upd_same]; exact obliged_of_held (hkeep u (hu ▸ rfl))⟩

theorem no_held_task_after_flag {cfg : Cfg} {s0 : State} {s : LState} (hi : LInv cfg s0 s) (ho : LHeld cfg s)
    (hf : cfg.loopFixed = false) (hr : s.p.run = false) {i t : Nat} (h : held (s.th i) = some t) : False := by
  obtain ⟨k, hk⟩ := (ho.ok i t h).1
  -- all packets are terminated, so only flush and continuous source tasks can exist: there are none
  have hs := (ho.nocont hf).2 t
  rw [hk] at hs
  rcases (reach_allDone hi.reach (hi.reach.flag hr)).tasks t _ hk with ⟨c, hc⟩ | ⟨c, n, hc, _⟩
  · cases hc; cases hs
  · cases hc; cases hs

theorem lstep_invs {cfg : Cfg} {s0 : State} {s s' : LState} (l : LLabel) (hN : weight cfg (fun _ => 1) s0 = cfg.N)
    (hi : LInv cfg s0 s) (ho : LHeld cfg s) (h : lstep cfg s l = some s') : LInv cfg s0 s' ∧ LHeld cfg s' := by
  have hs := lstep_sound h
  have hreach := hs.reach hN hi.reach
  cases hs with
  | create l p' hl hp =>
    obtain ⟨t', k, hfree, e, hnf⟩ := create_tasks hp hl
    -- the one new task is queued and not a flush task: running, pending and flush tasks are old
    have hold : ∀ {t tk}, p'.tasks t = some tk → tk ≠ ⟨k, .queued⟩ → s.p.tasks t = some tk :=
      fun ht hne => (of_upd_eq_of_ne (e ▸ ht) fun e' => hne (Option.some.inj e')).2
    exact ⟨⟨hreach, fun t k ht => hi.holder t k (hold ht nofun),
      fun t k ht => hi.owner t k (hold ht nofun),
      fun t c ht => hi.oblig t c (hold ht fun e' => hnf c (congrArg Task.kind e').symm),
      fun j hj => run_stays_false l hp (hi.exitFlag j hj)⟩,
      heldOK_mono ho.ok fun u k hk => ⟨k, by rw [e]; exact upd_keep hk (hfree ▸ nofun) _⟩, fun hf => noCont_step l hp (ho.nocont hf)⟩
  | move i v hv hpost hex =>
    exact ⟨linv_move hi hv hpost hreach rfl id hex, heldOK_noNew ho.ok (fun t e => hv ▸ e), ho.nocont⟩
  | setFlag i hth hd =>
    exact ⟨linv_move hi (hth ▸ rfl) (hth ▸ nofun) hreach rfl (fun _ => rfl) (fun _ => rfl), heldOK_noNew ho.ok nofun, ho.nocont⟩
  | exitHeld i t hth hf hr => exact (no_held_task_after_flag hi ho hf hr (by rw [hth]; rfl)).elim
  | acquire i t v p' hp hidle hmine hv =>
    have hnc := fun hf => noCont_step _ hp (ho.nocont hf)
    obtain ⟨k, hk, _, rfl⟩ := step_acquire hp
    refine ⟨⟨hreach, ?_, ?_, ?_,
      exited_upd hi.exitFlag (fun e => by rw [e] at hv; cases hv)⟩, ?_, hnc⟩
    all_goals dsimp only
    · intro u k' hu
      by_cases e : u = t
      · subst e; exact ⟨i, by rw [upd_same]; exact held_eq_some.mp hv⟩
      · rw [upd_other _ _ _ e] at hu
        exact holder_upd (hi.holder u k' hu) (hidle ▸ nofun)
    · intro u k' hu
      exact owner_upd (hi.owner u k' (of_upd_eq_of_ne hu nofun).2) hmine
    · intro u c hu
      exact ⟨i, by rw [upd_same]; exact obliged_of_held hv⟩
    · -- the task was queued, so nobody held it
      have hnot : ∀ j, held (s.th j) ≠ some t := by
        intro j hj
        obtain ⟨k', hk'⟩ := (ho.ok j t hj).1
        rw [hk] at hk'; cases hk'
      apply heldOK_setThread ho.ok
      · intro j u _ hj
        obtain ⟨k', hk'⟩ := (ho.ok j u hj).1
        exact ⟨k', upd_keep hk' (hk ▸ nofun) _⟩
      · intro t' ht'
        rw [hv] at ht'; injection ht' with ht'; subst ht'
        exact ⟨⟨k, upd_same _ _ _⟩, fun j _ => hnot j⟩
  | work i t l fin p' hth hw hp =>
    obtain ⟨hfin, hnfin, hdelta⟩ := commit_tasks hp hw
    have hi' : held (s.th i) = some t := hth ▸ rfl
    refine ⟨⟨hreach, ?_, ?_, ?_, exited_upd (fun j hj => run_stays_false l hp (hi.exitFlag j hj))
      (by cases fin <;> nofun)⟩, ?_, fun hf => noCont_step l hp (ho.nocont hf)⟩
    all_goals dsimp only
    · intro u k hu
      by_cases e : u = t
      · subst e
        cases fin with
        | true => rw [hfin rfl] at hu; cases hu
        | false => exact ⟨i, Or.inl (upd_same _ _ _)⟩
      · cases hdelta u e with
        | same hs =>
          rw [hs] at hu
          exact holder_upd (hi.holder u k hu) (fun e' => by rw [hth] at e'; exact absurd (Option.some.inj e').symm e)
        | new h0 k' st h1 hst => rw [h1] at hu; cases hu; exact absurd rfl hst
    · intro u k hu
      have e : u ≠ t := by
        rintro rfl
        cases fin with
        | true => rw [hfin rfl] at hu; cases hu
        | false => obtain ⟨k2, hk2⟩ := hnfin rfl; rw [hk2] at hu; cases hu
      cases hdelta u e with
      | same hs =>
        -- was pending before: same owner (not thread i, which was executing)
        rw [hs] at hu
        exact owner_upd (owner_mine (hi.owner u k hu) (List.mem_append_left _)) (hth ▸ nofun)
      | new h0 k' st h1 hst hp' =>
        -- created by this commit, which therefore ends the task
        rw [h1] at hu; cases hu
        obtain rfl := hp' rfl
        refine ⟨i, upd_same _ _ _, ?_⟩
        rw [upd_same]
        apply List.mem_append_right
        rw [List.mem_filter]
        exact ⟨List.mem_range.mpr (hreach.inv.tk u _ h1).1, by simp only [isPending, h1, h0]; rfl⟩
    · intro u c hu
      -- the committing thread itself is obliged (it executes, or adds its tasks and polls)
      refine ⟨i, ?_⟩
      rw [upd_same]
      cases fin with
      | true => exact Or.inr (Or.inl rfl)
      | false => exact Or.inl ⟨t, rfl⟩
    · apply heldOK_setThread ho.ok
      · intro j u hj hju
        have hne : u ≠ t := by rintro rfl; exact hj ((ho.ok i u hi').2 j hju)
        obtain ⟨k, hk⟩ := (ho.ok j u hju).1
        cases hdelta u hne with
        | same hs => exact ⟨k, hs.trans hk⟩
        | new h0 => rw [hk] at h0; cases h0
      · intro t' ht'
        cases fin with
        | true => cases ht'
        | false =>
          obtain rfl : t = t' := Option.some.inj ht'
          exact ⟨hnfin rfl, fun j hj hjt => hj ((ho.ok i t hi').2 j hjt)⟩
  | enq i t p' hth hp =>
    have hnc := fun hf => noCont_step _ hp (ho.nocont hf)
    obtain ⟨k, hk, rfl⟩ := step_enqueue hp
    refine ⟨⟨hreach, ?_, ?_, ?_, hi.exitFlag⟩,
      heldOK_mono ho.ok fun u k' hk' => ⟨k', upd_keep hk' (hk ▸ nofun) _⟩, hnc⟩
    all_goals dsimp only
    · intro u k' hu
      exact hi.holder u k' (of_upd_eq_of_ne hu nofun).2
    · intro u k' hu
      obtain ⟨e, hu⟩ := of_upd_eq_of_ne hu nofun
      exact owner_mine (hi.owner u k' hu) (List.mem_erase_of_ne e).mpr
    · intro u c hu
      by_cases e : u = t
      · exact ⟨i, Or.inr (Or.inl hth)⟩
      · rw [upd_other _ _ _ e] at hu
        exact hi.oblig u c hu

theorem lrun_inv {cfg : Cfg} {s0 : State} (hN : weight cfg (fun _ => 1) s0 = cfg.N) :
    ∀ (ls : List LLabel) (s s' : LState), LInv cfg s0 s → LHeld cfg s → lrun cfg s ls = some s' → LInv cfg s0 s' ∧ LHeld cfg s' := by
  intro ls
  induction ls with
  | nil => intro s s' hi ho h; cases h; exact ⟨hi, ho⟩
  | cons l ls ih =>
    intro s s' hi ho h
    simp only [lrun] at h
    split at h
    · cases h
    · rename_i s1 hs1
      obtain ⟨hi1, ho1⟩ := lstep_invs l hN hi ho hs1
      exact ih s1 s' hi1 ho1 h

theorem linit_inv (cfg : Cfg) (srcIds : Nat → List Nat) (contIds : List Nat) :
    LInv cfg (init srcIds contIds) (linit srcIds contIds) := by
  refine ⟨reach_init cfg srcIds contIds, ?_, ?_, ?_, nofun⟩
  · intro t k h; cases h
  · intro t k h; cases h
  · intro t c h; cases h

theorem linit_held (cfg : Cfg) (srcIds : Nat → List Nat) (contIds : List Nat) (hloop : cfg.loopFixed = true ∨ contIds = []) :
    LHeld cfg (linit srcIds contIds) := by
  refine ⟨nofun, ?_⟩
  intro hf
  rcases hloop with e | e
  · rw [e] at hf; cases hf
  · subst e; exact noCont_init srcIds

end CMacVerif.Photon
