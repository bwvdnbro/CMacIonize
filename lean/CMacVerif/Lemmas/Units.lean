import CMacVerif.Model.Units
import Mathlib.Tactic.NormNum
import Mathlib.Tactic.FieldSimp
import Mathlib.Tactic.Ring
import Mathlib.Data.Rat.Defs
import Mathlib.Algebra.Order.Field.Basic
/-!
The unit algebra of C20 over `ℚ` (exact arithmetic on the exact values of the table's doubles):
`operator^=` computes the integer power (`powValue_zpow`), the grammar of `get_unit` is
multiplicative (`getUnitToks_append`), and `to_SI`, `to_unit`, `try_conversion` as equations once
the units are known (`toSI_eq`, `toUnit_eq`, `tryConversion_eq`).
-/
namespace CMacVerif.Units
open CMacVerif.Gen.Units

theorem lit_one : (1.0 : ℚ) = 1 := by norm_num

namespace Unit

theorem ext' {a b : Unit ℚ} (h0 : a.value = b.value) (h1 : a.length = b.length)
    (h2 : a.time = b.time) (h3 : a.mass = b.mass) (h4 : a.temperature = b.temperature)
    (h5 : a.current = b.current) (h6 : a.angle = b.angle) : a = b := by
  cases a; cases b; congr

instance : DecidableEq (Unit ℚ) := fun a b =>
  decidable_of_iff (a.value = b.value ∧ a.length = b.length ∧ a.time = b.time ∧ a.mass = b.mass ∧
      a.temperature = b.temperature ∧ a.current = b.current ∧ a.angle = b.angle)
    ⟨fun ⟨h0, h1, h2, h3, h4, h5, h6⟩ => ext' h0 h1 h2 h3 h4 h5 h6,
     fun h => h ▸ ⟨rfl, rfl, rfl, rfl, rfl, rfl, rfl⟩⟩

theorem mulLoop_eq (v : ℚ) (n : ℕ) (acc : ℚ) : mulLoop v n acc = acc * v ^ n := by
  induction n generalizing acc with
  | zero => simp [mulLoop]
  | succ n ih => rw [mulLoop, ih, pow_succ]; ring

theorem divLoop_eq (v : ℚ) (n : ℕ) (acc : ℚ) : divLoop v n acc = acc / v ^ n := by
  induction n generalizing acc with
  | zero => simp [divLoop]
  | succ n ih => rw [divLoop, ih, pow_succ, div_div, mul_comm]

theorem powValue_zero (v : ℚ) : powValue v 0 = 1 := by
  simp [powValue, lit_one]

theorem powValue_succ (v : ℚ) (n : ℕ) : powValue v ((n + 1 : ℕ) : ℤ) = v ^ (n + 1) := by
  rw [powValue, if_neg (Int.natCast_ne_zero.2 n.succ_ne_zero), if_pos (Int.natCast_pos.2 n.succ_pos),
    mulLoop_eq, Int.toNat_natCast, Nat.add_sub_cancel, pow_succ']

theorem powValue_negSucc (v : ℚ) (n : ℕ) : powValue v (Int.negSucc n) = 1 / v ^ (n + 1) := by
  rw [powValue, if_neg (Int.negSucc_ne_zero n), if_neg (Int.not_lt.2 (Int.le_of_lt (Int.negSucc_lt_zero n))),
    divLoop_eq, Int.neg_negSucc, Int.toNat_natCast, lit_one]

theorem powValue_zpow (v : ℚ) (p : ℤ) : powValue v p = v ^ p := by
  cases p with
  | ofNat n =>
    cases n with
    | zero => exact (powValue_zero v).trans (zpow_zero v).symm
    | succ n => exact (powValue_succ v n).trans (zpow_natCast v (n + 1)).symm
  | negSucc n => rw [powValue_negSucc, zpow_negSucc, one_div]

theorem mul_assoc' (a b c : Unit ℚ) : (a.mul b).mul c = a.mul (b.mul c) := by
  simp only [mul, mul_assoc, add_assoc]

end Unit

theorem mulToks_cons (u : Unit ℚ) (t : Tok) (ts : List Tok) :
    mulToks u (t :: ts) = (evalTok t).bind fun u2 => mulToks (u.mul u2) ts := by
  rw [mulToks]; cases evalTok (α := ℚ) t <;> rfl

theorem getUnitToks_cons (t : Tok) (ts : List Tok) :
    getUnitToks (α := ℚ) (t :: ts) = (evalTok t).bind (mulToks · ts) := by
  rw [getUnitToks]; cases evalTok (α := ℚ) t <;> rfl

/-- folding further tokens onto `a * b` = `a *` (folding them onto `b`) — exact arithmetic only -/
theorem mulToks_mul (a b : Unit ℚ) (ts : List Tok) :
    mulToks (a.mul b) ts = (mulToks b ts).map (fun u => a.mul u) := by
  induction ts generalizing b with
  | nil => rfl
  | cons t ts ih => simp only [mulToks_cons, Unit.mul_assoc', ih, Option.map_bind, Function.comp_def]

theorem mulToks_append (u : Unit ℚ) (ts1 ts2 : List Tok) :
    mulToks u (ts1 ++ ts2) = (mulToks u ts1).bind (fun u' => mulToks u' ts2) := by
  induction ts1 generalizing u with
  | nil => rfl
  | cons t ts ih => simp only [List.cons_append, mulToks_cons, ih, Option.bind_assoc]

theorem mulToks_eq (u : Unit ℚ) {ts : List Tok} (h : ts ≠ []) :
    mulToks u ts = (getUnitToks ts).map (u.mul ·) := by
  obtain ⟨t, ts, rfl⟩ := List.exists_cons_of_ne_nil h
  simp only [getUnitToks_cons, mulToks_cons, mulToks_mul, Option.map_bind, Function.comp_def]

theorem getUnitToks_append {ts1 ts2 : List Tok} (h1 : ts1 ≠ []) (h2 : ts2 ≠ []) :
    getUnitToks (α := ℚ) (ts1 ++ ts2) =
      (getUnitToks ts1).bind fun u1 => (getUnitToks ts2).map (u1.mul ·) := by
  obtain ⟨t, ts, rfl⟩ := List.exists_cons_of_ne_nil h1
  simp only [List.cons_append, getUnitToks_cons, mulToks_append, Option.bind_assoc, mulToks_eq _ h2]

theorem nth?_eq_getElem? {β : Type} (l : List β) (i : ℕ) : nth? l i = l[i]? := by
  induction l generalizing i with
  | nil => rfl
  | cons a l ih => cases i with
    | zero => rfl
    | succ i => exact ih i

/-! ### the SI units used by `try_conversion` -/

abbrev siEnergy : Unit ℚ := ⟨1, 2, -2, 1, 0, 0, 0⟩
abbrev siFrequency : Unit ℚ := ⟨1, 0, -1, 0, 0, 0, 0⟩
abbrev siLength : Unit ℚ := ⟨1, 1, 0, 0, 0, 0, 0⟩

theorem si_freq : (getSIUnit qFrequency : Option (Unit ℚ)) = some siFrequency := by
  decide +kernel

theorem si_energy : (getSIUnit qEnergy : Option (Unit ℚ)) = some siEnergy := by
  decide +kernel

theorem si_length : (getSIUnit qLength : Option (Unit ℚ)) = some siLength := by
  decide +kernel

theorem toSI_eq {q : ℕ} {s : Str} {si u : Unit ℚ} (h1 : getSIUnit q = some si)
    (h2 : getUnit s = some u) (v : ℚ) :
    toSI q v s = if si.sameQuantity u then some (v * u.value) else tryConversion v u si := by
  rw [toSI, h1, h2]
  dsimp only
  cases si.sameQuantity u <;> rfl

theorem toUnit_eq {q : ℕ} {s : Str} {si u : Unit ℚ} (h1 : getSIUnit q = some si)
    (h2 : getUnit s = some u) (v : ℚ) :
    toUnit q v s = if si.sameQuantity u then some (v / u.value) else tryConversion v si u := by
  rw [toUnit, h1, h2]
  dsimp only
  cases si.sameQuantity u <;> rfl

/-- `try_conversion` with the SI units of its rows put in (arithmetic as in the C++) -/
theorem tryConversion_eq (v : ℚ) (u w : Unit ℚ) :
    tryConversion v u w =
      if u.sameQuantity siEnergy && w.sameQuantity siFrequency then
        some (v * (1.0 * u.value) * (1.0 / OfDbl.ofDbl planck) / (1.0 * w.value))
      else if u.sameQuantity siFrequency && w.sameQuantity siEnergy then
        some (v * (1.0 * u.value) / (1.0 / OfDbl.ofDbl planck) / (1.0 * w.value))
      else if u.sameQuantity siLength && w.sameQuantity siFrequency then
        some (1.0 / (v * (1.0 * u.value)) * OfDbl.ofDbl lightspeed / (1.0 * w.value))
      else if u.sameQuantity siFrequency && w.sameQuantity siLength then
        some (1.0 / (v * (1.0 * u.value) / OfDbl.ofDbl lightspeed) / (1.0 * w.value))
      else none := by
  rw [tryConversion, crossTable, tryConversion.go, tryConversion.go, tryRow, tryRow, si_energy, si_freq,
    si_length]
  dsimp only
  cases u.sameQuantity siEnergy && w.sameQuantity siFrequency
  · cases u.sameQuantity siFrequency && w.sameQuantity siEnergy
    · cases u.sameQuantity siLength && w.sameQuantity siFrequency
      · cases u.sameQuantity siFrequency && w.sameQuantity siLength <;> rfl
      · rfl
    · rfl
  · rfl

theorem toSI_toUnit_frequency_of {s : Str} {u : Unit ℚ} {v a : ℚ} (h2 : getUnit s = some u)
    (hq : siFrequency.sameQuantity u = false) (hto : tryConversion v u siFrequency = some a)
    (hback : tryConversion a siFrequency u = some v) :
    (toSI qFrequency v s).bind (fun y => toUnit qFrequency y s) = some v := by
  rw [toSI_eq si_freq h2, hq, if_neg Bool.false_ne_true, hto, Option.bind_some,
    toUnit_eq si_freq h2, hq, if_neg Bool.false_ne_true, hback]

end CMacVerif.Units
