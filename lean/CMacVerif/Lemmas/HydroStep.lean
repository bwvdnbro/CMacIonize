import CMacVerif.Model.HydroStep
import CMacVerif.Lemmas.HydroSweeps
import CMacVerif.Lemmas.HydroUpdate
import Mathlib.Data.List.Perm.Basic
import Mathlib.Tactic.Ring
import Mathlib.Tactic.Linarith
import Mathlib.Data.Real.Basic
/-! Lemmas about the grid-level hydro step: calls of an accumulating sweep commute (C10), sums over
all cells (C04). -/
namespace CMacVerif.HydroStep
open CMacVerif CMacVerif.HydroGraph CMacVerif.HydroSweeps CMacVerif.HydroUpdate CMacVerif.RiemannVacuum

variable {σ κ ρ : Type}

/-! ### a call as a list of single-cell updates: two calls commute when their updates do -/

/-- one write access: replace the state of cell `a.1` by `a.2` of its current state -/
abbrev Atom (σ : Type) := Cell × (σ → σ)

def applyAtom (s : Grid σ) (a : Atom σ) : Grid σ := gupd s a.1 (a.2 (s a.1))

theorem applyAtom_comm (s : Grid σ) (a b : Atom σ) (h : ∀ v, a.2 (b.2 v) = b.2 (a.2 v)) :
    applyAtom (applyAtom s a) b = applyAtom (applyAtom s b) a := by
  funext z
  obtain ⟨x, u⟩ := a
  obtain ⟨y, v⟩ := b
  simp only [applyAtom, gupd] at h ⊢
  by_cases hxy : x = y
  · -- the same cell: the two updates commute by `h`
    subst hxy
    by_cases hz : z = x
    · simp [hz, h]
    · simp [hz]
  · -- different cells: each write sees the other cell unchanged
    have hyx : ¬ y = x := fun e => hxy e.symm
    by_cases hzx : z = x
    · subst hzx; simp [hxy]
    · by_cases hzy : z = y
      · subst hzy; simp [hyx]
      · simp [hzx, hzy]

/-- the contribution of a call, computed from the current grid -/
def kOf (P : Phys σ κ) (s : Grid σ) : Op → κ
  | .pair ax l r => P.contrib ax (s l) (s r)
  | .ghost ax up x => P.ghostContrib ax up (s x)

/-- the write accesses of a call once its contribution is known -/
def atoms (P : Phys σ κ) : Op → κ → List (Atom σ)
  | .pair ax l r, k => [(l, fun h => P.addLeft ax h k), (r, fun h => P.addRight ax h k)]
  | .ghost ax _ x, k => [(x, fun h => P.addLeft ax h k)]

theorem applyOp_eq (P : Phys σ κ) (s : Grid σ) (op : Op) :
    applyOp P s op = (atoms P op (kOf P s op)).foldl applyAtom s := by
  cases op <;> rfl

/-- A sweep is *accumulating* when its contributions only depend on a part `ro` of the cell state
that no call of the sweep changes, and its updates commute with each other (sums, minima,
maxima).  `ro` need not be a projection: the two instances take `ρ := σ` and overwrite the fields the
sweep writes by 0, so that `contrib_ro` is a `congrArg` and `ro_left`, `ro_right` are `rfl`. -/
structure Accum (P : Phys σ κ) (ρ : Type) where
  ro : σ → ρ
  contrib_ro : ∀ ax a b a' b', ro a = ro a' → ro b = ro b' → P.contrib ax a b = P.contrib ax a' b'
  ghost_ro : ∀ ax up a a', ro a = ro a' → P.ghostContrib ax up a = P.ghostContrib ax up a'
  ro_left : ∀ ax a k, ro (P.addLeft ax a k) = ro a
  ro_right : ∀ ax a k, ro (P.addRight ax a k) = ro a
  comm_LL : ∀ ax ax' k k' a,
    P.addLeft ax (P.addLeft ax' a k') k = P.addLeft ax' (P.addLeft ax a k) k'
  comm_LR : ∀ ax ax' k k' a,
    P.addLeft ax (P.addRight ax' a k') k = P.addRight ax' (P.addLeft ax a k) k'
  comm_RR : ∀ ax ax' k k' a,
    P.addRight ax (P.addRight ax' a k') k = P.addRight ax' (P.addRight ax a k) k'

/-- the update functions of a sweep -/
def IsAcc (P : Phys σ κ) (u : σ → σ) : Prop :=
  (∃ ax k, u = fun h => P.addLeft ax h k) ∨ (∃ ax k, u = fun h => P.addRight ax h k)

theorem isAcc_comm {P : Phys σ κ} (A : Accum P ρ) {u v : σ → σ} (hu : IsAcc P u) (hv : IsAcc P v)
    (a : σ) : u (v a) = v (u a) := by
  rcases hu with ⟨ax, k, rfl⟩ | ⟨ax, k, rfl⟩ <;> rcases hv with ⟨ax', k', rfl⟩ | ⟨ax', k', rfl⟩
  · exact A.comm_LL ax ax' k k' a
  · exact A.comm_LR ax ax' k k' a
  · exact (A.comm_LR ax' ax k' k a).symm
  · exact A.comm_RR ax ax' k k' a

theorem isAcc_ro {P : Phys σ κ} (A : Accum P ρ) {u : σ → σ} (hu : IsAcc P u) (a : σ) :
    A.ro (u a) = A.ro a := by
  rcases hu with ⟨ax, k, rfl⟩ | ⟨ax, k, rfl⟩
  · exact A.ro_left ax a k
  · exact A.ro_right ax a k

theorem atoms_isAcc (P : Phys σ κ) (op : Op) (k : κ) : ∀ a ∈ atoms P op k, IsAcc P a.2 := by
  cases op with
  | pair ax l r =>
    intro a ha
    simp only [atoms, List.mem_cons, List.not_mem_nil, or_false] at ha
    rcases ha with rfl | rfl
    · exact Or.inl ⟨ax, k, rfl⟩
    · exact Or.inr ⟨ax, k, rfl⟩
  | ghost ax up x =>
    intro a ha
    simp only [atoms, List.mem_cons, List.not_mem_nil, or_false] at ha
    subst ha
    exact Or.inl ⟨ax, k, rfl⟩

/-- the cells a call touches -/
def opCells : Op → List Cell
  | .pair _ l r => [l, r]
  | .ghost _ _ x => [x]

theorem mem_opCells_pair {x : Cell} {ax : Axis} {l r : Cell} :
    x ∈ opCells (.pair ax l r) ↔ x = l ∨ x = r := by
  simp only [opCells, List.mem_cons, List.not_mem_nil, or_false]

theorem mem_opCells_ghost {x : Cell} {ax : Axis} {up : Bool} {c : Cell} :
    x ∈ opCells (.ghost ax up c) ↔ x = c := by
  simp only [opCells, List.mem_cons, List.not_mem_nil, or_false]

theorem applyOp_of_not_mem (P : Phys σ κ) (s : Grid σ) {o : Op} {x : Cell} (h : x ∉ opCells o) :
    applyOp P s o x = s x := by
  cases o with
  | pair ax l r =>
    rw [mem_opCells_pair, not_or] at h
    simp [applyOp, gupd, h.1, h.2]
  | ghost ax up c =>
    rw [mem_opCells_ghost] at h
    simp [applyOp, gupd, h]

theorem applyOp_of_mem (P : Phys σ κ) (s : Grid σ) {o : Op} {x : Cell} (h : x ∈ opCells o) :
    ∃ u v, IsAcc P u ∧ applyOp P s o x = u v := by
  cases o with
  | pair ax l r =>
    simp only [applyOp, gupd]
    by_cases hr : x = r
    · exact ⟨_, _, Or.inr ⟨ax, _, rfl⟩, by rw [if_pos hr]⟩
    · have hl : x = l := (mem_opCells_pair.mp h).resolve_right hr
      exact ⟨_, _, Or.inl ⟨ax, _, rfl⟩, by rw [if_neg hr, if_pos hl]⟩
  | ghost ax up c =>
    exact ⟨_, _, Or.inl ⟨ax, _, rfl⟩, by simp only [applyOp, gupd]; rw [if_pos (mem_opCells_ghost.mp h)]⟩

theorem ro_foldl_atoms {P : Phys σ κ} (A : Accum P ρ) (l : List (Atom σ))
    (hl : ∀ a ∈ l, IsAcc P a.2) (s : Grid σ) (x : Cell) :
    A.ro (l.foldl applyAtom s x) = A.ro (s x) := by
  induction l generalizing s with
  | nil => rfl
  | cons a l ih =>
    rw [List.foldl_cons, ih (fun b hb => hl b (List.mem_cons_of_mem _ hb))]
    simp only [applyAtom, gupd]
    split_ifs with h
    · rw [h]; exact isAcc_ro A (hl a List.mem_cons_self) _
    · rfl

theorem kOf_congr {P : Phys σ κ} (A : Accum P ρ) {s s' : Grid σ}
    (h : ∀ x, A.ro (s x) = A.ro (s' x)) (op : Op) : kOf P s op = kOf P s' op := by
  cases op with
  | pair ax l r => exact A.contrib_ro ax _ _ _ _ (h l) (h r)
  | ghost ax up x => exact A.ghost_ro ax up _ _ (h x)

theorem ro_applyOp {P : Phys σ κ} (A : Accum P ρ) (s : Grid σ) (op : Op) (x : Cell) :
    A.ro (applyOp P s op x) = A.ro (s x) := by
  rw [applyOp_eq]
  exact ro_foldl_atoms A _ (atoms_isAcc P op _) s x

/-- **two calls of an accumulating sweep commute** -/
theorem applyOp_comm {P : Phys σ κ} (A : Accum P ρ) (s : Grid σ) (o o' : Op) :
    applyOp P (applyOp P s o) o' = applyOp P (applyOp P s o') o := by
  have e1 : kOf P (applyOp P s o) o' = kOf P s o' := kOf_congr A (ro_applyOp A s o) o'
  have e2 : kOf P (applyOp P s o') o = kOf P s o := kOf_congr A (ro_applyOp A s o') o
  rw [applyOp_eq P (applyOp P s o) o', applyOp_eq P (applyOp P s o') o, e1, e2, applyOp_eq P s o,
    applyOp_eq P s o', ← List.foldl_append, ← List.foldl_append]
  refine List.Perm.foldl_eq' List.perm_append_comm ?_ s
  intro a ha b hb z
  have hacc := List.forall_mem_append.mpr ⟨atoms_isAcc P o (kOf P s o), atoms_isAcc P o' (kOf P s o')⟩
  exact applyAtom_comm z a b (fun v => isAcc_comm A (hacc a ha) (hacc b hb) v)

/-- **the result of a sweep phase does not depend on the order of its calls** -/
theorem runOps_perm {P : Phys σ κ} (A : Accum P ρ) {ops ops' : List Op} (h : ops.Perm ops')
    (s : Grid σ) : runOps P s ops = runOps P s ops' :=
  List.Perm.foldl_eq' h (fun o _ o' _ z => applyOp_comm A z o o') s

theorem runOps_cons (P : Phys σ κ) (s : Grid σ) (o : Op) (ops : List Op) :
    runOps P s (o :: ops) = runOps P (applyOp P s o) ops := rfl

theorem ro_runOps {P : Phys σ κ} (A : Accum P ρ) (ops : List Op) (s : Grid σ) (x : Cell) :
    A.ro (runOps P s ops x) = A.ro (s x) := by
  induction ops generalizing s with
  | nil => rfl
  | cons o ops ih =>
    rw [runOps_cons, ih, ro_applyOp A]

/-! ### sums over the cells: a write to one cell changes the sum by the difference there -/

/-- sum of a real quantity over a list of cells -/
noncomputable def total (cells : List Cell) (f : Cell → ℝ) : ℝ := (cells.map f).sum

theorem total_congr {cells : List Cell} {f g : Cell → ℝ} (h : ∀ x ∈ cells, f x = g x) :
    total cells f = total cells g := by
  unfold total; rw [List.map_congr_left h]

theorem total_add (cells : List Cell) (f g : Cell → ℝ) :
    total cells (fun x => f x + g x) = total cells f + total cells g :=
  List.sum_map_add

theorem total_mul (cells : List Cell) (f : Cell → ℝ) (c : ℝ) :
    total cells (fun x => f x * c) = total cells f * c :=
  List.sum_map_mul_right ..

theorem total_gupd {cells : List Cell} (hn : cells.Nodup) {x : Cell} (hx : x ∈ cells)
    (φ : σ → ℝ) (s : Grid σ) (v : σ) :
    total cells (fun y => φ (gupd s x v y)) = total cells (fun y => φ (s y)) + (φ v - φ (s x)) := by
  unfold total
  induction cells with
  | nil => simp at hx
  | cons a l ih =>
    rw [List.nodup_cons] at hn
    simp only [List.map_cons, List.sum_cons]
    rcases List.mem_cons.mp hx with rfl | hx'
    · have : ∀ y ∈ l, φ (gupd s x v y) = φ (s y) := by
        intro y hy
        have : y ≠ x := fun e => hn.1 (e ▸ hy)
        simp [gupd, this]
      rw [List.map_congr_left this]
      simp only [gupd, if_true]
      ring
    · have hax : a ≠ x := fun e => hn.1 (e ▸ hx')
      rw [ih hn.2 hx']
      simp only [gupd, hax, if_false]
      ring

/-! ### the two sweeps of the hydro step are accumulating -/

/-- the flux calls read primitives, gradients and conserved variables and only add to / subtract
from `delta_conserved` -/
noncomputable def fluxAccum (flux : FluxFn ℝ) (pr : Params ℝ) : Accum (fluxPhys flux pr) (HV ℝ) where
  ro h := { h with dcons := ⟨0, ⟨0, 0, 0⟩, 0⟩ }
  -- `contrib ax a b` unfolds to the same term as `contrib ax (ro a) (ro b)`: `dcons` is not read
  contrib_ro ax _ _ _ _ ha hb := (congrArg₂ ((fluxPhys flux pr).contrib ax) ha hb :)
  ghost_ro ax up _ _ ha := (congrArg ((fluxPhys flux pr).ghostContrib ax up) ha :)
  ro_left _ _ _ := rfl
  ro_right _ _ _ := rfl
  comm_LL _ _ k k' a := by simp only [fluxPhys, Q.sub_sub_comm a.dcons k k']
  comm_LR _ _ k k' a := by simp only [fluxPhys, Q.sub_add_comm a.dcons k k']
  comm_RR _ _ k k' a := by simp only [fluxPhys, Q.add_add_comm a.dcons k k']

/-- the gradient calls read the primitives and only add to the gradients and take running minima
/ maxima of the limiters -/
noncomputable def gradAccum (pr : Params ℝ) : Accum (gradPhys pr) (HV ℝ) where
  ro h := { h with grad := Grad.zero, lo := ⟨0, ⟨0, 0, 0⟩, 0⟩, hi := ⟨0, ⟨0, 0, 0⟩, 0⟩ }
  contrib_ro ax _ _ _ _ ha hb := (congrArg₂ ((gradPhys pr).contrib ax) ha hb :)
  ghost_ro ax up _ _ ha := (congrArg ((gradPhys pr).ghostContrib ax up) ha :)
  ro_left _ _ _ := rfl
  ro_right _ _ _ := rfl
  comm_LL ax ax' k k' a := gradUpd_comm (f := (·.add k.1)) (g := (·.add k'.1))
    (fun q => Q.add_add_comm q k.1 k'.1) ax ax' k.2.1 k'.2.1 a
  comm_LR ax ax' k k' a := gradUpd_comm (f := (·.add k.1)) (g := (·.sub k'.1))
    (fun q => (Q.sub_add_comm q k'.1 k.1).symm) ax ax' k.2.1 k'.2.2 a
  comm_RR ax ax' k k' a := gradUpd_comm (f := (·.sub k.1)) (g := (·.sub k'.1))
    (fun q => Q.sub_sub_comm q k.1 k'.1) ax ax' k.2.2 k'.2.2 a

/-- the calls of all sweeps of a layout are a permutation of the calls of the sequential sweep over
the undivided grid (flux calls and gradient calls have the same loops) -/
theorem layoutOps_perm_gridOps (L : Layout) (c : Cells) (hc : 0 < c.cx ∧ 0 < c.cy ∧ 0 < c.cz) :
    (layoutOps L c).Perm (gridOps (cellGrid L c)) :=
  List.Perm.flatMap_left _ fun ax _ =>
    (((allFaces_perm L c ax (clen_pos hc ax)).map _).append
      ((allGhosts_perm L c ax true (clen_pos hc ax)).map _)).append
        ((allGhosts_perm L c ax false (clen_pos hc ax)).map _)

theorem mem_gridOps (G : Layout) (op : Op) :
    op ∈ gridOps G ↔
      (∃ ax X Y, op = .pair ax X Y ∧ valid G X = true ∧ ngbUp G ax X = some Y) ∨
      (∃ ax up X, op = .ghost ax up X ∧ valid G X = true ∧
        (if up then ngbUp G ax X else ngbDown G ax X) = none) := by
  have hax : ∀ ax : Axis, ax ∈ axes := fun ax => by cases ax <;> simp [axes]
  simp only [gridOps, List.mem_flatMap, List.mem_append, List.mem_map]
  constructor
  · rintro ⟨ax, _, (⟨f, hf, rfl⟩ | ⟨X, hX, rfl⟩) | ⟨X, hX, rfl⟩⟩
    · exact Or.inl ⟨ax, f.1, f.2, rfl, (mem_gridFaces G ax f.1 f.2).mp hf⟩
    · exact Or.inr ⟨ax, true, X, rfl, (mem_gridGhosts G ax true X).mp hX⟩
    · exact Or.inr ⟨ax, false, X, rfl, (mem_gridGhosts G ax false X).mp hX⟩
  · rintro (⟨ax, X, Y, rfl, h⟩ | ⟨ax, up, X, rfl, h⟩)
    · exact ⟨ax, hax ax, Or.inl (Or.inl ⟨(X, Y), (mem_gridFaces G ax X Y).mpr h, rfl⟩)⟩
    · cases up
      · exact ⟨ax, hax ax, Or.inr ⟨X, (mem_gridGhosts G ax false X).mpr h, rfl⟩⟩
      · exact ⟨ax, hax ax, Or.inl (Or.inr ⟨X, (mem_gridGhosts G ax true X).mpr h, rfl⟩)⟩

theorem layoutOps_cells_valid (L : Layout) (c : Cells) (hc : 0 < c.cx ∧ 0 < c.cy ∧ 0 < c.cz) :
    ∀ op ∈ layoutOps L c, ∀ x ∈ opCells op, valid (cellGrid L c) x = true := by
  intro op hop x hx
  rw [(layoutOps_perm_gridOps L c hc).mem_iff, mem_gridOps] at hop
  rcases hop with ⟨ax, X, Y, rfl, hX, hY⟩ | ⟨ax, up, X, rfl, hX, _⟩
  · rcases mem_opCells_pair.mp hx with rfl | rfl
    · exact hX
    · exact (ngbUp_ngbDown hX hY).1
  · rw [mem_opCells_ghost.mp hx]; exact hX

theorem periodic_layout_ops (L : Layout) (c : Cells) (hc : 0 < c.cx ∧ 0 < c.cy ∧ 0 < c.cz)
    (hp : L.px = true ∧ L.py = true ∧ L.pz = true) :
    ∀ op ∈ layoutOps L c, ∃ ax l r, op = .pair ax l r ∧ l ∈ allSubs (cellGrid L c) ∧
      r ∈ allSubs (cellGrid L c) := by
  have hper : ∀ ax, per (cellGrid L c) ax = true := fun ax => by
    cases ax <;> simp [per, cellGrid, hp]
  intro op hop
  rw [(layoutOps_perm_gridOps L c hc).mem_iff, mem_gridOps] at hop
  rcases hop with ⟨ax, X, Y, rfl, hX, hY⟩ | ⟨ax, up, X, rfl, _, hn⟩
  · exact ⟨ax, X, Y, rfl, (mem_allSubs _ _).mpr hX, (mem_allSubs _ _).mpr (ngbUp_ngbDown hX hY).1⟩
  · -- a periodic axis has no box boundary
    cases up
    · simp only [Bool.false_eq_true, if_false, ngbDown, hper, Option.map_eq_none_iff,
        down1_eq_none, reduceCtorEq, and_false] at hn
    · simp only [if_true, ngbUp, hper, Option.map_eq_none_iff, up1_eq_none, reduceCtorEq,
        and_false] at hn

/-- every cell of the grid is touched by a call of the layout (its `+x` face is a pair face or a
box-boundary face) -/
theorem valid_cell_touched (L : Layout) (c : Cells) (hc : 0 < c.cx ∧ 0 < c.cy ∧ 0 < c.cz)
    {x : Cell} (hx : valid (cellGrid L c) x = true) : ∃ o ∈ layoutOps L c, x ∈ opCells o := by
  simp only [(layoutOps_perm_gridOps L c hc).mem_iff, mem_gridOps]
  cases hn : ngbUp (cellGrid L c) .x x with
  | some y => exact ⟨_, Or.inl ⟨.x, x, y, rfl, hx, hn⟩, mem_opCells_pair.mpr (Or.inl rfl)⟩
  | none => exact ⟨_, Or.inr ⟨.x, true, x, rfl, hx, hn⟩, mem_opCells_ghost.mpr rfl⟩

theorem runOps_grad_fields (pr : Params ℝ) (ops : List Op) (s : Grid (HV ℝ)) (x : Cell) :
    (runOps (gradPhys pr) s ops x).cons = (s x).cons ∧
      (runOps (gradPhys pr) s ops x).dcons = (s x).dcons ∧
      (runOps (gradPhys pr) s ops x).acc = (s x).acc ∧
      (runOps (gradPhys pr) s ops x).eterm = (s x).eterm :=
  have h := ro_runOps (gradAccum pr) ops s x
  -- these fields of `ro h` are those of `h`, by unfolding
  ⟨(congrArg HV.cons h :), (congrArg HV.dcons h :), (congrArg HV.acc h :), (congrArg HV.eterm h :)⟩

theorem runOps_flux_fields (flux : FluxFn ℝ) (pr : Params ℝ) (ops : List Op) (s : Grid (HV ℝ))
    (x : Cell) :
    (runOps (fluxPhys flux pr) s ops x).cons = (s x).cons ∧
      (runOps (fluxPhys flux pr) s ops x).acc = (s x).acc ∧
      (runOps (fluxPhys flux pr) s ops x).eterm = (s x).eterm :=
  have h := ro_runOps (fluxAccum flux pr) ops s x
  ⟨(congrArg HV.cons h :), (congrArg HV.acc h :), (congrArg HV.eterm h :)⟩

theorem hydroStepFlux_fields (flux : FluxFn ℝ) (pr : Params ℝ) (limiter : HV ℝ → Grad ℝ)
    (predict : HV ℝ → Q ℝ) (gradOps fluxOps : List Op) (s : Grid (HV ℝ)) (x : Cell) :
    (hydroStepFlux flux pr limiter predict gradOps fluxOps s x).cons = (s x).cons ∧
    (hydroStepFlux flux pr limiter predict gradOps fluxOps s x).acc = (s x).acc ∧
    (hydroStepFlux flux pr limiter predict gradOps fluxOps s x).eterm = (s x).eterm := by
  unfold hydroStepFlux
  obtain ⟨a1, _, a2, a3⟩ := runOps_grad_fields pr gradOps s x
  obtain ⟨b1, b2, b3⟩ := runOps_flux_fields flux pr fluxOps
    (mapCells (fun h => { h with prim := predict h })
      (mapCells (fun h => { h with grad := limiter h }) (runOps (gradPhys pr) s gradOps))) x
  exact ⟨b1.trans a1, b2.trans a2, b3.trans a3⟩

/-- A hydro step leaves every cell with zero pending changes
`delta_conserved`, zero energy source term and the gravitational acceleration it had: the state
after a step satisfies the start-of-step hypotheses of `totals_conserved` again. -/
theorem step_resets_accumulators (flux : FluxFn ℝ) (pr : Params ℝ) (limiter : HV ℝ → Grad ℝ)
    (predict : HV ℝ → Q ℝ) (gradOps fluxOps : List Op) (s : Grid (HV ℝ)) (x : Cell) :
    (hydroStep flux pr limiter predict gradOps fluxOps s x).dcons = ⟨0, ⟨0, 0, 0⟩, 0⟩ ∧
      (hydroStep flux pr limiter predict gradOps fluxOps s x).eterm = 0 ∧
      (hydroStep flux pr limiter predict gradOps fluxOps s x).acc = (s x).acc := by
  obtain ⟨_, f2, _⟩ := hydroStepFlux_fields flux pr limiter predict gradOps fluxOps s x
  obtain ⟨r1, r2, r3⟩ := updateConserved_resets pr.dmax
    (hydroStepFlux flux pr limiter predict gradOps fluxOps s x) pr.dt
  simp only [hydroStep, mapCells]
  exact ⟨r1, r2, r3.trans f2⟩

/-! ### the limiter premise: after the gradient sweeps `lo ≤ hi` in every cell that a call touched -/

/-- neighbour minimum ≤ neighbour maximum for all five variables -/
def LoHi (h : HV ℝ) : Prop :=
  h.lo.d ≤ h.hi.d ∧ h.lo.v.x ≤ h.hi.v.x ∧ h.lo.v.y ≤ h.hi.v.y ∧ h.lo.v.z ≤ h.hi.v.z ∧ h.lo.e ≤ h.hi.e

/-- one gradient call establishes the premise whatever the limiters were before
(`min(lo, W) ≤ W ≤ max(hi, W)`) -/
theorem loHi_gradUpd (ax : Axis) (f : Q ℝ → Q ℝ) (W : Q ℝ) (h : HV ℝ) : LoHi (gradUpd ax f W h) := by
  simp only [LoHi, gradUpd, Q.min, Q.max, amin_real, amax_real]
  have h : ∀ a b W : ℝ, min a W ≤ max b W := fun _ _ _ => (min_le_right _ _).trans (le_max_right _ _)
  exact ⟨h _ _ _, h _ _ _, h _ _ _, h _ _ _, h _ _ _⟩

theorem loHi_of_isAcc {pr : Params ℝ} {u : HV ℝ → HV ℝ} (hu : IsAcc (gradPhys pr) u) (v : HV ℝ) :
    LoHi (u v) := by
  rcases hu with ⟨ax, k, rfl⟩ | ⟨ax, k, rfl⟩
  · exact loHi_gradUpd ax (·.add k.1) k.2.1 v
  · exact loHi_gradUpd ax (·.sub k.1) k.2.2 v

/-- after a gradient phase every cell that had the premise before or is touched by one of the
calls has `lo ≤ hi` -/
theorem loHi_runOps (pr : Params ℝ) (ops : List Op) (s : Grid (HV ℝ)) (x : Cell)
    (h : LoHi (s x) ∨ ∃ o ∈ ops, x ∈ opCells o) : LoHi (runOps (gradPhys pr) s ops x) := by
  induction ops generalizing s with
  | nil =>
    rcases h with h | ⟨o, ho, _⟩
    · exact h
    · simp at ho
  | cons o ops ih =>
    rw [runOps_cons]
    apply ih
    by_cases hx : x ∈ opCells o
    · obtain ⟨u, v, hu, e⟩ := applyOp_of_mem (gradPhys pr) s hx
      exact Or.inl (e ▸ loHi_of_isAcc hu v)
    · rw [applyOp_of_not_mem _ s hx]
      rcases h with h | ⟨o', ho', hx'⟩
      · exact Or.inl h
      · rcases List.mem_cons.mp ho' with rfl | ho''
        · exact absurd hx' hx
        · exact Or.inr ⟨o', ho'', hx'⟩

end CMacVerif.HydroStep
