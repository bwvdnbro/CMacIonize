import CMacVerif.Model.Yaml
/-!
Lemmas for the YAML round trip of C20.  The printer's stack may keep stale entries, the parser's
holds the groups of the key read last; `lcp` is an ultrametric and keys sharing a group prefix are
contiguous in `std::string` order, so a later key cannot agree with a stale entry (`lcp_stack_step`).
Between printer and parser stands `Rendering`, the token files of a dictionary: the parser reads the
dictionary back from every one of them, the printer writes one.
-/
namespace CMacVerif.Yaml

/-- groups of a flat key -/
abbrev groups (k : Str) : List Str := (splitKey k).1

/-! ## `lcp`: the order facts all through `le_lcp_iff` -/

theorem lcp_nil_left (b : List Str) : lcp [] b = 0 := by
  cases b <;> rfl

theorem lcp_nil_right (a : List Str) : lcp a [] = 0 := by
  cases a <;> rfl

theorem le_lcp_iff (t : Nat) (a b : List Str) :
    t ≤ lcp a b ↔ t ≤ a.length ∧ t ≤ b.length ∧ a.take t = b.take t := by
  induction t generalizing a b with
  | zero => simp
  | succ t ih =>
    cases a with
    | nil => simp [lcp_nil_left]
    | cons x xs =>
      cases b with
      | nil => simp [lcp]
      | cons y ys =>
        simp only [lcp, List.length_cons, List.take_succ_cons, List.cons.injEq]
        by_cases hxy : x = y
        · subst hxy
          simp only [if_true, Nat.add_le_add_iff_right, true_and]
          exact ih xs ys
        · simp only [hxy, if_false, false_and, and_false, iff_false]
          exact Nat.not_succ_le_zero t

theorem lcp_le_left (a b : List Str) : lcp a b ≤ a.length :=
  ((le_lcp_iff _ a b).1 (Nat.le_refl _)).1

theorem lcp_le_right (a b : List Str) : lcp a b ≤ b.length :=
  ((le_lcp_iff _ a b).1 (Nat.le_refl _)).2.1

theorem lcp_take_eq (a b : List Str) : a.take (lcp a b) = b.take (lcp a b) :=
  ((le_lcp_iff _ a b).1 (Nat.le_refl _)).2.2

theorem lcp_self (a : List Str) : lcp a a = a.length := by
  apply Nat.le_antisymm (lcp_le_left a a)
  exact (le_lcp_iff _ a a).2 ⟨Nat.le_refl _, Nat.le_refl _, rfl⟩

theorem le_lcp_comm {t : Nat} {a b : List Str} (h : t ≤ lcp a b) : t ≤ lcp b a := by
  obtain ⟨h1, h2, h3⟩ := (le_lcp_iff _ _ _).1 h
  exact (le_lcp_iff _ _ _).2 ⟨h2, h1, h3.symm⟩

/-- `lcp` is an ultrametric -/
theorem le_lcp_trans {t : Nat} {a b c : List Str} (h1 : t ≤ lcp a b) (h2 : t ≤ lcp b c) :
    t ≤ lcp a c := by
  obtain ⟨ha, _, hab⟩ := (le_lcp_iff _ _ _).1 h1
  obtain ⟨_, hc, hbc⟩ := (le_lcp_iff _ _ _).1 h2
  exact (le_lcp_iff _ _ _).2 ⟨ha, hc, hab.trans hbc⟩

theorem le_lcp_take_append {t m : Nat} (g r : List Str) (ht : t ≤ m) (hm : m ≤ g.length) :
    t ≤ lcp (g.take m ++ r) g := by
  have hl : t ≤ (g.take m).length := by rw [List.length_take, Nat.min_eq_left hm]; exact ht
  refine (le_lcp_iff _ _ _).2 ⟨?_, Nat.le_trans ht hm, ?_⟩
  · rw [List.length_append]; exact Nat.le_trans hl (Nat.le_add_right _ _)
  · rw [List.take_append_of_le_length hl, List.take_take, Nat.min_eq_left ht]

/-- the invariant of the printer's stack `g`, "a later key `kg'` agrees with the stack no further than the key printed
last does" (`h1`, with `kgp` the groups of the key before), survives printing the key with groups `kg` -/
theorem lcp_stack_step (g kg kgp kg' : List Str) (m : Nat) (hm1 : lcp g kg ≤ m) (hm2 : m ≤ g.length)
    (h1 : lcp g kg' ≤ lcp g kgp) (h2 : lcp kgp kg' ≤ lcp kgp kg) :
    lcp (g.take m ++ kg.drop (lcp g kg)) kg' ≤ lcp (g.take m ++ kg.drop (lcp g kg)) kg := by
  rcases Nat.eq_or_lt_of_le hm1 with hmi | hmi
  · -- no stale entry: the stack is exactly the groups of the key
    rw [← hmi, lcp_take_eq g kg, List.take_append_drop, lcp_self]
    exact lcp_le_left _ _
  · -- stale entries: a later key cannot agree with the stack beyond `lcp g kg`
    refine Nat.le_trans (Nat.le_of_not_lt fun hgt => ?_)
      (le_lcp_trans (le_lcp_take_append g _ hm1 hm2) (Nat.le_refl _))
    have a1 : lcp g kg + 1 ≤ lcp g kg' :=
      le_lcp_trans (le_lcp_comm (le_lcp_take_append g _ hmi hm2)) hgt
    have a2 : lcp g kg + 1 ≤ lcp g kgp := Nat.le_trans a1 h1
    have a3 : lcp g kg + 1 ≤ lcp kgp kg := Nat.le_trans (le_lcp_trans (le_lcp_comm a2) a1) h2
    exact Nat.not_succ_le_self _ (le_lcp_trans a2 a3)

theorem lcp_take_left (g kg : List Str) (n : Nat) (h : kg.length ≤ n) :
    lcp (g.take n) kg = lcp g kg := by
  induction g generalizing kg n with
  | nil => rw [List.take_nil]
  | cons x xs ih =>
    cases kg with
    | nil => rw [lcp_nil_right, lcp_nil_right]
    | cons y ys =>
      obtain ⟨m, rfl⟩ := Nat.exists_eq_add_one.2 (Nat.lt_of_lt_of_le (Nat.succ_pos _) h)
      simp only [List.take_succ_cons, lcp, ih ys m (Nat.le_of_succ_le_succ h)]

/-! ## closed forms of the printer loops -/

theorem take_dropLast {g : List Str} {m : Nat} (h : m ≤ g.length - 1) :
    g.dropLast.take m = g.take m := by
  rw [List.dropLast_eq_take, List.take_take, Nat.min_eq_left h]

/-- the shrinking-bound loop leaves a prefix of the stack of length at least `j`
(not exactly `j`: stale entries may remain) -/
theorem popShrink_spec (j : Nat) (g : List Str) :
    ∃ m, min j g.length ≤ m ∧ m ≤ g.length ∧ popShrink j g = g.take m := by
  induction j, g using popShrink.induct with
  | case1 j g hlt ih =>
    obtain ⟨m, h1, h2, h3⟩ := ih
    rw [List.length_dropLast] at h1 h2
    have hj : min j g.length ≤ min (j + 1) (g.length - 1) :=
      Nat.le_trans (Nat.min_le_left _ _) (Nat.le_min.2 ⟨Nat.le_succ j, Nat.le_sub_one_of_lt hlt⟩)
    refine ⟨m, Nat.le_trans hj h1, Nat.le_trans h2 (Nat.sub_le _ _), ?_⟩
    rw [popShrink, if_pos hlt, h3, take_dropLast h2]
  | case2 j g hge =>
    rw [popShrink, if_neg hge]
    exact ⟨g.length, Nat.min_le_right _ _, Nat.le_refl _, (List.take_length).symm⟩

theorem truncTo_eq (n : Nat) (g : List Str) : truncTo n g = g.take n := by
  induction g using truncTo.induct n with
  | case1 g hlt ih =>
    rw [truncTo, if_pos hlt, ih, take_dropLast (Nat.le_sub_one_of_lt hlt)]
  | case2 g hge =>
    rw [truncTo, if_neg hge, List.take_of_length_le (Nat.le_of_not_lt hge)]

theorem popFixed_eq (j n : Nat) (g : List Str) :
    popFixed j n g = g.take (g.length - (n - j)) := by
  induction j, g using popFixed.induct n with
  | case1 j g hlt ih =>
    have e : 1 + (n - (j + 1)) = n - j := by
      rw [Nat.add_comm, Nat.sub_add_eq]; exact Nat.sub_add_cancel (Nat.sub_pos_of_lt hlt)
    rw [popFixed, if_pos hlt, ih, List.length_dropLast, Nat.sub_sub, e,
      take_dropLast (Nat.sub_le_sub_left (Nat.sub_pos_of_lt hlt) _)]
  | case2 j g hge =>
    rw [popFixed, if_neg hge, Nat.sub_eq_zero_of_le (Nat.le_of_not_lt hge), Nat.sub_zero,
      List.take_length]

/-- the header lines printed for the groups `ks`, first one at indentation `ind` -/
def headers (ind : Nat) : List Str → List Line
  | [] => []
  | k :: ks => ⟨ind, k, []⟩ :: headers (ind + 2) ks

theorem pushHeaders_eq (ind : Nat) (g ks : List Str) :
    pushHeaders ind g ks = (g ++ ks, headers ind ks, ind + 2 * ks.length) := by
  induction ks generalizing ind g with
  | nil => simp [pushHeaders, headers]
  | cons k ks ih =>
    simp only [pushHeaders, ih, headers, List.append_assoc, List.singleton_append, List.length_cons,
      Prod.mk.injEq, true_and]
    omega

/-- **one printer iteration**: with `i` the common prefix of stack and key groups, the new stack is
a prefix of the old one of length `m ≥ i` followed by the new groups; the lines are the headers of
the groups beyond `i` and the key line at depth `|kg|`. -/
theorem printEntry_spec (g : List Str) (key : Str) :
    ∃ m, lcp g (groups key) ≤ m ∧ m ≤ g.length ∧ ∀ val,
      printEntry g key val =
        (g.take m ++ (groups key).drop (lcp g (groups key)),
         headers (2 * lcp g (groups key)) ((groups key).drop (lcp g (groups key))) ++
           [⟨2 * (groups key).length, (splitKey key).2, val⟩]) := by
  unfold printEntry groups
  rcases splitKey key with ⟨kg, name⟩
  dsimp only
  have hi1 : lcp g kg ≤ g.length := lcp_le_left _ _
  have hi2 : lcp g kg ≤ kg.length := lcp_le_right _ _
  have hind : 2 * lcp g kg + 2 * (kg.drop (lcp g kg)).length = 2 * kg.length := by
    rw [List.length_drop, ← Nat.mul_add, Nat.add_sub_cancel' hi2]
  by_cases hlen : kg.length > g.length
  · obtain ⟨m, h1, h2, h3⟩ := popShrink_spec (lcp g kg) g
    rw [Nat.min_eq_left hi1] at h1
    refine ⟨m, h1, h2, fun val => ?_⟩
    rw [if_pos hlen, h3, pushHeaders_eq, hind]
  · have hl : kg.length ≤ g.length := Nat.le_of_not_lt hlen
    have hfix : popFixed (lcp g kg) kg.length (g.take kg.length) = g.take (lcp g kg) := by
      rw [popFixed_eq, List.length_take, Nat.min_eq_left hl, Nat.sub_sub_self hi2, List.take_take,
        Nat.min_eq_left hi2]
    refine ⟨lcp g kg, Nat.le_refl _, hi1, fun val => ?_⟩
    rw [if_neg hlen, truncTo_eq, lcp_take_left g kg _ (Nat.le_refl _), hfix, pushHeaders_eq, hind]

/-! ## the parser on printed lines -/

/-- `levels` after a key line at depth `n` of a file printed with two blanks per level -/
def evens : Nat → List Nat
  | 0 => []
  | n + 1 => evens n ++ [2 * (n + 1)]

theorem evens_length (n : Nat) : (evens n).length = n := by
  induction n with
  | zero => rfl
  | succ n ih => simp [evens, ih]

theorem evens_getLast {n : Nat} (h : 0 < n) : (evens n).getLast? = some (2 * n) := by
  obtain ⟨n, rfl⟩ := Nat.exists_eq_add_one.2 h
  exact List.getLast?_concat

theorem parseLines_append (s : PState) (a b : List Line) :
    parseLines s (a ++ b) = (parseLines s a).bind (fun s' => parseLines s' b) := by
  induction a generalizing s with
  | nil => simp [parseLines]
  | cons l ls ih =>
    simp only [List.cons_append, parseLines]
    cases parseLine s l with
    | none => simp
    | some s' => simp [ih]

theorem clearBoth_eq (lv : List Nat) (gn : List Str) (h : lv.length = gn.length) :
    clearBoth lv gn = ([], []) := by
  induction lv, gn using clearBoth.induct with
  | case1 lv gn hpos ih =>
    rw [clearBoth, dif_pos hpos]
    exact ih (by rw [List.length_dropLast, List.length_dropLast, h])
  | case2 lv gn hnp =>
    obtain rfl := List.eq_nil_of_length_eq_zero (Nat.eq_zero_of_not_pos hnp)
    rw [clearBoth, dif_neg hnp, List.eq_nil_of_length_eq_zero h.symm]

theorem popWhile_concat (ind b : Nat) (lv : List Nat) (gn : List Str) :
    popWhile ind (lv ++ [b]) gn =
      if ind < b then (if gn.isEmpty then none else popWhile ind lv gn.dropLast)
      else some (lv ++ [b], gn) := by
  rw [popWhile]
  split
  · rename_i h; simp at h
  · rename_i b' hb
    rw [List.getLast?_concat, Option.some.injEq] at hb
    rw [← hb, List.dropLast_concat]

theorem popWhile_evens (i d : Nat) (gn : List Str) (hi : 1 ≤ i) (hl : gn.length = i + d) :
    popWhile (2 * i) (evens (i + d)) gn = some (evens i, gn.take i) := by
  obtain ⟨i, rfl⟩ := Nat.exists_eq_add_one.2 hi
  induction d generalizing gn with
  | zero =>
    show popWhile _ (evens i ++ [2 * (i + 1)]) gn = _
    rw [popWhile_concat, if_neg (Nat.lt_irrefl _), List.take_of_length_le (Nat.le_of_eq hl)]
    rfl
  | succ d ih =>
    show popWhile _ (evens (i + 1 + d) ++ [2 * (i + 1 + d + 1)]) gn = _
    have hne : gn.isEmpty = false := by
      cases gn with
      | nil => exact absurd hl (by simp)
      | cons a l => rfl
    have hlt : 2 * (i + 1) < 2 * (i + 1 + d + 1) :=
      (Nat.mul_lt_mul_left (by decide)).2 (Nat.lt_succ_of_le (Nat.le_add_right _ _))
    rw [popWhile_concat, if_pos hlt, hne, if_neg Bool.false_ne_true,
      ih gn.dropLast (by rw [List.length_dropLast, hl]; rfl),
      take_dropLast (by rw [hl]; exact Nat.le_add_right _ _)]

/-- parser state after a key line whose groups are `kg` (file printed by the printer) -/
def closed (kg : List Str) (D : Dict) : PState := ⟨kg, evens kg.length, D⟩

/-- the indentation step of `parseLine`: the two stacks a line indented by `ind` leaves
(`none`: "Wrong formatting!", or `back()` on an empty vector) -/
def restack (lv : List Nat) (gn : List Str) (ind : Nat) : Option (List Nat × List Str) :=
  if ind > 0 then
    match lv.getLast? with
    | some b => if ind > b then some (lv ++ [ind], gn) else popWhile ind lv gn
    | none => some (lv ++ [ind], gn)
  else if gn.length ≠ lv.length then none else some ([], [])

/-- at indentation 0 both stacks are emptied, so `joinKey [] key` is the key itself and the two
tails of the C++ are one -/
theorem parseLine_eq (s : PState) (ln : Line) :
    parseLine s ln = (restack s.levels s.groupname ln.indent).bind fun r =>
      if r.1.length ≠ r.2.length then none
      else if ln.value.isEmpty then some ⟨r.2 ++ [ln.key], r.1, s.dict⟩
      else some ⟨r.2, r.1, s.dict.insert (joinKey r.2 ln.key) ln.value⟩ := by
  rw [parseLine, restack]
  by_cases hi : ln.indent > 0
  · rw [if_pos hi, if_pos hi]
    cases s.levels.getLast? with
    | none => rfl
    | some b =>
      dsimp only
      generalize (if ln.indent > b then some (s.levels ++ [ln.indent], s.groupname)
        else popWhile ln.indent s.levels s.groupname) = r
      rcases r with _ | ⟨lv, gn⟩ <;> rfl
  · rw [if_neg hi, if_neg hi]
    by_cases hl : s.groupname.length ≠ s.levels.length
    · rw [if_pos hl, if_pos hl]; rfl
    · rw [if_neg hl, if_neg hl, clearBoth_eq _ _ (Decidable.of_not_not hl).symm]
      rfl

/-- the two parser states on a printed file, and the depths `i` a line can then have: after a
key line at depth `n` (both stacks `n` deep) any `i ≤ n`; after a header at depth `n` (the group
pushed, its level not yet) only `n + 1` -/
def Fits (gn : List Str) (n i : Nat) : Prop :=
  gn.length = n ∧ i ≤ n ∨ gn.length = n + 1 ∧ i = n + 1

theorem restack_evens {gn : List Str} {n i : Nat} (h : Fits gn n i) :
    restack (evens n) gn (2 * i) = some (evens i, gn.take i) := by
  rw [restack]
  rcases h with ⟨hn, hi⟩ | ⟨hn, rfl⟩
  · rcases Nat.eq_zero_or_pos i with rfl | h0
    · rw [if_neg (Nat.lt_irrefl 0), evens_length, if_neg fun h => h hn]; rfl
    · obtain ⟨d, rfl⟩ := Nat.exists_eq_add_of_le hi
      rw [if_pos (Nat.mul_pos (by decide) h0), evens_getLast (Nat.lt_of_lt_of_le h0 hi)]
      dsimp only
      rw [if_neg (Nat.not_lt.2 (Nat.mul_le_mul_left 2 hi)), popWhile_evens i d gn h0 hn]
  · -- on an empty `levels` or above its last entry: `evens n ++ [2 * (n + 1)] = evens (n + 1)`
    rw [if_pos (Nat.mul_pos (by decide) (Nat.succ_pos n)), List.take_of_length_le (Nat.le_of_eq hn)]
    cases n with
    | zero => rfl
    | succ n =>
      rw [evens_getLast (Nat.succ_pos n)]
      dsimp only
      rw [if_pos ((Nat.mul_lt_mul_left (by decide)).2 (Nat.lt_succ_self _))]
      rfl

theorem Fits.length_take {gn : List Str} {n i : Nat} (h : Fits gn n i) : (gn.take i).length = i := by
  rw [List.length_take]
  unfold Fits at h
  omega

theorem parseLine_evens {gn : List Str} {n i : Nat} (h : Fits gn n i) (D : Dict) (key v : Str) :
    parseLine ⟨gn, evens n, D⟩ ⟨2 * i, key, v⟩ =
      if v.isEmpty then some ⟨gn.take i ++ [key], evens i, D⟩
      else some (closed (gn.take i) (D.insert (joinKey (gn.take i) key) v)) := by
  rw [parseLine_eq]
  dsimp only
  rw [restack_evens h, Option.bind_some]
  dsimp only
  rw [evens_length, h.length_take, if_neg fun h => h rfl, closed, h.length_take]

theorem parseLines_headers {gn : List Str} {n i : Nat} (h : Fits gn n i) (D : Dict) (ks : List Str)
    (name v : Str) (hv : v ≠ []) :
    parseLines ⟨gn, evens n, D⟩ (headers (2 * i) ks ++ [⟨2 * (i + ks.length), name, v⟩]) =
      some (closed (gn.take i ++ ks) (D.insert (joinKey (gn.take i ++ ks) name) v)) := by
  induction ks generalizing gn n i with
  | nil =>
    rw [headers, List.nil_append, List.length_nil, Nat.add_zero, List.append_nil, parseLines,
      parseLine_evens h, List.isEmpty_eq_false_iff.2 hv, if_neg Bool.false_ne_true]
    rfl
  | cons k ks ih =>
    have e : i + (ks.length + 1) = i + 1 + ks.length := (Nat.succ_add _ _).symm
    have hl : (gn.take i ++ [k]).length = i + 1 := by rw [List.length_append, h.length_take]; rfl
    -- the header leaves the second state, at depth `i`
    have := ih (gn := gn.take i ++ [k]) (n := i) (i := i + 1) (Or.inr ⟨hl, rfl⟩)
    rw [List.take_of_length_le (Nat.le_of_eq hl)] at this
    rw [headers, List.cons_append, parseLines, parseLine_evens h, if_pos List.isEmpty_nil,
      List.length_cons, e, List.append_cons _ k ks]
    exact this

/-- **the parser on one printed entry**: from the state after the previous key line (groups
`kgp`), the headers of `kg` beyond a common prefix `i` followed by the key line lead to the
state after a key line with groups `kg`, with the entry inserted under its full name. -/
theorem parseLines_entry (kgp kg : List Str) (D : Dict) (i : Nat) (name v : Str)
    (hi : i ≤ lcp kgp kg) (hv : v ≠ []) :
    parseLines (closed kgp D) (headers (2 * i) (kg.drop i) ++ [⟨2 * kg.length, name, v⟩]) =
      some (closed kg (D.insert (joinKey kg name) v)) := by
  obtain ⟨hi1, hi2, hpre⟩ := (le_lcp_iff _ _ _).1 hi
  have h := parseLines_headers (Or.inl ⟨rfl, hi1⟩) D (kg.drop i) name v hv
  rwa [hpre, List.take_append_drop, List.length_drop, Nat.add_sub_cancel' hi2] at h

/-! ## keys: `splitKey` / `joinKey`, the `std::string` order, contiguity of group prefixes -/

theorem splitKey_cons (c : Char) (s : Str) :
    splitKey (c :: s) =
      if c = ':' then ([] :: (splitKey s).1, (splitKey s).2)
      else match (splitKey s).1 with
        | [] => ([], c :: (splitKey s).2)
        | g :: gs' => ((c :: g) :: gs', (splitKey s).2) := by
  rw [splitKey]
  rcases splitKey s with ⟨gs, n⟩
  rfl

theorem splitKey_spec (k : Str) :
    joinKey (splitKey k).1 (splitKey k).2 = k ∧ (∀ g ∈ (splitKey k).1, ':' ∉ g) ∧
      ':' ∉ (splitKey k).2 := by
  induction k with
  | nil => exact ⟨rfl, fun g hg => absurd hg List.not_mem_nil, List.not_mem_nil⟩
  | cons c s ih =>
    obtain ⟨hj, hg, hn⟩ := ih
    rw [splitKey_cons]
    by_cases hc : c = ':'
    · rw [if_pos hc, hc]
      exact ⟨congrArg (':' :: ·) hj, List.forall_mem_cons.2 ⟨List.not_mem_nil, hg⟩, hn⟩
    · have hc' : ':' ≠ c := fun h => hc h.symm
      rw [if_neg hc]
      rcases h : (splitKey s).1 with _ | ⟨g0, gs'⟩
      · rw [h] at hj
        exact ⟨congrArg (c :: ·) hj, fun g hg' => absurd hg' List.not_mem_nil,
          List.not_mem_cons_of_ne_of_not_mem hc' hn⟩
      · rw [h] at hj hg
        obtain ⟨hg0, hgs⟩ := List.forall_mem_cons.1 hg
        exact ⟨congrArg (c :: ·) hj,
          List.forall_mem_cons.2 ⟨List.not_mem_cons_of_ne_of_not_mem hc' hg0, hgs⟩, hn⟩

/-- the parser's concatenation undoes the printer's splitting, for every key -/
theorem joinKey_splitKey (k : Str) : joinKey (splitKey k).1 (splitKey k).2 = k :=
  (splitKey_spec k).1

theorem splitKey_no_colon (k : Str) : ∀ g ∈ (splitKey k).1, ':' ∉ g :=
  (splitKey_spec k).2.1

theorem splitKey_name_no_colon (k : Str) : ':' ∉ (splitKey k).2 :=
  (splitKey_spec k).2.2

theorem joinKey_append (xs ys : List Str) (n : Str) :
    joinKey (xs ++ ys) n = joinKey xs [] ++ joinKey ys n := by
  induction xs with
  | nil => rfl
  | cons x xs ih =>
    simp only [joinKey, List.cons_append, List.foldr_cons, List.append_assoc] at ih ⊢
    rw [ih]

/-- a key whose groups start with `P` starts, as a string, with `P₁:P₂:…:` -/
theorem key_eq_prefix_append (k : Str) (t : Nat) :
    ∃ r, k = joinKey ((groups k).take t) [] ++ r := by
  refine ⟨joinKey ((groups k).drop t) (splitKey k).2, ?_⟩
  rw [← joinKey_append, List.take_append_drop, joinKey_splitKey]

theorem splitKey_group_append (g : Str) (hg : ':' ∉ g) (r : Str) :
    splitKey (g ++ ':' :: r) = (g :: (splitKey r).1, (splitKey r).2) := by
  induction g with
  | nil => simp [splitKey_cons]
  | cons c g ih =>
    have hc : c ≠ ':' := fun h => hg (by simp [h])
    have hg' : ':' ∉ g := fun h => hg (by simp [h])
    rw [List.cons_append, splitKey_cons, ih hg']
    simp [hc]

/-- conversely, a string starting with `P₁:…:Pt:` (colon-free `Pᵢ`) has groups starting with `P` -/
theorem groups_prefix_append (P : List Str) (hP : ∀ g ∈ P, ':' ∉ g) (r : Str) :
    groups (joinKey P [] ++ r) = P ++ groups r := by
  induction P with
  | nil => rfl
  | cons g P ih =>
    show (splitKey ((g ++ ':' :: joinKey P []) ++ r)).1 = _
    rw [List.append_assoc, List.cons_append, splitKey_group_append g (hP g List.mem_cons_self)]
    exact congrArg (g :: ·) (ih fun g' hg' => hP g' (List.mem_cons_of_mem _ hg'))

theorem ltStr_iff (a b : Str) : ltStr a b = true ↔ a < b := by
  induction a generalizing b with
  | nil => cases b <;> simp [ltStr]
  | cons x xs ih =>
    cases b with
    | nil => simp [ltStr]
    | cons y ys =>
      rw [ltStr, List.cons_lt_cons_iff]
      by_cases h : x = y
      · subst h
        rw [if_pos rfl, ih, or_iff_right (Char.lt_irrefl x), and_iff_right rfl]
      · rw [if_neg h, decide_eq_true_iff, or_iff_left (fun h' => h h'.1)]
        exact Iff.rfl

theorem ltStr_irrefl (a : Str) : ltStr a a = false := by
  rw [← Bool.not_eq_true, ltStr_iff]
  exact List.lt_irrefl a

theorem ltStr_asymm (a b : Str) (h : ltStr a b = true) : ltStr b a = false := by
  rw [← Bool.not_eq_true, ltStr_iff]
  exact List.lt_asymm ((ltStr_iff a b).1 h)

theorem ltStr_trans (a b c : Str) (h1 : ltStr a b = true) (h2 : ltStr b c = true) :
    ltStr a c = true :=
  (ltStr_iff a c).2 (List.lt_trans ((ltStr_iff a b).1 h1) ((ltStr_iff b c).1 h2))

theorem ltStr_total (a b : Str) (hne : a ≠ b) (h : ltStr a b = false) : ltStr b a = true := by
  rw [← Bool.not_eq_true, ltStr_iff, List.not_lt, List.le_iff_lt_or_eq] at h
  exact (ltStr_iff b a).2 (h.resolve_right (Ne.symm hne))

theorem ltStr_between_prefix (P x y b : Str) (h1 : ltStr (P ++ x) b = true)
    (h2 : ltStr b (P ++ y) = true) : ∃ r, b = P ++ r := by
  induction P generalizing b with
  | nil => exact ⟨b, rfl⟩
  | cons c P ih =>
    cases b with
    | nil => simp [ltStr] at h1
    | cons d t =>
      simp only [List.cons_append, ltStr] at h1 h2
      by_cases hcd : c = d
      · subst hcd
        simp only [if_true] at h1 h2
        obtain ⟨r, hr⟩ := ih t h1 h2
        exact ⟨r, by rw [hr]; rfl⟩
      · have hdc : ¬ d = c := fun e => hcd e.symm
        simp only [hcd, hdc, if_false, decide_eq_true_eq] at h1 h2
        omega

/-- in `std::map` order the common group prefix with a fixed key can only shrink:
`a < b < c` ⇒ `lcp(groups a, groups c) ≤ lcp(groups a, groups b)`
(keys sharing a group prefix are contiguous) -/
theorem lcp_groups_mono (a b c : Str) (hab : ltStr a b = true) (hbc : ltStr b c = true) :
    lcp (groups a) (groups c) ≤ lcp (groups a) (groups b) := by
  obtain ⟨h1, h2, h3⟩ := (le_lcp_iff _ _ _).1 (Nat.le_refl (lcp (groups a) (groups c)))
  generalize lcp (groups a) (groups c) = t at h1 h2 h3
  obtain ⟨ra, hra⟩ := key_eq_prefix_append a t
  obtain ⟨rc, hrc⟩ := key_eq_prefix_append c t
  rw [← h3] at hrc
  have hP : ∀ g ∈ (groups a).take t, ':' ∉ g :=
    fun g hg => splitKey_no_colon a g (List.mem_of_mem_take hg)
  rw [hra] at hab
  rw [hrc] at hbc
  obtain ⟨rb, hrb⟩ := ltStr_between_prefix _ _ _ _ hab hbc
  have hgb : groups b = (groups a).take t ++ groups rb := by
    rw [hrb]; exact groups_prefix_append _ hP rb
  rw [hgb]
  exact le_lcp_comm (le_lcp_take_append _ _ (Nat.le_refl t) h1)

/-! ## the `std::map` as a sorted list -/

/-- contents of a `std::map`: strictly increasing keys -/
def Sorted (d : Dict) : Prop := d.Pairwise (fun a b => ltStr a.1 b.1 = true)

theorem insert_last (k v : Str) (D : Dict) (h : ∀ kv ∈ D, ltStr kv.1 k = true) :
    D.insert k v = D ++ [(k, v)] := by
  induction D with
  | nil => rfl
  | cons kv D ih =>
    have h1 : ltStr kv.1 k = true := h kv List.mem_cons_self
    have hne : k ≠ kv.1 := fun e => Bool.false_ne_true ((ltStr_irrefl k).symm.trans (e ▸ h1))
    rw [Dict.insert, if_neg hne, ltStr_asymm _ _ h1, if_neg Bool.false_ne_true,
      ih fun x hx => h x (List.mem_cons_of_mem _ hx)]
    rfl

theorem foldl_insert_sorted (D rest : Dict) (h : Sorted (D ++ rest)) :
    rest.foldl (fun D kv => D.insert kv.1 kv.2) D = D ++ rest := by
  induction rest generalizing D with
  | nil => exact (List.append_nil D).symm
  | cons kv rest ih =>
    have h3 := (List.pairwise_append.1 h).2.2
    rw [List.foldl_cons, insert_last kv.1 kv.2 D fun x hx => h3 x hx kv List.mem_cons_self,
      ih _ (by rw [List.append_assoc]; exact h), List.append_assoc]
    rfl

/-! ## the printed format -/

/-- the token files of a dictionary, read from the state after a key line with groups `kgp`:
every entry opens its groups again from some depth `i` up to the common prefix with the key
before, then gives its key line -/
inductive Rendering : List Str → Dict → List Line → Prop
  | nil (kgp : List Str) : Rendering kgp [] []
  | cons {kgp : List Str} {k v : Str} {rest : Dict} {ls : List Line} (i : Nat)
      (hi : i ≤ lcp kgp (groups k)) (h : Rendering (groups k) rest ls) :
      Rendering kgp ((k, v) :: rest)
        (headers (2 * i) ((groups k).drop i) ++ ⟨2 * (groups k).length, (splitKey k).2, v⟩ :: ls)

theorem Rendering.parseLines_eq {kgp : List Str} {rest : Dict} {ls : List Line}
    (h : Rendering kgp rest ls) (hv : ∀ kv ∈ rest, kv.2 ≠ []) (D : Dict) :
    (parseLines (closed kgp D) ls).map (·.dict) =
      some (rest.foldl (fun D kv => D.insert kv.1 kv.2) D) := by
  induction h generalizing D with
  | nil => rfl
  | @cons kgp k v rest ls i hi _ ih =>
    rw [List.append_cons, parseLines_append,
      parseLines_entry kgp (groups k) D i _ v hi (hv _ List.mem_cons_self), joinKey_splitKey]
    exact ih (fun kv hkv => hv kv (List.mem_cons_of_mem _ hkv)) (D.insert k v)

theorem Rendering.parse_eq {d : Dict} {ls : List Line} (h : Rendering [] d ls) (hs : Sorted d)
    (hv : ∀ kv ∈ d, kv.2 ≠ []) : parse ls = some d :=
  (h.parseLines_eq hv []).trans (congrArg some (foldl_insert_sorted [] d hs))

/-- `g` = the printer's stack (possibly with stale entries), `kgp` = groups of the key printed
last.  `hinv`: no later key shares a longer prefix with the stack than the last key does; `hmono`:
going down the list the common group prefix with the last key never grows again (group members
are contiguous in a `std::map`: `lcp_groups_mono` gives it again for the next key). -/
theorem printAll_rendering (rest : Dict) (g kgp : List Str) (hs : Sorted rest)
    (hinv : ∀ kv ∈ rest, lcp g (groups kv.1) ≤ lcp g kgp)
    (hmono : rest.Pairwise fun a b => lcp kgp (groups b.1) ≤ lcp kgp (groups a.1)) :
    Rendering kgp rest (printAll g rest) := by
  induction rest generalizing g kgp with
  | nil => exact .nil kgp
  | cons kv rest ih =>
    rcases kv with ⟨k, v⟩
    obtain ⟨m, hm1, hm2, hpe⟩ := printEntry_spec g k
    obtain ⟨hk, hs'⟩ := List.pairwise_cons.1 hs
    -- the common prefix of stack and key is also a common prefix with the groups of the last key
    have hi : lcp g (groups k) ≤ lcp kgp (groups k) :=
      le_lcp_trans (le_lcp_comm (hinv (k, v) List.mem_cons_self)) (Nat.le_refl _)
    show Rendering kgp _ (match printEntry g k v with | (g', ls) => ls ++ printAll g' rest)
    rw [hpe v]
    simp only [List.append_assoc, List.singleton_append]
    exact .cons _ hi (ih _ _ hs'
      (fun kv' hkv' => lcp_stack_step g (groups k) kgp (groups kv'.1) m hm1 hm2
        (hinv kv' (List.mem_cons_of_mem _ hkv')) ((List.pairwise_cons.1 hmono).1 kv' hkv'))
      (hs'.imp_of_mem fun ha _ hab => lcp_groups_mono k _ _ (hk _ ha) hab))

theorem print_rendering (d : Dict) (hs : Sorted d) : Rendering [] d (print d) :=
  have h0 : ∀ c : List Str, lcp [] c ≤ 0 := fun c => Nat.le_of_eq (lcp_nil_left c)
  printAll_rendering d [] [] hs (fun _ _ => Nat.le_trans (h0 _) (Nat.zero_le _))
    (List.pairwise_of_forall fun _ _ => Nat.le_trans (h0 _) (Nat.zero_le _))

/-! ## what the parser returns is a `std::map` with non-empty values -/

theorem mem_insert (k v : Str) (D : Dict) (x : Str × Str) (hx : x ∈ D.insert k v) :
    x = (k, v) ∨ x ∈ D := by
  induction D with
  | nil => exact Or.inl (List.mem_singleton.1 hx)
  | cons kv D ih =>
    rcases kv with ⟨k', v'⟩
    rw [Dict.insert] at hx
    split at hx
    · exact (List.mem_cons.1 hx).imp_right (List.mem_cons_of_mem _)
    · split at hx
      · exact List.mem_cons.1 hx
      · rcases List.mem_cons.1 hx with h | h
        · exact Or.inr (h ▸ List.mem_cons_self)
        · exact (ih h).imp_right (List.mem_cons_of_mem _)

theorem insert_sorted (k v : Str) (D : Dict) (h : Sorted D) : Sorted (D.insert k v) := by
  induction D with
  | nil => exact List.pairwise_singleton _ _
  | cons kv D ih =>
    rcases kv with ⟨k', v'⟩
    obtain ⟨h1, h2⟩ := List.pairwise_cons.1 h
    rw [Dict.insert]
    split
    · next hk => exact List.pairwise_cons.2 ⟨hk ▸ h1, h2⟩
    · next hk =>
      split
      · next hlt =>
        exact List.pairwise_cons.2
          ⟨List.forall_mem_cons.2 ⟨hlt, fun x hx => ltStr_trans _ _ _ hlt (h1 x hx)⟩, h⟩
      · next hnlt =>
        exact List.pairwise_cons.2 ⟨fun x hx => (mem_insert k v D x hx).elim
          (fun e => e ▸ ltStr_total k k' hk (Bool.not_eq_true _ ▸ hnlt)) (h1 x), ih h2⟩

/-- dictionaries the parser can produce -/
def WellFormed (d : Dict) : Prop := Sorted d ∧ ∀ kv ∈ d, kv.2 ≠ []

theorem insert_wellFormed (k v : Str) (hv : v ≠ []) (D : Dict) (h : WellFormed D) :
    WellFormed (D.insert k v) := by
  refine ⟨insert_sorted k v D h.1, ?_⟩
  intro x hx
  rcases mem_insert k v D x hx with rfl | hx
  · exact hv
  · exact h.2 x hx

/-- a line either leaves the dictionary alone (header) or stores its non-empty value under some key -/
theorem parseLine_wellFormed (s s' : PState) (l : Line) (h : parseLine s l = some s')
    (hw : WellFormed s.dict) : WellFormed s'.dict := by
  rw [parseLine_eq] at h
  obtain ⟨r, -, h⟩ := Option.bind_eq_some_iff.1 h
  split at h
  · cases h
  · split at h <;> cases h
    · exact hw
    · next hv => exact insert_wellFormed _ _ (fun e => hv (by rw [e]; rfl)) _ hw

theorem parseLines_wellFormed (ls : List Line) (s s' : PState) (h : parseLines s ls = some s')
    (hw : WellFormed s.dict) : WellFormed s'.dict := by
  induction ls generalizing s with
  | nil => cases h; exact hw
  | cons l ls ih =>
    rw [parseLines] at h
    cases hl : parseLine s l with
    | none => rw [hl] at h; cases h
    | some s1 => rw [hl] at h; exact ih s1 h (parseLine_wellFormed s s1 l hl hw)

theorem parse_wellFormed (ls : List Line) (d : Dict) (h : parse ls = some d) : WellFormed d := by
  obtain ⟨s, hs, rfl⟩ := Option.map_eq_some_iff.1 h
  exact parseLines_wellFormed ls {} s hs ⟨List.Pairwise.nil, fun _ h => nomatch h⟩

end CMacVerif.Yaml
