import CMacVerif.Lemmas.AtomicsFrame
/-!
C08 lemmas: calls that run without interference (one thread moves, nobody else does):
`Task::lock_dependency` in either context and the scan of `get_task` / `try_get_task` built on it.
-/
namespace CMacVerif.Atomics

/-- would `lock_dependency` of task `t` succeed on the lock flags `locks` (nobody interferes)? -/
def tryAll (cfg : Cfg) (locks : LockId → Bool) (t : Nat) : Bool :=
  match cfg.deps t with
  | (none, _) => true
  | (some a, none) => !locks (.dep a)
  | (some a, some b) => !locks (.dep a) && !(upd locks (.dep a) true (.dep b))

/-- lock flags after a successful `lock_dependency` -/
def lockedBy (cfg : Cfg) (locks : LockId → Bool) (t : Nat) : LockId → Bool :=
  match cfg.deps t with
  | (none, _) => locks
  | (some a, none) => upd locks (.dep a) true
  | (some a, some b) => upd (upd locks (.dep a) true) (.dep b) true

theorem lockDep_reach (cfg : Cfg) (m : Mem) (th : Thread) (c : Ctx) (t : Nat) (hpc : th.pc = .tlStart c t) :
    Reach cfg (m, th) (if tryAll cfg m.locks t then ({ m with locks := lockedBy cfg m.locks t }, tlSucc c t th)
                       else (m, tlFail c t th)) := by
  -- the program counter inside the call is overwritten when it returns
  have hS : ∀ pc, tlSucc c t { th with pc := pc } = tlSucc c t th := fun pc => by cases c <;> rfl
  have hF : ∀ pc, tlFail c t { th with pc := pc } = tlFail c t th := fun pc => by cases c <;> rfl
  rcases hd : cfg.deps t with ⟨_ | a, d1⟩
  · exact .sched (.noDependency c t (by rw [hd])) hpc (.of_eq (by simp [tryAll, lockedBy, hd]))
  refine .sched (.hasDependency c t a (by rw [hd])) hpc ?_
  cases hla : m.locks (.dep a) with
  | true => exact .sched (.firstBusy c t a d1 hd hla) rfl (.of_eq (by cases d1 <;> simp [tryAll, hd, hla, hF]))
  | false =>
    cases d1 with
    | none =>
      exact .sched (.onlyLock c t a hd hla) rfl (.of_eq (by simp [tryAll, lockedBy, hd, hla, hS, Mem.lock]))
    | some b =>
      refine .sched (.firstOfTwo c t a b hd hla) rfl ?_
      cases hlb : upd m.locks (.dep a) true (.dep b) with
      | false =>
        exact .sched (.secondLock c t a b hd hlb) rfl
          (.of_eq (by simp [tryAll, lockedBy, hd, hla, hlb, hS, Mem.lock]))
      | true =>
        -- the second lock is taken: the first is given back
        have := upd_upd_self m.locks (.dep a) true
        rw [hla] at this
        exact .sched (.secondBusy c t a b hd hlb) rfl <| .sched (.rollBack c t a _ hd) rfl
          (.of_eq (by simp [tryAll, hd, hla, hlb, hF, Mem.lock, Mem.unlock, this]))

/-- all locks task `x` declares are free (and it does not declare the same lock twice) -/
def Lockable (cfg : Cfg) (locks : LockId → Bool) (x : Nat) : Prop :=
  match cfg.deps x with
  | (none, _) => True
  | (some a, none) => locks (.dep a) = false
  | (some a, some b) => a ≠ b ∧ locks (.dep a) = false ∧ locks (.dep b) = false

theorem tryAll_of_lockable (cfg : Cfg) (locks : LockId → Bool) (x : Nat) (h : Lockable cfg locks x) :
    tryAll cfg locks x = true := by
  unfold Lockable at h
  unfold tryAll
  rcases hd : cfg.deps x with ⟨_ | a, _ | b⟩ <;> simp only [hd] at h ⊢
  · rw [h]; rfl
  · obtain ⟨hab, ha, hb⟩ := h
    rw [ha, upd_other _ _ _ _ (fun e => hab (by cases e; rfl)), hb]; rfl

/-- the scan of a pop from position `i`, nobody interfering: it ends at the unlock of the queue lock, and if it
found no task, memory and locals are as they were and no entry below `i` was lockable -/
theorem scan_reach (cfg : Cfg) (q : Nat) (i : Nat) : ∀ (m : Mem) (th : Thread), th.pc = .popScan q i →
    i ≤ (m.items q).length →
    ∃ m' th' r, Reach cfg (m, th) (m', th') ∧ th'.pc = .popUnlock q r ∧ th'.res = th.res ∧
      (r = none → m' = m ∧ th'.tasks = th.tasks ∧ th'.held = th.held ∧
        ∀ j x, j < i → (m.items q)[j]? = some x → ¬ Lockable cfg m.locks x) := by
  induction i with
  | zero =>
    intro m th hpc _
    exact ⟨_, _, none, .sched (.scanExhausted q 0 (Or.inl rfl)) hpc (.of_eq rfl), rfl, rfl,
      fun _ => ⟨rfl, rfl, rfl, fun j x hj => by omega⟩⟩
  | succ i ih =>
    intro m th hpc hlen
    obtain ⟨t, ht⟩ : ∃ t, (m.items q)[i]? = some t := ⟨_, List.getElem?_eq_getElem (by omega)⟩
    have h1 := Reach.sched (.scanCandidate q (i + 1) t (by omega) ht) hpc
      (lockDep_reach cfg m _ (.pop q (i + 1)) t rfl)
    cases htry : tryAll cfg m.locks t <;> rw [htry] at h1
    · -- it cannot be locked and everything is as before: go on with the next candidate
      obtain ⟨m', th', r, h2, hpc', hres', hnone⟩ :=
        ih m _ (show (tlFail (.pop q (i + 1)) t _).pc = _ from rfl) (by omega)
      refine ⟨m', th', r, h1.trans h2, hpc', hres', fun hr => ?_⟩
      obtain ⟨hmem, htasks, hheld, hnolock⟩ := hnone hr
      refine ⟨hmem, htasks, hheld, fun j x hj hjx hl => ?_⟩
      rcases Nat.lt_or_ge j i with hji | hji
      · exact hnolock j x hji hjx hl
      · obtain rfl : j = i := by omega
        rw [ht] at hjx; cases hjx
        rw [tryAll_of_lockable cfg _ _ hl] at htry; cases htry
    · -- its locks are taken: it is removed and returned
      exact ⟨_, _, some t, h1.trans (.sched (.takeEntry q i t t ht) rfl (.of_eq rfl)), rfl, rfl, nofun⟩

end CMacVerif.Atomics
