import CMacVerif.Lemmas.AMRTravGeom
/-! The jump to the neighbouring leaf in the AMR traversal over `ℝ` (C16): descent by position
into a refined neighbour, periodic correction, under the geometric description `NgbGeo` of the
neighbour pointers (proved from `set_ngbs` in `Lemmas/AMRNgbs.lean`). -/
namespace CMacVerif.AMRT
open CMacVerif.GridNum CMacVerif.AMR
open CMacVerif.Axis (forall_lt_three)

theorem treeAt_nil (t : Tree) : treeAt t [] = some t := by cases t <;> rfl

theorem treeAt_append (t : Tree) : ∀ π ρ : List Nat, treeAt t (π ++ ρ) = (treeAt t π).bind (treeAt · ρ) := by
  induction t with
  | leaf =>
    intro π ρ
    cases π with
    | nil => simp [treeAt_nil]
    | cons i r => simp [treeAt]
  | node ch ih =>
    intro π ρ
    cases π with
    | nil => simp [treeAt_nil]
    | cons i r => simp only [List.cons_append, treeAt]; exact ih _ r ρ

theorem boxOfPath_append (π : List Nat) : ∀ (b : Box3 ℝ) (k : Nat),
    boxOfPath b (π ++ [k]) = childBox (boxOfPath b π) (k / 4 % 2) (k / 2 % 2) (k % 2) := by
  induction π with
  | nil => intro b k; rfl
  | cons i r ih => intro b k; simp only [List.cons_append, boxOfPath]; exact ih _ k

theorem refBox_snoc (G : AGrid ℝ) (r : Ref) (k : Nat) :
    refBox G (r.snoc k) = childBox (refBox G r) (k / 4 % 2) (k / 2 % 2) (k % 2) := by
  unfold refBox Ref.snoc; exact boxOfPath_append _ _ _

theorem cellAt_snoc (G : AGrid ℝ) (r : Ref) (k : Nat) (c : Fin 8 → Tree) (h : cellAt G.g r = some (.node c)) :
    cellAt G.g (r.snoc k) = some (kid c k) := by
  unfold cellAt Ref.snoc at *
  rw [treeAt_append, h]; simp [treeAt, treeAt_nil, kid]

theorem posBox_posB (b : Box3 ℝ) (h : PosBox b) : PosB b := forall_lt_three h.1 h.2.1 h.2.2

theorem posB_posBox (b : Box3 ℝ) (h : PosB b) : PosBox b := ⟨h 0 (by decide), h 1 (by decide), h 2 (by decide)⟩

theorem posB_child (b : Box3 ℝ) (hb : PosB b) (i j k : Nat) : PosB (childBox b i j k) :=
  posBox_posB _ (childBox_pos b (posB_posBox b hb) i j k)

theorem posB_boxOfPath (π : List Nat) : ∀ b : Box3 ℝ, PosB b → PosB (boxOfPath b π) := by
  induction π with
  | nil => intro b h; exact h
  | cons i r ih => intro b h; exact ih _ (posB_child b h _ _ _)

theorem posB_refBox (G : AGrid ℝ) (hb : PosBox G.box) (hx : 0 < G.g.nx) (hy : 0 < G.g.ny) (hz : 0 < G.g.nz)
    (r : Ref) : PosB (refBox G r) :=
  posB_boxOfPath _ _ (posBox_posB _ (blockBox_pos G.g G.box hx hy hz hb _ _ _))

/-- `get_child(position)`, one axis -/
theorem upperHalf_closed (a s p : ℝ) (h : a ≤ p ∧ p ≤ a + s) :
    a + (OfInt.ofNat (if p > a + 0.5 * s then 1 else 0) : ℝ) * (s * 0.5) ≤ p ∧
      p ≤ a + (OfInt.ofNat (if p > a + 0.5 * s then 1 else 0) : ℝ) * (s * 0.5) + s * 0.5 := by
  obtain ⟨h1, h2⟩ := h
  rw [mul_comm 0.5 s]
  split_ifs with hm
  · rw [ofNat_real, Nat.cast_one, one_mul, add_assoc, show s * 0.5 + s * 0.5 = s by ring]; exact ⟨hm.le, h2⟩
  · rw [ofNat_real, Nat.cast_zero, zero_mul, add_zero]; exact ⟨h1, not_lt.1 hm⟩

theorem child_closed (b : Box3 ℝ) (p : V3 ℝ) (hp : Closed b p) :
    Closed (childBox b (if p.x > b.ax + 0.5 * b.sx then 1 else 0) (if p.y > b.ay + 0.5 * b.sy then 1 else 0)
      (if p.z > b.az + 0.5 * b.sz then 1 else 0)) p :=
  forall_lt_three (upperHalf_closed b.ax b.sx p.x (hp 0 (by decide))) (upperHalf_closed b.ay b.sy p.y (hp 1 (by decide)))
    (upperHalf_closed b.az b.sz p.z (hp 2 (by decide)))

theorem descendChild_node (c : Fin 8 → Tree) (n : Ref) (b : Box3 ℝ) (p : V3 ℝ) {ix iy iz : Nat}
    (hx : (if p.x > b.ax + 0.5 * b.sx then 1 else 0) = ix) (hy : (if p.y > b.ay + 0.5 * b.sy then 1 else 0) = iy)
    (hz : (if p.z > b.az + 0.5 * b.sz then 1 else 0) = iz) :
    descendChild (.node c) n b p
      = descendChild (kid c (4 * ix + 2 * iy + iz)) (n.snoc (4 * ix + 2 * iy + iz)) (childBox b ix iy iz) p := by
  subst hx hy hz; rfl

def InGrid (G : AGrid ℝ) (r : Ref) : Prop := r.bx < G.g.nx ∧ r.by' < G.g.ny ∧ r.bz < G.g.nz

/-- `r` is a single cell of a block of the grid and `p` lies in its closed box: where `interact` holds a photon
at `p` with `current_cell = r` -/
structure LeafAt (G : AGrid ℝ) (r : Ref) (p : V3 ℝ) : Prop where
  leaf : cellAt G.g r = some .leaf
  ingrid : InGrid G r
  pos : PosB (refBox G r)
  mem : Closed (refBox G r) p

/-- the descent `while (!is_single_cell()) cell = cell->get_child(position)` ends in a leaf whose
closed box contains the position -/
theorem descendChild_spec (G : AGrid ℝ) (t : Tree) : ∀ (n : Ref) (p : V3 ℝ), cellAt G.g n = some t →
    InGrid G n → PosB (refBox G n) → Closed (refBox G n) p → LeafAt G (descendChild t n (refBox G n) p) p := by
  induction t using Tree.kid_induction with
  | leaf => intro n p h hg hb hp; exact ⟨h, hg, hb, hp⟩
  | node c ih =>
    intro n p h hg hb hp
    have hc := child_closed (refBox G n) p hp
    rw [descendChild_node c n _ p rfl rfl rfl]
    generalize hx : (if p.x > (refBox G n).ax + 0.5 * (refBox G n).sx then 1 else 0 : Nat) = ix at hc ⊢
    generalize hy : (if p.y > (refBox G n).ay + 0.5 * (refBox G n).sy then 1 else 0 : Nat) = iy at hc ⊢
    generalize hz : (if p.z > (refBox G n).az + 0.5 * (refBox G n).sz then 1 else 0 : Nat) = iz at hc ⊢
    obtain ⟨e1, e2, e3, _⟩ := cell_bits ix iy iz (by rw [← hx]; split <;> omega) (by rw [← hy]; split <;> omega)
      (by rw [← hz]; split <;> omega)
    have hbox : refBox G (n.snoc (4 * ix + 2 * iy + iz)) = childBox (refBox G n) ix iy iz := by
      rw [refBox_snoc, e1, e2, e3]
    have := ih (4 * ix + 2 * iy + iz) (n.snoc (4 * ix + 2 * iy + iz)) p (cellAt_snoc G n _ c h) hg
      (by rw [hbox]; exact posB_child _ hb _ _ _) (by rw [hbox]; exact hc)
    rwa [hbox] at this

def per (G : AGrid ℝ) (a : Nat) : Bool := if a = 0 then G.px else if a = 1 then G.py else G.pz

/-- no leaf spans the whole box along a periodic axis (such a cell is its own neighbour: the code then never
wraps the position and spins with `ds = 0`) -/
def Narrow (G : AGrid ℝ) : Prop :=
  ∀ r, cellAt G.g r = some .leaf → ∀ a, a < 3 → per G a = true → bsd (refBox G r) a < bsd G.box a

/-- the shift between a cell's wall and the near wall of its neighbour: none, or one box length
across a periodic boundary -/
def ShiftOK (G : AGrid ℝ) (a : Nat) (up : Bool) (σ : ℝ) : Prop :=
  σ = 0 ∨ (per G a = true ∧ up = true ∧ σ = -(bsd G.box a)) ∨ (per G a = true ∧ up = false ∧ σ = bsd G.box a)

/-- geometric relation between a cell (box `B`) and its neighbour (box `Nb`) across the wall of
axis `a` in direction `up`: the near wall of the neighbour is the wall of the cell (modulo the
periodic shift) and the neighbour covers the cell's wall in the other two directions -/
def FaceRel (G : AGrid ℝ) (B Nb : Box3 ℝ) (a : Nat) (up : Bool) : Prop :=
  ∃ σ, ShiftOK G a up σ ∧ (up = true → blo Nb a = blo B a + bsd B a + σ) ∧
    (up = false → blo Nb a + bsd Nb a = blo B a + σ) ∧
    ∀ a', a' < 3 → a' ≠ a → blo Nb a' ≤ blo B a' ∧ blo B a' + bsd B a' ≤ blo Nb a' + bsd Nb a'

/-- what the traversal needs from the neighbour pointers of cell `r` (narrower than the box along a
periodic axis: the sign of the anchor difference then tells whether the boundary was crossed) -/
def NgbGeo (G : AGrid ℝ) (r : Ref) : Prop :=
  ∀ f n, ngb G.g G.px G.py G.pz r f = some n →
    (∃ t, cellAt G.g n = some t) ∧ InGrid G n ∧ PosB (refBox G n) ∧ FaceRel G (refBox G r) (refBox G n) f.axis f.up ∧
    (per G f.axis = true → bsd (refBox G n) f.axis < bsd G.box f.axis)

theorem faceOf_axis (up : Bool) : ∀ c, c < 3 → (faceOf c up).axis = c ∧ (faceOf c up).up = up := by
  cases up <;> exact forall_lt_three ⟨rfl, rfl⟩ ⟨rfl, rfl⟩ ⟨rfl, rfl⟩

/-- the components of `periodic_correction` as a function of the neighbour found -/
noncomputable def corrOf (G : AGrid ℝ) (B Nb : Box3 ℝ) (c : Nat) (up : Bool) (moving : Prop) [Decidable moving] : V3 ℝ :=
  ⟨periodicCorr G.px (c = 0 ∧ moving) up Nb.ax B.ax G.box.sx, periodicCorr G.py (c = 1 ∧ moving) up Nb.ay B.ay G.box.sy,
   periodicCorr G.pz (c = 2 ∧ moving) up Nb.az B.az G.box.sz⟩

def vadd (p q : V3 ℝ) : V3 ℝ := ⟨p.x + q.x, p.y + q.y, p.z + q.z⟩

theorem vget_vadd (p q : V3 ℝ) (a : Nat) : vget (vadd p q) a = vget p a + vget q a := by
  unfold vget vadd; split_ifs <;> rfl

/-- `get_wall_intersection` over the axis-indexed quantities (`c` a variable, for use under `set`) -/
theorem wallIntersection_eq (big : ℝ) (G : AGrid ℝ) (o d : V3 ℝ) (r : Ref) (c : Nat)
    (hc : c = hitAxis big (refBox G r) o d) :
    wallIntersection big G o d r =
      match ngb G.g G.px G.py G.pz r (faceOf c (decide (¬ vget d c < 0))) with
      | none => ⟨along o d (wp big (refBox G r) o d c), Real.sqrt (wd big (refBox G r) o d c), c,
          decide (¬ vget d c < 0), none, ⟨0, 0, 0⟩⟩
      | some n => ⟨along o d (wp big (refBox G r) o d c), Real.sqrt (wd big (refBox G r) o d c), c,
          decide (¬ vget d c < 0),
          some (match cellAt G.g n with
            | some t => descendChild t n (refBox G n) (vadd (along o d (wp big (refBox G r) o d c))
                (corrOf G (refBox G r) (refBox G n) c (decide (¬ vget d c < 0)) (vget d c > 0 ∨ vget d c < 0)))
            | none => n),
          corrOf G (refBox G r) (refBox G n) c (decide (¬ vget d c < 0)) (vget d c > 0 ∨ vget d c < 0)⟩ := by
  have h3 : c < 3 := by rw [hc]; exact hitAxis_lt _ _ _ _
  unfold wallIntersection
  simp only [lit0]
  generalize hax : chooseAxis (α := ℝ) _ _ _ = ax
  obtain rfl : c = ax := hc.trans hax
  -- at a literal axis both sides are the same up to unfolding
  rcases (by omega : c = 0 ∨ c = 1 ∨ c = 2) with rfl | rfl | rfl <;> unfold vget <;>
    cases ngb _ _ _ _ _ _ <;> rfl

theorem periodicCorr_eq {p up : Bool} {nlo nsd lo sd S σ : ℝ} (hb : 0 < sd) (hn : 0 < nsd)
    (hnarrowB : p = true → sd < S) (hnarrowN : p = true → nsd < S)
    (hσ : σ = 0 ∨ (p = true ∧ up = true ∧ σ = -S) ∨ (p = true ∧ up = false ∧ σ = S))
    (h1 : up = true → nlo = lo + sd + σ) (h2 : up = false → nlo + nsd = lo + σ) :
    periodicCorr p true up nlo lo S = σ := by
  unfold periodicCorr
  rw [lit0]
  rcases hσ with rfl | ⟨hp, hu, rfl⟩ | ⟨hp, hu, rfl⟩
  · split_ifs with _ h3 h4
    · have := h1 h3.1; linarith [h3.2]
    · have := h2 (by simpa using h4.1); linarith [h4.2]
    · rfl
    · rfl
  · -- across the upper boundary
    have := h1 hu
    rw [if_pos ⟨hp, rfl⟩, if_pos ⟨hu, by linarith [hnarrowB hp]⟩]
  · -- across the lower boundary
    have := h2 hu
    rw [if_pos ⟨hp, rfl⟩, if_neg (by rw [hu]; simp), if_pos ⟨by rw [hu]; simp, by linarith [hnarrowN hp]⟩]

theorem periodicCorr_false (p up : Bool) (a b S : ℝ) : periodicCorr p false up a b S = 0 := by
  unfold periodicCorr; simp [lit0]

theorem corrOf_get (G : AGrid ℝ) (B Nb : Box3 ℝ) (c : Nat) (up : Bool) (moving : Prop) [Decidable moving] :
    ∀ a, a < 3 → vget (corrOf G B Nb c up moving) a
      = periodicCorr (per G a) (decide (c = a ∧ moving)) up (blo Nb a) (blo B a) (bsd G.box a) :=
  forall_lt_three rfl rfl rfl

theorem closed_shift (B Nb : Box3 ℝ) (w k : V3 ℝ) (c : Nat) (σ : ℝ) (hNb : 0 < bsd Nb c) (hw : Closed B w)
    (hk : ∀ a, a < 3 → vget k a = if a = c then σ else 0)
    (hc : (vget w c = blo B c + bsd B c ∧ blo Nb c = blo B c + bsd B c + σ) ∨
      (vget w c = blo B c ∧ blo Nb c + bsd Nb c = blo B c + σ))
    (hcov : ∀ a, a < 3 → a ≠ c → blo Nb a ≤ blo B a ∧ blo B a + bsd B a ≤ blo Nb a + bsd Nb a) :
    Closed Nb (vadd w k) := by
  intro a ha
  rw [vget_vadd, hk a ha]
  obtain ⟨w1, w2⟩ := hw a ha
  by_cases hac : a = c
  · rw [if_pos hac, hac]
    rcases hc with ⟨e1, e2⟩ | ⟨e1, e2⟩ <;> rw [e1] <;> constructor <;> linarith
  · rw [if_neg hac]
    obtain ⟨q1, q2⟩ := hcov a ha hac
    constructor <;> linarith

/-- `get_wall_intersection` from a point of the closed box of a leaf with geometric neighbour pointers: the way to
the wall point stays in the cell, and the photon position after the wall (and after the periodic correction, whole
box lengths) lies in the closed box of the leaf it is handed to -/
theorem wallIntersection_spec (big : ℝ) (G : AGrid ℝ) (o d : V3 ℝ) (r : Ref) (hB : PosB (refBox G r))
    (hhit : HitOK big (refBox G r) o d) (hgeo : NgbGeo G r)
    (hnd : ∀ a, a < 3 → per G a = true → bsd (refBox G r) a < bsd G.box a) :
    ∃ l, 0 ≤ l ∧ (wallIntersection big G o d r).wall = along o d l ∧
      (wallIntersection big G o d r).ds = l * Real.sqrt (dnorm2 d) ∧
      (∀ l', 0 ≤ l' → l' ≤ l → Closed (refBox G r) (along o d l')) ∧
      (∀ a, a < 3 → ∃ k : Int, vget (wallIntersection big G o d r).corr a = k * bsd G.box a ∧ (per G a = false → k = 0)) ∧
      ∀ L, (wallIntersection big G o d r).next = some L →
        LeafAt G L (vadd (wallIntersection big G o d r).wall (wallIntersection big G o d r).corr) := by
  obtain ⟨hmove, hl0, hlmin, hup, hdown, hsqrt⟩ := hit_geom big (refBox G r) o d hhit
  set c := hitAxis big (refBox G r) o d with hc
  have hstay : ∀ l', 0 ≤ l' → l' ≤ wp big (refBox G r) o d c → Closed (refBox G r) (along o d l') :=
    fun l' h0 hl => closed_along big _ o d hhit.inside h0 fun a ha => hl.trans (hlmin a ha)
  have hc3 : c < 3 := hitAxis_lt big (refBox G r) o d
  obtain ⟨fa, fu⟩ := faceOf_axis (decide (¬ vget d c < 0)) c hc3
  refine ⟨wp big (refBox G r) o d c, hl0, ?_⟩
  rw [wallIntersection_eq big G o d r c hc, ← hsqrt]
  cases hn : ngb G.g G.px G.py G.pz r (faceOf c (decide (¬ vget d c < 0))) with
  | none =>
    exact ⟨rfl, rfl, hstay, fun a ha => ⟨0, by
      rw [forall_lt_three (P := fun a => vget (⟨0, 0, 0⟩ : V3 ℝ) a = 0) rfl rfl rfl a ha]; simp, fun _ => rfl⟩,
      fun L hL => by simp at hL⟩
  | some n =>
    obtain ⟨⟨t, ht⟩, hNin, hNpos, ⟨σ, hσ, r1, r2, rcov⟩, hNnarrow⟩ := hgeo _ n hn
    rw [fa] at r1 r2 rcov hσ hNnarrow
    rw [fu] at r1 r2 hσ
    have hmoving : vget d c > 0 ∨ vget d c < 0 := (lt_or_gt_of_ne hmove).symm
    set K := corrOf G (refBox G r) (refBox G n) c (decide (¬ vget d c < 0)) (vget d c > 0 ∨ vget d c < 0) with hK
    have hcorr : ∀ a, a < 3 → vget K a = if a = c then σ else 0 := by
      intro a ha
      rw [hK, corrOf_get G _ _ c _ _ a ha]
      by_cases hac : a = c
      · rw [if_pos hac, hac, decide_eq_true (⟨rfl, hmoving⟩ : c = c ∧ _)]
        exact periodicCorr_eq (hB c hc3) (hNpos c hc3) (hnd c hc3) hNnarrow hσ r1 r2
      · rw [if_neg hac, decide_eq_false (fun h => hac h.1.symm)]; exact periodicCorr_false _ _ _ _ _
    refine ⟨rfl, rfl, hstay, fun a ha => ?_, fun L hL => ?_⟩
    · show ∃ k : Int, vget K a = k * bsd G.box a ∧ _
      rw [hcorr a ha]
      by_cases hac : a = c
      · rw [if_pos hac, hac]
        rcases hσ with h | ⟨hp, _, h⟩ | ⟨hp, _, h⟩
        · exact ⟨0, by rw [h]; simp, fun _ => rfl⟩
        · exact ⟨-1, by rw [h]; simp, fun hf => by rw [hp] at hf; simp at hf⟩
        · exact ⟨1, by rw [h]; simp, fun hf => by rw [hp] at hf; simp at hf⟩
      · rw [if_neg hac]; exact ⟨0, by simp, fun _ => rfl⟩
    · simp only [ht, Option.some.injEq] at hL
      have htarget := closed_shift (refBox G r) (refBox G n) _ K c σ (hNpos c hc3) (hstay _ hl0 le_rfl) hcorr
        ((lt_or_gt_of_ne hmove).elim (fun hneg => Or.inr ⟨hdown hneg, r2 (by simp [hneg])⟩)
          (fun hpos => Or.inl ⟨hup hpos, r1 (by simp [not_lt.mpr hpos.le])⟩)) rcov
      exact hL ▸ descendChild_spec G t n _ ht hNin hNpos htarget

end CMacVerif.AMRT
