import CMacVerif.Lemmas.AtomicsQueue
import CMacVerif.Model.AtomicsSpec
import CMacVerif.Model.Worker
/-!
C08 lemmas: the set of *running* tasks and the refinement of the task-level
`acquire` / `finishExec` of C07's `Model/Worker.lean` (and C01) by the single-atomic-operation
model.

A thread *runs* task `t` from the atomic operation that took the last lock of `t` (inside a pop,
or in a direct `lock_dependency`) until the first unlock of `unlock_dependency(t)`.
-/
namespace CMacVerif.Atomics

/-- task in the transient part of the running interval -/
def pcRunning (cfg : Cfg) : PC → Option Nat
  | .popRemove _ _ t => some t
  | .tuStart t => some t
  | .tu1 t => some t
  | .tu0 t => if (cfg.deps t).2 = none then some t else none
  | _ => none

/-- the tasks a thread runs -/
def runList (cfg : Cfg) (th : Thread) : List Nat := (pcRunning cfg th.pc).toList ++ th.tasks

/-- all running tasks of a state (with multiplicity) -/
def running (cfg : Cfg) (s : State) : List Nat := s.threads.flatMap (runList cfg)

/-- how many of the tasks in `l` declare lock `L` -/
def hsum (cfg : Cfg) (L : LockId) (l : List Nat) : Nat := (l.map (depsHold cfg · L)).sum

def runHold (cfg : Cfg) (L : LockId) (th : Thread) : Nat := hsum cfg L (runList cfg th)

theorem hsum_append (cfg : Cfg) (L : LockId) (a b : List Nat) :
    hsum cfg L (a ++ b) = hsum cfg L a + hsum cfg L b := by simp [hsum]

theorem hsum_tasks (cfg : Cfg) (L : LockId) (l : List Nat) : hsum cfg L l = tasksHold cfg l L := rfl

/-- a thread holds every lock of every task it runs -/
theorem runHold_le_holdL (cfg : Cfg) (L : LockId) (th : Thread) : runHold cfg L th ≤ holdL cfg L th := by
  unfold runHold runList holdL
  rw [hsum_append]
  have e := hsum_tasks cfg L th.tasks
  have : hsum cfg L (pcRunning cfg th.pc).toList ≤ pcHoldL cfg th.pc L := by
    cases th.pc
    case popRemove q j t => exact Nat.le_add_left _ _
    case tuStart t | tu1 t => exact Nat.le_refl _
    -- at `tu0` a task with two locks has given one back and no longer counts as running (the `if` in `pcRunning`); one
    -- with a single lock still does, and for it `dep0Hold` is `depsHold`
    case tu0 t => rcases hd : cfg.deps t with ⟨_ | a, _ | b⟩ <;> simp [pcRunning, pcHoldL, hsum, hd, depsHold, dep0Hold]
    all_goals exact Nat.zero_le _
  omega

/-- **at most one running task declares any given lock** (sum form) -/
theorem runHold_sum_le_one (cfg : Cfg) (s : State) (h : LockInv cfg s) (L : LockId) :
    sumT (runHold cfg L) s.threads ≤ 1 := by
  have h1 := sumT_le (runHold cfg L) (holdL cfg L) s.threads (fun th _ => runHold_le_holdL cfg L th)
  have h2 := h L
  have := Bool.toNat_le (s.mem.locks L)
  omega

theorem hsum_running (cfg : Cfg) (L : LockId) (l : List Thread) :
    hsum cfg L (l.flatMap (runList cfg)) = sumT (runHold cfg L) l := by
  induction l with
  | nil => rfl
  | cons a l ih => simp only [List.flatMap_cons, hsum_append, ih, sumT_cons, runHold]

theorem mem_lockset (cfg : Cfg) (t r : Nat) : r ∈ lockset cfg t → 1 ≤ depsHold cfg t (.dep r) := by
  unfold lockset depsHold
  rcases cfg.deps t with ⟨_ | a, _ | b⟩ <;> simp [ind]
  · intro h; subst h; simp
  · intro h; rcases h with rfl | rfl <;> simp <;> omega

theorem conflict_elim (cfg : Cfg) (a b : Nat) (h : conflict cfg a b = true) :
    ∃ r, 1 ≤ depsHold cfg a (.dep r) ∧ 1 ≤ depsHold cfg b (.dep r) := by
  unfold conflict at h
  simp only [List.any_eq_true, List.contains_iff_mem] at h
  obtain ⟨r, hr, hb⟩ := h
  exact ⟨r, mem_lockset cfg a r hr, mem_lockset cfg b r hb⟩

/-- a list of tasks in which every lock is declared at most once is pairwise conflict-free -/
theorem pairwise_of_hsum (cfg : Cfg) (l : List Nat) (h : ∀ L, hsum cfg L l ≤ 1) :
    l.Pairwise (fun a b => conflict cfg a b = false) := by
  induction l with
  | nil => exact List.Pairwise.nil
  | cons a l ih =>
    refine List.Pairwise.cons ?_ (ih (fun L => ?_))
    · intro b hb
      cases hc : conflict cfg a b
      · rfl
      · obtain ⟨r, ha, hb'⟩ := conflict_elim cfg a b hc
        have h1 := h (.dep r)
        have h2 := depsHold_le_tasksHold cfg l b (.dep r) hb
        simp only [hsum, tasksHold, List.map_cons, List.sum_cons] at h1 h2
        omega
    · have := h L
      simp only [hsum, List.map_cons, List.sum_cons] at this ⊢
      omega

/-- the task table as a `Worker.Graph`, for `Worker.conflicts` only: that reads `lockset` and nothing else; `univ` is
empty, so this is no graph to run `Worker.step` on -/
def graphOf (cfg : Cfg) : Worker.Graph Nat Nat :=
  { univ := [], children := cfg.children, parents := fun _ => [], lockset := lockset cfg }

theorem conflicts_graphOf (cfg : Cfg) (a b : Nat) : Worker.conflicts (graphOf cfg) a b = conflict cfg a b := rfl

open Spec

/-- how often `th` runs task `x` -/
def runW (cfg : Cfg) (x : Nat) (th : Thread) : Nat := (runList cfg th).count x

/-- `labPlus`, `labMinus`, `labAcqQ`, `labAddQ`: the changes `Spec.Step` asks for, label by label, as 0/1 weights.
`labPlus l x`: the label starts a run of `x` (`acquire`, `take`) -/
def labPlus (l : Option Label) (x : Nat) : Nat :=
  match l with
  | some (.acquire _ t) => ind (x = t)
  | some (.take t) => ind (x = t)
  | _ => 0

def labMinus (l : Option Label) (x : Nat) : Nat :=
  match l with
  | some (.finish t) => ind (x = t)
  | _ => 0

theorem runW_dispatch (cfg : Cfg) (x : Nat) (th : Thread) (c : Cmd) (hpc : th.pc = .idle) :
    runW cfg x (dispatch cfg th c) = runW cfg x th := by
  obtain ⟨pc, prog, owned, held, tasks⟩ := th
  cases hpc
  cases c <;> simp only [dispatch]
  case unlockTask j =>
    split
    · rename_i t ht
      have := count_erase_add tasks t x (pick_mem _ _ _ ht)
      simp only [runW, runList, pcRunning, Option.toList, List.cons_append, List.nil_append, count_cons_ind]
      omega
    · rfl
  all_goals (repeat' split) <;> rfl

theorem pcRunning_of_part (cfg : Cfg) (pc : PC) (h : pc.part ≠ some .sched) : pcRunning cfg pc = none := by
  cases pc <;> first | rfl | exact absurd rfl h

theorem runW_tlSucc (cfg : Cfg) (x : Nat) (c : Ctx) (t : Nat) (th : Thread) :
    runW cfg x (tlSucc c t th) = th.tasks.count x + ind (x = t) := by
  cases c <;> exact count_cons_ind _ _ _

theorem runW_tlFail (cfg : Cfg) (x : Nat) (c : Ctx) (t : Nat) (th : Thread) :
    runW cfg x (tlFail c t th) = th.tasks.count x := by
  cases c <;> rfl

theorem labPlus_acqLabel (c : Ctx) (t x : Nat) : labPlus (some (acqLabel c t)) x = ind (x = t) := by
  cases c <;> rfl

theorem labMinus_acqLabel (c : Ctx) (t x : Nat) : labMinus (some (acqLabel c t)) x = 0 := by
  cases c <;> rfl

theorem exec_runW (cfg : Cfg) (m : Mem) (th : Thread) (x : Nat) :
    runW cfg x (exec cfg m th).2 + labMinus (lab cfg m th) x = runW cfg x th + labPlus (lab cfg m th) x := by
  refine exec_sched_cases cfg m th (fun _ _ => rfl)
    (fun c rest hpc _ => congrArg (· + 0) (runW_dispatch cfg x _ c hpc))
    ?own fun hs hold hnew => ?other
  case own =>
    rintro th pc l r rfl hs
    cases hs
    case noDependency c t _ | onlyLock c t a _ _ | firstAbsent c t d1 _ | secondLock c t a b _ _ | secondAbsent c t a _
        | bothAbsent c t d1 _ => simp only [runW_tlSucc, labPlus_acqLabel, labMinus_acqLabel]; rfl
    case firstBusy c t a d1 _ _ | rollBack c t a d1 _ | rollBackNothing c t d1 _ => simp only [runW_tlFail]; rfl
    -- `unlock_dependency(t)`: `t` is running (`pcRunning`) up to the rule labelled `finish t`, the first unlock: for a
    -- task with two locks that is `unlockSecond`, so that `tu0` no longer counts it (the `if` in `pcRunning`)
    case nothingToUnlock t d1 hd | unlockSecond t a b hd | skipBoth t d1 hd | unlockOnly t a hd | noneToUnlock t hd =>
      simp [runW, runList, pcRunning, ret, labPlus, labMinus, count_cons_ind, hd]
    -- the unlabelled rules leave `pcRunning` as it is
    case unlockFirst t a b hd | firstMissing t b hd | twoToUnlock t a b hd | oneToUnlock t a hd | skipSecond t a hd =>
      simp [runW, runList, pcRunning, ret, labPlus, labMinus, hd]
    case takeEntry q j t t' _ | entryGone q j t _ =>
      simp [runW, runList, pcRunning, labPlus, labMinus, count_cons_ind] <;> omega
    all_goals rfl
  case other =>
    unfold runW runList
    rw [hs.tasks, pcRunning_of_part cfg _ hnew, pcRunning_of_part cfg th.pc hold]
    rfl

/-- queue entry a thread has claimed (all locks taken) but not yet removed -/
def pcClaim : PC → Option (Nat × Nat)
  | .popRemove q _ t => some (q, t)
  | _ => none

/-- 1 if `th` has claimed an entry `x` of queue `q` -/
def claimW (q x : Nat) (th : Thread) : Nat :=
  match pcClaim th.pc with
  | some (q', t) => ind (q = q' ∧ x = t)
  | none => 0

def labAcqQ (l : Option Label) (q x : Nat) : Nat :=
  match l with
  | some (.acquire q' t) => ind (q = q' ∧ x = t)
  | _ => 0

def labAddQ (l : Option Label) (q x : Nat) : Nat :=
  match l with
  | some (.add q' t) => ind (q = q' ∧ x = t)
  | _ => 0

theorem pcClaim_of_part (pc : PC) (h : pc.part ≠ some .sched) : pcClaim pc = none := by
  cases pc <;> first | rfl | exact absurd rfl h

theorem claim_dispatch (cfg : Cfg) (th : Thread) (c : Cmd) : pcClaim (dispatch cfg th c).pc = none := by
  cases c <;> simp only [dispatch] <;> (repeat' split) <;> rfl

theorem claimW_tlSucc (q x : Nat) (c : Ctx) (t : Nat) (th : Thread) :
    claimW q x (tlSucc c t th) = labAcqQ (some (acqLabel c t)) q x := by
  cases c <;> rfl

theorem claimW_tlFail (q x : Nat) (c : Ctx) (t : Nat) (th : Thread) : claimW q x (tlFail c t th) = 0 := by
  cases c <;> rfl

theorem labAddQ_acqLabel (c : Ctx) (t q x : Nat) : labAddQ (some (acqLabel c t)) q x = 0 := by
  cases c <;> rfl

theorem exec_claimq (cfg : Cfg) (m : Mem) (th : Thread) (q x : Nat) (href : RefOk m th) :
    ((exec cfg m th).1.items q).count x + claimW q x th + labAcqQ (lab cfg m th) q x
      = (m.items q).count x + claimW q x (exec cfg m th).2 + labAddQ (lab cfg m th) q x := by
  refine exec_sched_cases cfg m th (fun _ _ => rfl)
    (fun c rest hpc _ => by simp only [claimW, claim_dispatch]; rw [hpc]; rfl)
    ?own fun hs hold hnew => ?other
  case own =>
    rintro th pc l r rfl hs
    cases hs
    case enqueue q' t k => simp only [claimW, pcClaim, labAcqQ, labAddQ, count_upd_append]; omega
    case takeEntry q' j t t' ht =>
      have := count_upd_eraseIdx m.items q q' x j t (href q' j t rfl)
      simp only [claimW, pcClaim, labAcqQ, labAddQ]; omega
    case entryGone q' j t hj => rw [href q' j t rfl] at hj; cases hj
    case noDependency c t _ | onlyLock c t a _ _ | firstAbsent c t d1 _ | secondLock c t a b _ _ | secondAbsent c t a _
        | bothAbsent c t d1 _ => simp only [claimW_tlSucc, labAddQ_acqLabel]; rfl
    case firstBusy c t a d1 _ _ | rollBack c t a d1 _ | rollBackNothing c t d1 _ => simp only [claimW_tlFail]; rfl
    all_goals rfl
  case other =>
    unfold claimW
    rw [hs.items, pcClaim_of_part _ hnew, pcClaim_of_part th.pc hold]
    rfl

/-- a step labelled `acquire` or `take` is the successful end of a `lock_dependency`: the thread is
inside it (it runs and claims nothing yet, and a pop still looks at the entry of `t`) and goes on
with `tlSucc` -/
theorem lab_cases (cfg : Cfg) (m : Mem) (th : Thread) (l : Label) (h : lab cfg m th = some l) :
    (∃ c t, l = acqLabel c t ∧ pcRunning cfg th.pc = none ∧ pcClaim th.pc = none ∧
      (∀ q i, c = .pop q i → pcQueueRef th.pc = some (q, i - 1, t)) ∧
      (exec cfg m th).2 = tlSucc c t th) ∨
    (∃ t, l = .finish t) ∨ (∃ q t, l = .add q t) := by
  revert h
  -- only a rule has a label; a rule without one is no case (`cases hl`)
  refine exec_sched_cases cfg m th nofun nofun ?_ nofun
  rintro th pc l' r rfl hs hl
  cases hs <;> cases hl
  case noDependency c t _ | onlyLock c t a _ _ | firstAbsent c t d1 _ | secondLock c t a b _ _ | secondAbsent c t a _
      | bothAbsent c t d1 _ => exact Or.inl ⟨c, t, rfl, rfl, rfl, fun q i hc => by subst hc; rfl, rfl⟩
  case enqueue q t k => exact Or.inr (Or.inr ⟨q, t, rfl⟩)
  all_goals exact Or.inr (Or.inl ⟨_, rfl⟩)

/-- at a linearisation point the task is put in front of the thread's running list -/
theorem exec_runList_acq (cfg : Cfg) (m : Mem) (th : Thread) (t : Nat)
    (h : 1 ≤ labPlus (lab cfg m th) t) : runList cfg (exec cfg m th).2 = t :: runList cfg th := by
  cases hl : lab cfg m th with
  | none => rw [hl] at h; cases h
  | some l =>
    rw [hl] at h
    obtain ⟨c, t', rfl, hr, -, -, he⟩ | ⟨t', rfl⟩ | ⟨q, t', rfl⟩ := lab_cases cfg m th l hl
    · have : t = t' := by
        rw [labPlus_acqLabel] at h; unfold ind at h; split at h
        · assumption
        · cases h
      subst this
      rw [he]; unfold runList; rw [hr]
      cases c <;> rfl
    · cases h
    · cases h

theorem claimW_le (cfg : Cfg) (q x : Nat) (th : Thread) : claimW q x th ≤ pcHoldL cfg th.pc (.queue q) := by
  unfold claimW
  cases hpc : th.pc <;> simp only [pcClaim, Nat.zero_le]
  case popRemove q' j t =>
    -- the claimed entry is in the queue whose lock the program counter holds
    show ind (q = q' ∧ x = t) ≤ ind (LockId.queue q = .queue q') + depsHold cfg t (.queue q)
    unfold ind
    split
    · rename_i h; rw [if_pos (by rw [h.1])]; omega
    · omega

theorem claimW_ref (q x : Nat) (th : Thread) (h : 1 ≤ claimW q x th) :
    ∃ j, pcQueueRef th.pc = some (q, j, x) := by
  unfold claimW at h
  cases hpc : th.pc <;> rw [hpc] at h <;> simp only [pcClaim, Nat.le_zero, Nat.one_ne_zero] at h
  case popRemove q' j t =>
    simp only [ind] at h
    split at h
    · rename_i hh; obtain ⟨rfl, rfl⟩ := hh; exact ⟨j, rfl⟩
    · omega

theorem lab_acquire_cases (cfg : Cfg) (m : Mem) (th : Thread) (q t : Nat)
    (h : lab cfg m th = some (.acquire q t)) :
    ∃ i, pcQueueRef th.pc = some (q, i - 1, t) ∧ pcClaim th.pc = none ∧
      (exec cfg m th).2 = tlSucc (.pop q i) t th := by
  obtain ⟨c, t', hl, -, hc, hq, he⟩ | ⟨t', hl⟩ | ⟨q', t', hl⟩ := lab_cases cfg m th _ h
  · cases c <;> cases hl
    exact ⟨_, hq _ _ rfl, hc, he⟩
  · cases hl
  · cases hl

/-- how often task `x` is running -/
def absRun (cfg : Cfg) (s : State) (x : Nat) : Nat := sumT (runW cfg x) s.threads
/-- how many entries `x` of queue `q` are claimed -/
def absK (s : State) (q x : Nat) : Nat := sumT (claimW q x) s.threads
/-- entries `x` of queue `q` that are not claimed -/
def absQueue (s : State) (q x : Nat) : Nat := (s.mem.items q).count x - absK s q x
/-- the abstract state of a concrete state: running multiset and queue multisets (a queue entry
claimed by a pop that already holds all its locks no longer counts as queued) -/
def abs (cfg : Cfg) (s : State) : AState := ⟨absRun cfg s, absQueue s⟩

/-- at most one thread has a claimed entry in a queue, and that entry is in the queue -/
theorem absK_le_count (cfg : Cfg) (s : State) (hl : LockInv cfg s) (hs : StabInv s) (q x : Nat) :
    absK s q x ≤ (s.mem.items q).count x := by
  by_cases h0 : absK s q x = 0
  · omega
  · obtain ⟨k, th, hk, hc⟩ := sumT_pos (claimW q x) s.threads (by unfold absK at h0; omega)
    obtain ⟨j, hj⟩ := claimW_ref q x th hc
    have hit := (hs k th hk).1 q j x hj
    have hcount : 1 ≤ (s.mem.items q).count x := List.count_pos_iff.mpr (List.mem_of_getElem? hit)
    have h1 : absK s q x ≤ sumT (holdL cfg (.queue q)) s.threads :=
      sumT_le _ _ _ (fun th _ => by
        have := claimW_le cfg q x th
        unfold holdL; omega)
    have := hl (.queue q)
    have := Bool.toNat_le (s.mem.locks (.queue q))
    omega

/-- a thread that holds the queue lock without a claim excludes every claim on that queue -/
theorem absK_zero (cfg : Cfg) (s : State) (hl : LockInv cfg s) (tid : Nat) (th : Thread)
    (hth : s.threads[tid]? = some th) (q x : Nat) (hh : 1 ≤ pcHoldL cfg th.pc (.queue q))
    (hc : claimW q x th = 0) : absK s q x = 0 := by
  by_cases h0 : absK s q x = 0
  · exact h0
  · obtain ⟨k, th2, hk, hc2⟩ := sumT_pos (claimW q x) s.threads (by unfold absK at h0; omega)
    have hne : tid ≠ k := by
      intro e; subst e; rw [hth] at hk; cases hk; omega
    have := hl.pc_excl (.queue q) hth hk hne hh
    have := claimW_le cfg q x th2
    omega

/-- **one concrete transition is a stuttering step or the abstract transition of its label** -/
theorem sim_step (cfg : Cfg) (s : State) (tid : Nat) (th : Thread)
    (hl : LockInv cfg s) (hs : StabInv s) (hth : s.threads[tid]? = some th) :
    match lab cfg s.mem th with
    | none => Same (abs cfg s) (abs cfg (step cfg s tid))
    | some l => Step cfg (abs cfg s) l (abs cfg (step cfg s tid)) := by
  have hl' := lockInv_step cfg s tid hl
  have hs' := stabInv_step cfg s tid hl hs
  have hR : ∀ x, absRun cfg (step cfg s tid) x + labMinus (lab cfg s.mem th) x
      = absRun cfg s x + labPlus (lab cfg s.mem th) x := by
    intro x
    have hf := sumT_set (runW cfg x) s.threads tid th (exec cfg s.mem th).2 hth
    have hloc := exec_runW cfg s.mem th x
    rw [step_some cfg s tid th hth]
    simp only [absRun]
    omega
  have hQ : ∀ q x, absQueue (step cfg s tid) q x + labAcqQ (lab cfg s.mem th) q x
      = absQueue s q x + labAddQ (lab cfg s.mem th) q x := by
    intro q x
    have hf := sumT_set (claimW q x) s.threads tid th (exec cfg s.mem th).2 hth
    have hloc := exec_claimq cfg s.mem th q x (hs tid th hth).1
    have h1 := absK_le_count cfg s hl hs q x
    have h2 := absK_le_count cfg (step cfg s tid) hl' hs' q x
    rw [step_some cfg s tid th hth] at h2 ⊢
    simp only [absQueue, absK] at *
    omega
  cases hlab : lab cfg s.mem th with
  | none =>
    rw [hlab] at hR hQ
    exact ⟨fun x => (hR x).symm, fun q x => (hQ q x).symm⟩
  | some l =>
    rw [hlab] at hR hQ
    -- the guard of acquire / take: no running task conflicts with t
    have hfree : ∀ t, 1 ≤ labPlus (some l) t → Free cfg (abs cfg s) t := by
      intro t ht u hu
      cases hc : conflict cfg t u
      · rfl
      · exfalso
        obtain ⟨r, hrt, hru⟩ := conflict_elim cfg t u hc
        obtain ⟨k, thk, hk, hrk⟩ := sumT_pos (runW cfg u) s.threads hu
        have h1 : depsHold cfg u (.dep r) ≤ runHold cfg (.dep r) thk :=
          depsHold_le_tasksHold cfg _ u (.dep r) (List.count_pos_iff.mp hrk)
        have h2 := le_sumT (runHold cfg (.dep r)) s.threads k thk hk
        have hacq := exec_runList_acq cfg s.mem th t (by rw [hlab]; exact ht)
        have h3 : runHold cfg (.dep r) (exec cfg s.mem th).2 = depsHold cfg t (.dep r) + runHold cfg (.dep r) th := by
          simp only [runHold, hacq, hsum, List.map_cons, List.sum_cons]
        have hf := sumT_set (runHold cfg (.dep r)) s.threads tid th (exec cfg s.mem th).2 hth
        have hpost := runHold_sum_le_one cfg (step cfg s tid) hl' (.dep r)
        rw [step_some cfg s tid th hth] at hpost
        simp only at hpost
        omega
    -- `labPlus` .. `labAddQ` are the changes `Step` asks for, label by label (`Spec.one` and `ind` are the same `ite`)
    cases l with
    | add q t => exact ⟨hR, hQ⟩
    | acquire q t =>
      obtain ⟨i, hj, hcl, -⟩ := lab_acquire_cases cfg s.mem th q t hlab
      have hit := (hs tid th hth).1 q _ t hj
      have hcount : 1 ≤ (s.mem.items q).count t := List.count_pos_iff.mpr (List.mem_of_getElem? hit)
      have hk0 := absK_zero cfg s hl tid th hth q t (ref_holds_queue cfg th.pc q _ t hj)
        (by simp [claimW, hcl])
      refine ⟨?_, hfree t (by simp [labPlus, ind]), hR, hQ⟩
      show 1 ≤ absQueue s q t
      unfold absQueue; omega
    | take t => exact ⟨hfree t (by simp [labPlus, ind]), hR, hQ⟩
    | finish t =>
      refine ⟨?_, hR, hQ⟩
      have := hR t; simp [labPlus, labMinus, ind] at this
      show 1 ≤ absRun cfg s t
      omega

theorem Spec.Same.refl (a : AState) : Same a a := ⟨fun _ => rfl, fun _ _ => rfl⟩

/-- **refinement**: the projection of every concrete execution from a state with the lock and stability
invariants is an execution of the abstract lock-level specification between the abstractions of its end points -/
theorem refines_from (cfg : Cfg) (sched : List Nat) : ∀ s : State, LockInv cfg s → StabInv s →
    Exec cfg (abs cfg s) (trace cfg s sched) (abs cfg (run cfg s sched)) := by
  induction sched with
  | nil => intro s _ _; exact Exec.done (Same.refl _)
  | cons tid rest ih =>
    intro s hl hs
    have ih' := ih (step cfg s tid) (lockInv_step cfg s tid hl) (stabInv_step cfg s tid hl hs)
    simp only [run_cons, trace]
    cases hth : s.threads[tid]? with
    | none =>
      rw [step_none cfg _ tid hth] at ih' ⊢
      exact ih'
    | some th =>
      have hsim := sim_step cfg s tid th hl hs hth
      cases hlab : lab cfg s.mem th with
      | none =>
        rw [hlab] at hsim
        simp only [hlab]
        exact Exec.stutter hsim ih'
      | some l =>
        rw [hlab] at hsim
        simp only [hlab]
        exact Exec.step hsim ih'

end CMacVerif.Atomics
