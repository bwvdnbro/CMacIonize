import CMacVerif.Lemmas.AtomicsPool
/-!
C08 lemmas: the `MemorySpace` discipline.  For clients that release buffers only through
`free_buffer` and pass input buffers of at most `PHOTONBUFFER_SIZE` packets: no pool buffer ever
holds more than `PHOTONBUFFER_SIZE` packets, a free slot is an empty buffer (so the buffer
`add_photons` obtains for the overflow is empty — the "maybe assert that this value is indeed 0?"
of the source), and `add_photons` never drops a packet.  Uses slot uniqueness: a thread only
writes the packet count of a slot it holds, so what another thread knows about its own slots
stays true.
-/
namespace CMacVerif.Atomics

/-- calls allowed for a client of `MemorySpace`: buffers are released with `free_buffer` (never
with `ThreadSafeVector::free_element` directly), an input buffer holds at most
`PHOTONBUFFER_SIZE` packets -/
def CmdMS (cap : Nat) : Cmd → Prop
  | .free _ => False
  | .addPhotons _ n => n ≤ cap
  | _ => True

/-- slot obtained by the search loop and not yet handed to the caller / filled; also the slot `free_buffer` has wiped
and is about to release (`freeYield`, not yet `freeUnlock`) -/
def pcFresh : PC → Option Nat
  | .getCount i _ => some i
  | .getMax i _ _ => some i
  | .getMaxCas i _ _ _ => some i
  | .getTotal i _ => some i
  | .apPlace i _ => some i
  | .freeYield i => some i
  | _ => none

/-- what a client of `MemorySpace` keeps true at program counter `pc`, `count` being the packet counts: the packets
in flight (`pendPC`; at `apFill` the input buffer) are at most `cap`, and the buffer of a slot is empty while the
search loop has obtained it and not yet handed it out or filled it, or `free_buffer` has wiped and not yet released it -/
def pcMS (cap : Nat) (count : Nat → Nat) : PC → Prop
  | .getCheck r | .getInc r | .getCas _ r => pendO r ≤ cap
  | .getCount i r | .getMax i _ r | .getMaxCas i _ _ r | .getTotal i r => count i = 0 ∧ pendO r ≤ cap
  | .apPlace i r => count i = 0 ∧ r ≤ cap
  | .crashed r => r ≤ cap
  | .apFill _ n => n ≤ cap
  | .freeYield i | .freeUnlock i => count i = 0
  | _ => True

structure ThreadMS (cfg : Cfg) (m : Mem) (th : Thread) : Prop where
  prog_ok : ∀ c ∈ th.prog, CmdMS cfg.cap c
  pc_ok : pcMS cfg.cap m.count th.pc
  lost_zero : th.lost = 0

theorem pcMS_of_part (cap : Nat) (count : Nat → Nat) (pc : PC) (h : pc.part ≠ some .pool) : pcMS cap count pc := by
  cases pc <;> first | trivial | exact absurd rfl h

theorem pcMS.fresh_empty {cap : Nat} {count : Nat → Nat} {pc : PC} (h : pcMS cap count pc) (i : Nat)
    (hi : pcFresh pc = some i) : count i = 0 := by
  cases pc <;> cases hi <;> first | exact h.1 | exact h

/-- what a thread knows at its program counter is about buffers of slots it holds -/
theorem pcMS_congr (cfg : Cfg) (th : Thread) (hwf : ThreadWf cfg th) (c c' : Nat → Nat)
    (h : ∀ i, 1 ≤ holdS i th → c' i = c i) : pcMS cfg.cap c th.pc → pcMS cfg.cap c' th.pc := by
  obtain ⟨pc, prog, owned⟩ := th
  cases pc <;> try exact id
  case apPlace j r =>
    exact fun hp => ⟨(h j (holdS_pos_of_owned (hwf.apPlace_owned _ r rfl))).trans hp.1, hp.2⟩
  case freeYield j | freeUnlock j => exact fun hp => (h j (by simp [holdS, pcHoldS, ind])).trans hp
  all_goals exact fun hp => ⟨(h _ (by simp [holdS, pcHoldS, ind])).trans hp.1, hp.2⟩

/-- a thread only writes the packet count of slots it holds -/
theorem exec_count_frame (cfg : Cfg) (m : Mem) (th : Thread) (i : Nat) (hwf : ThreadWf cfg th)
    (h : holdS i th = 0) : (exec cfg m th).1.count i = m.count i := by
  refine exec_pool_cases cfg m th (fun _ _ => rfl) (fun _ _ _ _ => rfl) ?own fun hs hold hnew => ?other
  case own =>
    rintro th pc r rfl hs
    have own : ∀ j, j ∈ th.owned → i ≠ j := by
      rintro j hm rfl
      have := holdS_pos_of_owned (th := { th with pc := pc }) hm
      omega
    cases hs
    case fillSpill tgt n moved _ _ | fillFits tgt n moved _ _ =>
      exact upd_other _ _ _ _ (own tgt (hwf.apFill_owned tgt n rfl))
    case placeRest j r => exact upd_other _ _ _ _ (own j (hwf.apPlace_owned j r rfl))
    case wipeBuffer j =>
      refine upd_other _ _ _ _ ?_
      rintro rfl
      simp [holdS, pcHoldS, ind] at h
    all_goals rfl
  case other =>
    rw [hs.count]

theorem ms_dispatch (cfg : Cfg) (m : Mem) (th : Thread) (c : Cmd) (hc : CmdMS cfg.cap c)
    (hp : ∀ c ∈ th.prog, CmdMS cfg.cap c) (hl : th.lost = 0) : ThreadMS cfg m (dispatch cfg th c) := by
  cases c <;> simp only [dispatch]
  case free j => cases hc
  case addPhotons j n =>
    split
    · exact ⟨hp, hc, hl⟩
    · exact ⟨hp, trivial, hl⟩
  all_goals (repeat' split) <;> first | exact ⟨hp, trivial, hl⟩ | exact ⟨hp, Nat.zero_le _, hl⟩

structure BuffersOk (cfg : Cfg) (m : Mem) : Prop where
  cap_le : ∀ i, m.count i ≤ cfg.cap
  free_empty : ∀ i, m.flags i = false → m.count i = 0

theorem exec_ms (cfg : Cfg) (m : Mem) (th : Thread) (hwf : ThreadWf cfg th)
    (hms : ThreadMS cfg m th) (hb : BuffersOk cfg m) (hhold : ∀ i, 1 ≤ holdS i th → m.flags i = true) :
    ThreadMS cfg (exec cfg m th).1 (exec cfg m th).2 ∧ BuffersOk cfg (exec cfg m th).1 := by
  obtain ⟨hprog, hpc, hlost⟩ := hms
  refine exec_pool_cases cfg m th (fun _ _ => ⟨⟨hprog, hpc, hlost⟩, hb⟩)
    (fun c rest _ he => ⟨ms_dispatch cfg m _ c (hprog c (he ▸ List.mem_cons_self))
      (fun c' hc => hprog c' (he ▸ List.mem_cons_of_mem _ hc)) hlost, hb⟩)
    ?own fun hs hold hnew => ?other
  case own =>
    rintro th pc r rfl hs
    have same : ∀ m' : Mem, m'.count = m.count → m'.flags = m.flags → BuffersOk cfg m' :=
      fun m' hc hf => ⟨hc ▸ hb.cap_le, by rw [hc, hf]; exact hb.free_empty⟩
    -- a buffer is written by the holder of its slot only, so its flag is set
    have write : ∀ j v, m.flags j = true → v ≤ cfg.cap → BuffersOk cfg { m with count := upd m.count j v } := by
      intro j v hj hv
      refine ⟨fun i => ?_, fun i hi => ?_⟩ <;> simp only [upd_apply] <;> split
      · exact hv
      · exact hb.cap_le i
      · rename_i e; rw [e, hj] at hi; cases hi
      · exact hb.free_empty i hi
    have owns : ∀ j, j ∈ th.owned → m.flags j = true := fun j hm => hhold j (holdS_pos_of_owned hm)
    cases hs
    -- a slot the search loop takes was free, hence empty
    case slotTaken j r hf =>
      refine ⟨⟨hprog, ⟨hb.free_empty _ hf, hpc⟩, hlost⟩, hb.cap_le, fun i hi => ?_⟩
      simp only [upd_apply] at hi; split at hi
      · cases hi
      · exact hb.free_empty i hi
    -- an input buffer of at most `cap` packets: what does not fit is at most `cap`, and nothing is lost
    case fillSpill tgt n moved hm he =>
      have hn : n ≤ cfg.cap := hpc
      exact ⟨⟨hprog, by show n - _ ≤ _; omega, hlost⟩,
        write tgt _ (owns tgt (hwf.apFill_owned tgt n rfl)) (Nat.le_of_eq he)⟩
    case fillFits tgt n moved hm he =>
      have hct := hb.cap_le tgt
      refine ⟨⟨hprog, trivial, ?_⟩,
        write tgt (m.count tgt + moved) (owns tgt (hwf.apFill_owned tgt n rfl)) (by omega)⟩
      show th.lost + (n - moved) = 0
      rw [show th.lost = 0 from hlost]; omega
    case placeRest j r =>
      have hr : r ≤ cfg.cap := hpc.2
      exact ⟨⟨hprog, trivial, hlost⟩,
        write j (m.count j + r) (owns j (hwf.apPlace_owned j r rfl)) (by rw [hpc.1]; omega)⟩
    -- `free_buffer` wipes the buffer before it releases the slot
    case wipeBuffer j =>
      exact ⟨⟨hprog, upd_same _ _ _, hlost⟩, write j 0 (hhold j (by simp [holdS, pcHoldS, ind])) (Nat.zero_le _)⟩
    case releaseSlot j =>
      refine ⟨⟨hprog, trivial, hlost⟩, hb.cap_le, fun i hi => ?_⟩
      simp only [upd_apply] at hi; split at hi
      · rename_i e; rw [e]; exact hpc
      · exact hb.free_empty i hi
    -- the other rules write neither a buffer nor a flag.  The call returns:
    case checkFull _ | countDown j | readTaken => exact ⟨⟨hprog, trivial, hlost⟩, same _ rfl rfl⟩
    case handOut j r =>
      cases r
      · exact ⟨⟨hprog, trivial, hlost⟩, same _ rfl rfl⟩
      · exact ⟨⟨hprog, hpc, hlost⟩, same _ rfl rfl⟩
    -- or `pcMS` says at the next program counter what it says at this one
    all_goals exact ⟨⟨hprog, hpc, hlost⟩, same _ rfl rfl⟩
  case other =>
    exact ⟨⟨by rw [hs.prog]; exact hprog, pcMS_of_part _ _ _ hnew, by rw [hs.lost]; exact hlost⟩,
      by rw [hs.count]; exact hb.cap_le, by rw [hs.flags, hs.count]; exact hb.free_empty⟩

/-- the `MemorySpace` discipline: every buffer holds at most `PHOTONBUFFER_SIZE` packets, a free
slot is an empty buffer, nothing was lost -/
def MSInv (cfg : Cfg) (s : State) : Prop :=
  (∀ (k : Nat) (th : Thread), s.threads[k]? = some th → ThreadMS cfg s.mem th) ∧ BuffersOk cfg s.mem

theorem msInv_step (cfg : Cfg) (s : State) (tid : Nat) (hS : SlotInv s) (hW : SlotWf cfg s)
    (h : MSInv cfg s) : MSInv cfg (step cfg s tid) := by
  refine step_inv cfg _ s tid h fun thu hth => ?_
  obtain ⟨hT, hb⟩ := h
  have hwfu : ThreadWf cfg thu := hW thu (List.mem_of_getElem? hth)
  have hown := exec_ms cfg s.mem thu hwfu (hT tid thu hth) hb fun i => slot_flag hS hth
  refine ⟨?_, hown.2⟩
  intro k th hk
  rcases getElem?_set_cases _ _ _ _ _ _ hth hk with ⟨rfl, rfl⟩ | ⟨hkt, hk⟩
  · exact hown.1
  · -- the mover holds none of the slots `th` holds, so it writes none of their buffers
    obtain ⟨hprog, hpc, hlost⟩ := hT k th hk
    exact ⟨hprog, pcMS_congr cfg th (hW th (List.mem_of_getElem? hk)) _ _
      (fun i hi => exec_count_frame cfg s.mem thu i hwfu (hS.excl i hk hth (Ne.symm hkt) hi)) hpc, hlost⟩

theorem msInv_run (cfg : Cfg) (hs : 0 < cfg.size) (progs : List (List Cmd))
    (hms : ∀ p ∈ progs, ∀ c ∈ p, CmdMS cfg.cap c) (sched : List Nat) :
    MSInv cfg (run cfg (init progs) sched) := by
  refine run_ind cfg progs (MSInv cfg) ⟨fun k th hk => ?_, by simp [init], by simp [init]⟩
    (fun pre tid => msInv_step cfg _ tid (poolInv_run cfg hs progs pre).slot (poolInv_run cfg hs progs pre).wf) sched
  obtain ⟨p, hp, rfl⟩ := List.mem_map.mp (List.mem_of_getElem? hk)
  exact ⟨hms p hp, trivial, rfl⟩

end CMacVerif.Atomics
