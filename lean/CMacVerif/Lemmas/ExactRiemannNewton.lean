import CMacVerif.Lemmas.ExactRiemann
import Mathlib.Analysis.Convex.SpecificFunctions.Basic
/-!
Newton's method on an increasing concave function, for C11.  The analysis uses only `NewtonHyp F F'`
(`F' > 0`, the tangent inequality with `F'` the slope of a supporting line, `p ↦ p F' p`
non-decreasing): a Newton step from `F x < 0` lands left of every root, and a step that is small
relative to `x` leaves a remainder of second order.  One side's `fb`, `fprimeb` as coded satisfy it,
and the hypotheses add up to those for `f`, `fprime` (`NewtonHyp.add_const`).
-/
namespace CMacVerif.ExactRiemann
open CMacVerif Set

/-! ### one Newton step on an increasing concave function -/

/-- what the Newton analysis needs of `(F, F')` on `p > 0` -/
structure NewtonHyp (F F' : ℝ → ℝ) : Prop where
  pos : ∀ p, 0 < p → 0 < F' p
  tangent : ∀ p q, 0 < p → 0 ≤ q → F q ≤ F p + F' p * (q - p)
  pmono : ∀ p q, 0 < p → p ≤ q → p * F' p ≤ q * F' q

/-- an increasing concave function is strictly increasing: the tangent at the larger point lies
above the curve and has positive slope -/
theorem NewtonHyp.strictMonoOn {F F' : ℝ → ℝ} (h : NewtonHyp F F') : StrictMonoOn F (Ici 0) := by
  intro x hx y _ hxy
  have hy : 0 < y := lt_of_le_of_lt hx hxy
  have := h.tangent y x hy hx
  have := mul_pos (h.pos y hy) (sub_pos.mpr hxy)
  linarith

theorem NewtonHyp.add_const {F₁ F₁' F₂ F₂' : ℝ → ℝ} (h₁ : NewtonHyp F₁ F₁') (h₂ : NewtonHyp F₂ F₂')
    (d : ℝ) : NewtonHyp (fun p => F₁ p + F₂ p + d) (fun p => F₁' p + F₂' p) := by
  refine ⟨fun p hp => add_pos (h₁.pos p hp) (h₂.pos p hp), fun p q hp hq => ?_, fun p q hp hpq => ?_⟩
  · have t₁ := h₁.tangent p q hp hq
    have t₂ := h₂.tangent p q hp hq
    simp only [add_mul]; linarith
  · simp only [mul_add]; exact add_le_add (h₁.pmono p q hp hpq) (h₂.pmono p q hp hpq)

section step
variable {F F' : ℝ → ℝ}

/-- second conjunct: what is left after the step, `r - (x + s)`, times `x - s` is at most `s²`, i.e. of
second order in the step; together with the exit test, `small_step_remainder` turns it into
`r - (x + s) ≤ 1.1e-16 r` -/
theorem newton_root_bound (h : NewtonHyp F F') {x r : ℝ} (hx : 0 < x) (hF : F x < 0)
    (hr : 0 < r) (hr0 : F r = 0) :
    let s := -(F x / F' x)
    x + s ≤ r ∧ (r - x) * (x - s) ≤ s * x := by
  intro s
  have hs : s = -(F x / F' x) := rfl
  have hp := h.pos x hx
  have hpr := h.pos r hr
  -- tangent at x evaluated at the root: the root is beyond the iterate
  have t1 := h.tangent x r hx hr.le
  rw [hr0] at t1
  have hxr : x < r := by
    by_contra hn
    have : F' x * (r - x) ≤ 0 := mul_nonpos_of_nonneg_of_nonpos hp.le (by linarith)
    linarith
  have e1 : F x / F' x * F' x = F x := by field_simp
  have hsF : s * F' x = -F x := by rw [hs, neg_mul, e1]
  have hstep : s ≤ r - x := by
    have : s * F' x ≤ (r - x) * F' x := by rw [hsF]; linarith
    exact le_of_mul_le_mul_right this hp
  refine ⟨by linarith, ?_⟩
  -- tangent at the root evaluated at x: -F x ≥ F' r (r - x)
  have t2 := h.tangent r x hr hx.le
  rw [hr0] at t2
  have hm := h.pmono x r hx hxr.le
  -- s F'(x) = -F x ≥ F'(r) (r-x);  x F'(x) ≤ r F'(r)
  have hs0 : 0 ≤ s := by rw [hs, neg_nonneg]; exact (div_neg_of_neg_of_pos hF hp).le
  -- multiply: F'(r) (r-x) x ≤ s F'(x) x ≤ s r F'(r)
  have a1 : F' r * ((r - x) * x) ≤ F' r * (s * r) := by
    have b1 : F' r * (r - x) ≤ s * F' x := by rw [hsF]; linarith
    have b2 : F' r * (r - x) * x ≤ s * F' x * x := mul_le_mul_of_nonneg_right b1 hx.le
    have b3 : s * (x * F' x) ≤ s * (r * F' r) := mul_le_mul_of_nonneg_left hm hs0
    linarith
  have a2 : (r - x) * x ≤ s * r := le_of_mul_le_mul_left a1 hpr
  -- (r-x)(x-s) ≤ s x  ⇔  (r-x) x ≤ s x + s (r-x) = s r
  linarith

/-- `h2`: the remainder of the step `s` is of second order (`newton_root_bound`); `hexit`: the exit
test of `solve` -/
theorem small_step_remainder {x s r : ℝ} (hs : 0 < s) (hr : x + s ≤ r)
    (h2 : (r - x) * (x - s) ≤ s * x) (hexit : s ≤ 5e-9 * (x + (x + s))) :
    r - (x + s) ≤ 1.1e-16 * r := by
  -- the exit test bounds the step by the previous iterate: s ≤ κ (x - s)
  have hk : s ≤ 1.00000002e-8 * (x - s) := by norm_num at hexit ⊢; linarith
  have hpos : 0 < x - s := (mul_pos_iff_of_pos_left (by norm_num)).mp (lt_of_lt_of_le hs hk)
  have hd : (r - (x + s)) * (x - s) ≤ s * s := by linarith
  have hfin : r - (x + s) ≤ 1.00000002e-8 * s := by
    refine le_of_mul_le_mul_right ?_ hpos
    calc (r - (x + s)) * (x - s) ≤ s * s := hd
      _ ≤ s * (1.00000002e-8 * (x - s)) := mul_le_mul_of_nonneg_left hk hs.le
      _ = 1.00000002e-8 * s * (x - s) := by ring
  have hsr : s ≤ 1.00000002e-8 * r :=
    hk.trans (mul_le_mul_of_nonneg_left (by linarith) (by norm_num))
  calc r - (x + s) ≤ 1.00000002e-8 * s := hfin
    _ ≤ 1.00000002e-8 * (1.00000002e-8 * r) := mul_le_mul_of_nonneg_left hsr (by norm_num)
    _ = 1.00000002e-8 * 1.00000002e-8 * r := (mul_assoc _ _ _).symm
    _ ≤ 1.1e-16 * r := mul_le_mul_of_nonneg_right (by norm_num) (by linarith)

/-- a Newton step that passes the exit test of `solve` (`|x - x'| ≤ 5e-9 (x + x')`) ends within
`1.1e-16` relative below the root -/
theorem newton_exit_accuracy (h : NewtonHyp F F') {x r : ℝ} (hx : 0 < x) (hF : F x < 0)
    (hr : 0 < r) (hr0 : F r = 0)
    (hexit : |x - (x - F x / F' x)| ≤ 5e-9 * (x + (x - F x / F' x))) :
    0 ≤ r - (x - F x / F' x) ∧ r - (x - F x / F' x) ≤ 1.1e-16 * r := by
  obtain ⟨h1, h2⟩ := newton_root_bound h hx hF hr hr0
  have hs : 0 < -(F x / F' x) := neg_pos.mpr (div_neg_of_neg_of_pos hF (h.pos x hx))
  rw [sub_eq_add_neg x (F x / F' x)] at hexit ⊢
  rw [sub_add_cancel_left, abs_neg, abs_of_pos hs] at hexit
  exact ⟨by linarith, small_step_remainder hs h1 h2 hexit⟩

end step
/-! ### the Newton exit of `solve` -/
section loop
variable {F F' : ℝ → ℝ}

/-- the Newton exit of `solve` (path 1: the last Newton iterate is returned): the returned pressure
is at most `1.1e-16` (relative) below the root, never above it -/
theorem handOver_newton (h : NewtonHyp F F') (bf : ℕ) (r : NState ℝ × ℕ) (hi : NInv F F' r.1)
    (hexit : ¬ newtonCont r.1)
    {root : ℝ} (hroot : 0 < root) (hroot0 : F root = 0)
    (hpath : (handOver F bf r).path = 1) :
    0 ≤ root - (handOver F bf r).pstar ∧ root - (handOver F bf r).pstar ≤ 1.1e-16 * root := by
  have hg : 0 < r.1.Pguess := lt_of_le_of_lt hi.nonneg hi.lt
  by_cases hc : notConverged r.1 ∧ (0.0 : ℝ) < r.1.fPguess
  · rw [handOver_path_of_cond hc] at hpath; exact absurd hpath (by decide)
  · rw [handOver_of_not hc]
    simp only
    by_cases hnc : notConverged r.1
    · -- not converged, so neither `f < 0` nor `f > 0`: an exact root
      have hz : F r.1.Pguess = 0 := by
        rw [← hi.fPguess_eq]
        exact le_antisymm (not_lt.mp fun hh => hc ⟨hnc, by rw [lit0]; exact hh⟩)
          (not_lt.mp fun hh => hexit ⟨hnc, by rw [lit0]; exact hh⟩)
      rw [h.strictMonoOn.injOn hg.le hroot.le (hz.trans hroot0.symm), sub_self]
      exact ⟨le_rfl, mul_nonneg (by norm_num) hroot.le⟩
    · -- converged: the last step was a Newton step of relative length ≤ 5e-9 (sum)
      have hconv : |r.1.Pstar - r.1.Pguess| ≤ 5e-9 * (r.1.Pstar + r.1.Pguess) := by
        have := not_lt.mp hnc
        rwa [lit5em9] at this
      rcases hi.step with hz | ⟨hx, hN⟩
      · exfalso
        rw [hz, zero_sub, abs_neg, abs_of_pos hg, zero_add] at hconv
        have : (5e-9:ℝ) * r.1.Pguess < 1 * r.1.Pguess := mul_lt_mul_of_pos_right (by norm_num) hg
        linarith
      · have hFx : F r.1.Pstar < 0 := by rw [← hi.fPstar_eq]; exact hi.neg
        rw [hi.fPstar_eq] at hN
        rw [hN] at hconv ⊢
        exact newton_exit_accuracy h hx hFx hroot hroot0 hconv

end loop
/-! ### one side of the pressure function satisfies the hypotheses of the Newton analysis -/
section side

/-- the quantities `solve` derives for one state (lines 883–929) -/
structure SideOK (c : Consts ℝ) (ρ P Pinv a A B afac rhoainv : ℝ) : Prop where
  st : StateOK c ρ P Pinv a
  A_eq : A = c.tdgp1 * (1 / ρ)
  B_eq : B = c.gm1dgp1 * P
  afac_eq : afac = c.tdgm1 * a
  rhoainv_eq : rhoainv = 1 / (ρ * a)

theorem sideOK_of_solve {c : Consts ℝ} (hc : CRel c) {ρ P : ℝ} (hρ : 0 < ρ) (hP : 0 < P) :
    SideOK c ρ P (1.0 / P) (soundspeed c (1.0 / ρ) P) (c.tdgp1 * (1.0 / ρ)) (c.gm1dgp1 * P)
      (c.tdgm1 * soundspeed c (1.0 / ρ) P) (1.0 / (ρ * soundspeed c (1.0 / ρ) P)) :=
  ⟨stateOK_of_solve hc hρ hP, by rw [lit1], rfl, rfl, by rw [lit1]⟩

variable {c : Consts ℝ} {ρ P Pinv a A B afac rhoainv : ℝ}

theorem SideOK.A_pos (h : SideOK c ρ P Pinv a A B afac rhoainv) (hc : CRel c) : 0 < A := by
  rw [h.A_eq]; have := hc.tdgp1_pos; have := h.st.rho_pos; positivity

theorem SideOK.rhoainv_pos (h : SideOK c ρ P Pinv a A B afac rhoainv) : 0 < rhoainv := by
  rw [h.rhoainv_eq]; have := h.st.rho_pos; have := h.st.a_pos; positivity

theorem SideOK.B_nonneg (h : SideOK c ρ P Pinv a A B afac rhoainv) (hc : CRel c) : 0 ≤ B := by
  rw [h.B_eq]; exact mul_nonneg hc.gm1dgp1_pos.le h.st.P_pos.le

/-- why the coded derivative of the rarefaction branch is the derivative -/
theorem SideOK.afac_mul_gm1d2g (h : SideOK c ρ P Pinv a A B afac rhoainv) (hc : CRel c) :
    afac * c.gm1d2g = rhoainv * P := by
  have ha := h.st.a_pos.ne'; have hρ := h.st.rho_pos.ne'; have hP := h.st.P_pos.ne'
  have hg := hc.g0.ne'; have hg1 := hc.gm1.ne'
  have ha2 := h.st.a_sq
  rw [h.afac_eq, h.rhoainv_eq, hc.tdgm1, hc.gm1d2g]
  field_simp
  rw [ha2]; field_simp

theorem fprimeb_raref {p : ℝ} (hp : p ≤ P) :
    fprimeb c P A B Pinv rhoainv p = (p * Pinv) ^ (-c.gp1d2g) * rhoainv := by
  simp only [fprimeb, if_neg (not_lt.mpr hp), pow_real]

/-- tangent inequality of the rarefaction branch (Bernoulli's inequality for the exponent
`(γ-1)/(2γ) ∈ (0,1)`) -/
theorem raref_tangent (hc : CRel c) (h : SideOK c ρ P Pinv a A B afac rhoainv) {p q : ℝ}
    (hp : 0 < p) (hpP : p ≤ P) (hq : 0 ≤ q) (hqP : q ≤ P) :
    fb c P A B Pinv afac q ≤ fb c P A B Pinv afac p + fprimeb c P A B Pinv rhoainv p * (q - p) := by
  rw [fb_raref hqP, fb_raref hpP, fprimeb_raref hpP]
  have hPi := h.st.Pinv_pos
  have hx : 0 < p * Pinv := mul_pos hp hPi
  have hy : 0 ≤ q * Pinv := mul_nonneg hq hPi.le
  have haf : 0 < afac := by rw [h.afac_eq]; exact mul_pos hc.tdgm1_pos h.st.a_pos
  set x := p * Pinv with hxdef
  set y := q * Pinv with hydef
  have hb := rpow_one_add_le_one_add_mul_self (s := y / x - 1)
    (by have : 0 ≤ y / x := div_nonneg hy hx.le
        linarith) hc.gm1d2g_pos.le hc.gm1d2g_le_one
  rw [show 1 + (y / x - 1) = y / x by ring, Real.div_rpow hy hx.le] at hb
  have hxk : 0 < x ^ c.gm1d2g := Real.rpow_pos_of_pos hx _
  have hb2 : y ^ c.gm1d2g ≤ x ^ c.gm1d2g * (1 + c.gm1d2g * (y / x - 1)) := by
    rw [div_le_iff₀ hxk] at hb; linarith
  have hneg : x ^ (-c.gp1d2g) = x ^ c.gm1d2g / x := by
    rw [← hc.gm1d2g_sub_one, Real.rpow_sub_one hx.ne']
  have hqp : q - p = (y - x) * P := by
    rw [hydef, hxdef]
    have := h.st.Pinv_eq
    calc q - p = (q - p) * (P * Pinv) := by rw [this]; ring
      _ = (q * Pinv - p * Pinv) * P := by ring
  rw [hneg, hqp]
  have e : x ^ c.gm1d2g / x * rhoainv * ((y - x) * P)
      = afac * (x ^ c.gm1d2g * (c.gm1d2g * (y / x - 1))) := by
    rw [show y / x - 1 = (y - x) / x by rw [sub_div, div_self hx.ne']]
    linear_combination (x ^ c.gm1d2g / x * (y - x)) * (h.afac_mul_gm1d2g hc).symm
  rw [e]
  have := mul_le_mul_of_nonneg_left hb2 haf.le
  linarith

theorem raref_slope_mono (hc : CRel c) (h : SideOK c ρ P Pinv a A B afac rhoainv) {p q : ℝ}
    (hp : 0 < p) (hpq : p ≤ q) (hqP : q ≤ P) :
    fprimeb c P A B Pinv rhoainv q ≤ fprimeb c P A B Pinv rhoainv p ∧
    p * fprimeb c P A B Pinv rhoainv p ≤ q * fprimeb c P A B Pinv rhoainv q := by
  rw [fprimeb_raref hqP, fprimeb_raref (hpq.trans hqP)]
  have hPi := h.st.Pinv_pos
  have hx : 0 < p * Pinv := mul_pos hp hPi
  have hxy : p * Pinv ≤ q * Pinv := mul_le_mul_of_nonneg_right hpq hPi.le
  have hy : 0 < q * Pinv := lt_of_lt_of_le hx hxy
  have hr := h.rhoainv_pos
  constructor
  · exact mul_le_mul_of_nonneg_right
      (Real.rpow_le_rpow_of_nonpos hx hxy (by have := hc.gp1d2g_pos; linarith)) hr.le
  · -- p x^{-β} = P x^{k}
    have e : ∀ z : ℝ, 0 < z → z * ((z * Pinv) ^ (-c.gp1d2g) * rhoainv)
        = P * rhoainv * (z * Pinv) ^ c.gm1d2g := fun z hz => by
      have hzP : 0 < z * Pinv := mul_pos hz hPi
      rw [← hc.gm1d2g_sub_one, Real.rpow_sub_one hzP.ne']
      have hPv := h.st.Pinv_val
      have hP := h.st.P_pos.ne'
      rw [hPv]; field_simp
    rw [e p hp, e q (lt_of_lt_of_le hp hpq)]
    exact mul_le_mul_of_nonneg_left (Real.rpow_le_rpow hx.le hxy hc.gm1d2g_pos.le)
      (by have := h.st.P_pos; positivity)

end side

/-! #### the shock branch, in the variable `t = √(p + B)`

tangent inequality, antitone slope and monotone `p · slope` of `σ (t² - D)/t` with slope
`σ (t² + D)/(2t³)` (with respect to `p = t² - B`) -/
section shockT

theorem shockT_tangent {σ D t r : ℝ} (hσ : 0 ≤ σ) (hD : 0 ≤ D) (ht : 0 < t) (hr : 0 < r) :
    σ * (r ^ 2 - D) / r ≤ σ * (t ^ 2 - D) / t + σ * (t ^ 2 + D) / (2 * t ^ 3) * (r ^ 2 - t ^ 2) := by
  rw [div_mul_eq_mul_div, div_add_div _ _ ht.ne' (by positivity),
    div_le_div_iff₀ hr (by positivity), ← sub_nonneg]
  have key : (σ * (t ^ 2 - D) * (2 * t ^ 3) + t * (σ * (t ^ 2 + D) * (r ^ 2 - t ^ 2))) * r
      - σ * (r ^ 2 - D) * (t * (2 * t ^ 3))
      = σ * ((r - t) ^ 2 * (t ^ 2 * r + D * (r + 2 * t))) * t := by ring
  rw [key]
  positivity

theorem shockT_antitone {σ D t r : ℝ} (hσ : 0 ≤ σ) (hD : 0 ≤ D) (ht : 0 < t) (htr : t ≤ r) :
    σ * (r ^ 2 + D) / (2 * r ^ 3) ≤ σ * (t ^ 2 + D) / (2 * t ^ 3) := by
  have hr : 0 < r := lt_of_lt_of_le ht htr
  have h0 : 0 ≤ r - t := by linarith
  rw [div_le_div_iff₀ (by positivity) (by positivity), ← sub_nonneg]
  have key : σ * (t ^ 2 + D) * (2 * r ^ 3) - σ * (r ^ 2 + D) * (2 * t ^ 3)
      = 2 * σ * ((r - t) * (r ^ 2 * t ^ 2 + D * (r ^ 2 + r * t + t ^ 2))) := by ring
  rw [key]
  positivity

theorem shockT_pmono {σ B D t r : ℝ} (hσ : 0 ≤ σ) (hB : 0 ≤ B) (hBD : B ≤ D) (ht : 0 < t)
    (hDt : D ≤ t ^ 2) (htr : t ≤ r) :
    (t ^ 2 - B) * (σ * (t ^ 2 + D) / (2 * t ^ 3)) ≤ (r ^ 2 - B) * (σ * (r ^ 2 + D) / (2 * r ^ 3)) := by
  have hr : 0 < r := lt_of_lt_of_le ht htr
  have h0 : 0 ≤ r - t := by linarith
  have h1 : 0 ≤ t * r - (D - B) := by
    have := mul_le_mul_of_nonneg_left htr ht.le
    rw [pow_two] at hDt; linarith
  have hD : 0 ≤ D := le_trans hB hBD
  rw [← mul_div_assoc, ← mul_div_assoc, div_le_div_iff₀ (by positivity) (by positivity),
    ← sub_nonneg]
  have key : (r ^ 2 - B) * (σ * (r ^ 2 + D)) * (2 * t ^ 3)
      - (t ^ 2 - B) * (σ * (t ^ 2 + D)) * (2 * r ^ 3)
      = 2 * σ * ((r - t) * (t ^ 2 * r ^ 2 * (t * r - (D - B)) + B * D * (r ^ 2 + r * t + t ^ 2))) := by
    ring
  rw [key]
  positivity

end shockT

noncomputable def shockF (P A B p : ℝ) : ℝ := (p - P) * Real.sqrt (A / (p + B))
noncomputable def shockF' (P A B p : ℝ) : ℝ :=
  (1 - 1 / 2 * (p - P) * (1 / (p + B))) * Real.sqrt (A * (1 / (p + B)))

theorem shock_forms {P A B p : ℝ} (hA : 0 ≤ A) (hpB : 0 < p + B) :
    0 < Real.sqrt (p + B) ∧ Real.sqrt (p + B) ^ 2 = p + B ∧
    shockF P A B p = Real.sqrt A * (Real.sqrt (p + B) ^ 2 - (P + B)) / Real.sqrt (p + B) ∧
    shockF' P A B p = Real.sqrt A * (Real.sqrt (p + B) ^ 2 + (P + B)) / (2 * Real.sqrt (p + B) ^ 3) := by
  have ht : 0 < Real.sqrt (p + B) := Real.sqrt_pos.mpr hpB
  have ht2 : Real.sqrt (p + B) ^ 2 = p + B := Real.sq_sqrt hpB.le
  refine ⟨ht, ht2, ?_, ?_⟩
  · unfold shockF; rw [Real.sqrt_div hA, ht2]; ring
  · unfold shockF'
    have hi : Real.sqrt (1 / (p + B)) = 1 / Real.sqrt (p + B) := by
      rw [one_div, Real.sqrt_inv, one_div]
    rw [Real.sqrt_mul hA, hi]
    have h3 : Real.sqrt (p + B) ^ 3 = (p + B) * Real.sqrt (p + B) := by
      rw [pow_succ, ht2]
    rw [h3]
    have e : p - P = (p + B) - (P + B) := by ring
    rw [ht2, e]; field_simp; ring

section fbNewton
variable {c : Consts ℝ} {ρ P Pinv a A B afac rhoainv : ℝ}

theorem shockF_tangent {P A B : ℝ} (hA : 0 ≤ A) (hB : 0 ≤ B) (hP : 0 < P) {p q : ℝ} (hp : P ≤ p)
    (hq : P ≤ q) : shockF P A B q ≤ shockF P A B p + shockF' P A B p * (q - p) := by
  obtain ⟨ht, ht2, f1, f2⟩ := shock_forms (P := P) hA (show 0 < p + B by linarith)
  obtain ⟨hr, hr2, g1, _⟩ := shock_forms (P := P) hA (show 0 < q + B by linarith)
  rw [f1, f2, g1, show q - p = Real.sqrt (q + B) ^ 2 - Real.sqrt (p + B) ^ 2 by rw [ht2, hr2]; ring]
  exact shockT_tangent (Real.sqrt_nonneg A) (by linarith) ht hr

theorem shockF'_mono {P A B : ℝ} (hA : 0 ≤ A) (hB : 0 ≤ B) (hP : 0 < P) {p q : ℝ} (hp : P ≤ p)
    (hpq : p ≤ q) :
    shockF' P A B q ≤ shockF' P A B p ∧ p * shockF' P A B p ≤ q * shockF' P A B q := by
  obtain ⟨ht, ht2, _, f2⟩ := shock_forms (P := P) hA (show 0 < p + B by linarith)
  obtain ⟨hr, hr2, _, g2⟩ := shock_forms (P := P) hA (show 0 < q + B by linarith)
  have htr : Real.sqrt (p + B) ≤ Real.sqrt (q + B) := Real.sqrt_le_sqrt (by linarith)
  rw [f2, g2]
  refine ⟨shockT_antitone (Real.sqrt_nonneg A) (by linarith) ht htr, ?_⟩
  have e1 : Real.sqrt (p + B) ^ 2 - B = p := by rw [ht2]; ring
  have e2 : Real.sqrt (q + B) ^ 2 - B = q := by rw [hr2]; ring
  have key := shockT_pmono (D := P + B) (Real.sqrt_nonneg A) hB (by linarith) ht
    (by rw [ht2]; linarith) htr
  rw [e1, e2] at key
  exact key

/-! #### the two branches joined at `p = P` -/

theorem shockF_at_P (P A B : ℝ) : shockF P A B P = 0 := by unfold shockF; simp

/-- at `p = P` the coded derivative of the shock branch equals the one of the rarefaction
branch: `√(A/(P+B)) = 1/(ρa)` -/
theorem shockF'_at_P (hc : CRel c) (h : SideOK c ρ P Pinv a A B afac rhoainv) :
    shockF' P A B P = rhoainv := by
  have hρ := h.st.rho_pos; have ha := h.st.a_pos; have hP := h.st.P_pos
  have hg := hc.g0; have hgp := hc.gp1
  unfold shockF'
  rw [sub_self, mul_zero, zero_mul, sub_zero, one_mul]
  have e : A * (1 / (P + B)) = (1 / (ρ * a)) ^ 2 := by
    have hg' := hg.ne'; have hgp' := hgp.ne'; have hρ' := hρ.ne'; have hP' := hP.ne'
    have hden : P + (c.gamma - 1) / (c.gamma + 1) * P = 2 * c.gamma * P / (c.gamma + 1) := by
      field_simp; ring
    rw [h.A_eq, h.B_eq, hc.tdgp1, hc.gm1dgp1, hden, div_pow, one_pow, mul_pow, h.st.a_sq]
    field_simp
  rw [e, Real.sqrt_sq (by positivity), h.rhoainv_eq]

theorem fb_eq_shockF {p : ℝ} (hp : P < p) : fb c P A B Pinv afac p = shockF P A B p := fb_shock hp

theorem fprimeb_shock {p : ℝ} (hp : P < p) : fprimeb c P A B Pinv rhoainv p = shockF' P A B p := by
  simp only [fprimeb, if_pos hp, sqrt_real, lit1, lit05, shockF']

theorem fprimeb_at_P (h : SideOK c ρ P Pinv a A B afac rhoainv) :
    fprimeb c P A B Pinv rhoainv P = rhoainv := by
  rw [fprimeb_raref (le_refl P), h.st.Pinv_eq, Real.one_rpow, one_mul]

/-- tangent inequality for `fb` with the coded derivative `fprimeb` (all four branch
combinations): `fb` is concave and `fprimeb` is the slope of a supporting line -/
theorem fb_tangent (hc : CRel c) (h : SideOK c ρ P Pinv a A B afac rhoainv) {p q : ℝ}
    (hp : 0 < p) (hq : 0 ≤ q) :
    fb c P A B Pinv afac q ≤ fb c P A B Pinv afac p + fprimeb c P A B Pinv rhoainv p * (q - p) := by
  have hPpos := h.st.P_pos
  have hA := (h.A_pos hc).le
  have hB := h.B_nonneg hc
  have hJ := shockF'_at_P hc h
  have hJ' := fprimeb_at_P (c := c) h
  have hg0 : fb c P A B Pinv afac P = 0 := fb_at_P h.st.Pinv_eq
  rcases le_or_gt p P with hpP | hpP <;> rcases le_or_gt q P with hqP | hqP
  · exact raref_tangent hc h hp hpP hq hqP
  · -- p on the rarefaction branch, q on the shock branch: go through the junction `P`, where both
    -- branches vanish and have slope `1/(ρa)`
    have t1 := shockF_tangent hA hB hPpos (le_refl P) hqP.le
    rw [shockF_at_P, hJ] at t1
    have t2 := raref_tangent hc h hp hpP hPpos.le (le_refl P)
    rw [hg0] at t2
    have t3 := (raref_slope_mono hc h hp hpP (le_refl P)).1
    rw [hJ'] at t3
    rw [fb_eq_shockF hqP]
    have := mul_le_mul_of_nonneg_right t3 (by linarith : 0 ≤ q - P)
    linarith
  · -- p on the shock branch, q on the rarefaction branch
    have t1 := raref_tangent hc h hPpos (le_refl P) hq hqP
    rw [hg0, hJ'] at t1
    have t2 := shockF_tangent hA hB hPpos hpP.le (le_refl P)
    rw [shockF_at_P] at t2
    have t3 := (shockF'_mono hA hB hPpos (le_refl P) hpP.le).1
    rw [hJ] at t3
    rw [fb_eq_shockF hpP, fprimeb_shock hpP]
    have := mul_le_mul_of_nonpos_right t3 (by linarith : q - P ≤ 0)
    linarith
  · rw [fb_eq_shockF hqP, fb_eq_shockF hpP, fprimeb_shock hpP]
    exact shockF_tangent hA hB hPpos hpP.le hqP.le

theorem fprimeb_pmono (hc : CRel c) (h : SideOK c ρ P Pinv a A B afac rhoainv) {p q : ℝ}
    (hp : 0 < p) (hpq : p ≤ q) :
    p * fprimeb c P A B Pinv rhoainv p ≤ q * fprimeb c P A B Pinv rhoainv q := by
  have hPpos := h.st.P_pos
  have hA := (h.A_pos hc).le
  have hB := h.B_nonneg hc
  have hJ := shockF'_at_P hc h
  have hJ' := fprimeb_at_P (c := c) h
  rcases le_or_gt q P with hqP | hqP
  · exact (raref_slope_mono hc h hp hpq hqP).2
  · rcases le_or_gt p P with hpP | hpP
    · have t1 := (raref_slope_mono hc h hp hpP (le_refl P)).2
      rw [hJ'] at t1
      have t2 := (shockF'_mono hA hB hPpos (le_refl P) hqP.le).2
      rw [hJ] at t2
      rw [fprimeb_shock hqP]; linarith
    · rw [fprimeb_shock hpP, fprimeb_shock hqP]
      exact (shockF'_mono hA hB hPpos hpP.le hpq).2

theorem fb_newtonHyp (hc : CRel c) (h : SideOK c ρ P Pinv a A B afac rhoainv) :
    NewtonHyp (fb c P A B Pinv afac) (fprimeb c P A B Pinv rhoainv) :=
  ⟨fun _ hp => fprimeb_pos h.st.P_pos h.st.Pinv_pos (h.A_pos hc) (h.B_nonneg hc) h.rhoainv_pos hp,
    fun _ _ hp hq => fb_tangent hc h hp hq, fun _ _ hp hpq => fprimeb_pmono hc h hp hpq⟩

end fbNewton

theorem pressureFn_newtonHyp {c : Consts ℝ} (hc : CRel c) {ρL PL ρR PR : ℝ} (uL uR : ℝ)
    (hρL : 0 < ρL) (hPL : 0 < PL) (hρR : 0 < ρR) (hPR : 0 < PR) :
    NewtonHyp (pressureFn c ρL uL PL ρR uR PR) (pressureFn' c ρL PL ρR PR) :=
  (fb_newtonHyp hc (sideOK_of_solve hc hρL hPL)).add_const (fb_newtonHyp hc (sideOK_of_solve hc hρR hPR))
    (uR - uL)

end CMacVerif.ExactRiemann
