/-! The x-major index `a * (n1 * n2) + b * n2 + c` of a cell or subgrid (`get_one_index`; written
`a * n1 * n2 + …` in some models: `Nat.mul_assoc`) and its inverse by division and remainder
(`get_three_index`).  One digit (`q * m + r` with `r < m`) first; three digits are two of them, the outer
one with radix `n1 * n2`.  Core Lean only. -/
namespace CMacVerif.MixedRadix

theorem lt_mul_add {a n b m : Nat} (ha : a < n) (hb : b < m) : a * m + b < n * m :=
  Nat.lt_of_lt_of_le (by rw [Nat.succ_mul]; exact Nat.add_lt_add_left hb _) (Nat.mul_le_mul_right m ha)

theorem mul_add_div {q m r : Nat} (h : r < m) : (q * m + r) / m = q := by
  rw [Nat.mul_comm, Nat.mul_add_div (Nat.zero_lt_of_lt h), Nat.div_eq_of_lt h, Nat.add_zero]

theorem mul_add_inj {m a b c d : Nat} (hb : b < m) (hd : d < m) (h : a * m + b = c * m + d) :
    a = c ∧ b = d := by
  have hac : a = c := by rw [← mul_add_div (q := a) hb, h, mul_add_div hd]
  subst hac
  exact ⟨rfl, Nat.add_left_cancel h⟩

theorem div_mod_of_lt_mul {n m x : Nat} (h : x < n * m) :
    x / m < n ∧ x % m < m ∧ x / m * m + x % m = x :=
  have hm : 0 < m := Nat.pos_of_ne_zero fun e => by rw [e, Nat.mul_zero] at h; exact Nat.not_lt_zero _ h
  ⟨Nat.div_lt_of_lt_mul (Nat.mul_comm n m ▸ h), Nat.mod_lt _ hm, Nat.div_add_mod' x m⟩

/-- the same with the remainder as the C++ writes it -/
theorem div_mul_add_sub {x s : Nat} (hs : 0 < s) :
    x / s * s + (x - x / s * s) = x ∧ x - x / s * s < s := by
  rw [← Nat.mod_eq_sub_div_mul]
  exact ⟨Nat.div_add_mod' x s, Nat.mod_lt x hs⟩

theorem index_lt {a b c n0 n1 n2 : Nat} (ha : a < n0) (hb : b < n1) (hc : c < n2) :
    a * (n1 * n2) + b * n2 + c < n0 * (n1 * n2) := by
  rw [Nat.add_assoc]
  exact lt_mul_add ha (lt_mul_add hb hc)

theorem index_div_mod {a b c n1 n2 : Nat} (hb : b < n1) (hc : c < n2) :
    (a * (n1 * n2) + b * n2 + c) / (n1 * n2) = a ∧
      (a * (n1 * n2) + b * n2 + c) % (n1 * n2) / n2 = b ∧
      (a * (n1 * n2) + b * n2 + c) % (n1 * n2) % n2 = c := by
  have hlt : b * n2 + c < n1 * n2 := lt_mul_add hb hc
  rw [Nat.add_assoc, mul_add_div hlt, Nat.mul_add_mod_of_lt hlt, mul_add_div hc,
    Nat.mul_add_mod_of_lt hc]
  exact ⟨rfl, rfl, rfl⟩

theorem index_inj {a b c a' b' c' n1 n2 : Nat} (hb : b < n1) (hc : c < n2) (hb' : b' < n1)
    (hc' : c' < n2) (h : a * (n1 * n2) + b * n2 + c = a' * (n1 * n2) + b' * n2 + c') :
    a = a' ∧ b = b' ∧ c = c' := by
  rw [Nat.add_assoc, Nat.add_assoc] at h
  obtain ⟨ha, h⟩ := mul_add_inj (lt_mul_add hb hc) (lt_mul_add hb' hc') h
  exact ⟨ha, mul_add_inj hc hc' h⟩

theorem div_mod_index (n1 n2 i : Nat) :
    i / (n1 * n2) * (n1 * n2) + i % (n1 * n2) / n2 * n2 + i % (n1 * n2) % n2 = i := by
  rw [Nat.add_assoc, Nat.div_add_mod', Nat.div_add_mod']

theorem div_mod_index_lt {n0 n1 n2 i : Nat} (hi : i < n0 * (n1 * n2)) :
    i / (n1 * n2) < n0 ∧ i % (n1 * n2) / n2 < n1 ∧ i % (n1 * n2) % n2 < n2 :=
  have h := div_mod_of_lt_mul hi
  have h' := div_mod_of_lt_mul h.2.1
  ⟨h.1, h'.1, h'.2.1⟩

theorem mem_range_triples {a b c : Nat} {t : Nat × Nat × Nat} :
    t ∈ ((List.range a).flatMap fun x => (List.range b).flatMap fun y =>
        (List.range c).map fun z => (x, y, z)) ↔ t.1 < a ∧ t.2.1 < b ∧ t.2.2 < c := by
  obtain ⟨x, y, z⟩ := t
  simp only [List.mem_flatMap, List.mem_map, List.mem_range, Prod.mk.injEq]
  constructor
  · rintro ⟨x', hx, y', hy, z', hz, rfl, rfl, rfl⟩
    exact ⟨hx, hy, hz⟩
  · rintro ⟨hx, hy, hz⟩
    exact ⟨x, hx, y, hy, z, hz, rfl, rfl, rfl⟩

end CMacVerif.MixedRadix
