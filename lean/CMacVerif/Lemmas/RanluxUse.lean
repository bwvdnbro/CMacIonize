import CMacVerif.Model.RanluxUse
import CMacVerif.Lemmas.RealArith
import CMacVerif.Inst.Real
import Mathlib.Analysis.SpecialFunctions.Trigonometric.Basic
/-! Consumers of the generator over the reals: emission direction and optical depth. -/
namespace CMacVerif.Ranlux

noncomputable instance : TrigFns ℝ := ⟨Real.cos, Real.sin, Real.pi⟩

theorem emitDirection_real (u1 u2 : ℝ) :
    emitDirection u1 u2 =
      (Real.sqrt (max (1 - (2 * u1 - 1) * (2 * u1 - 1)) 0) * Real.cos (2 * Real.pi * u2),
       Real.sqrt (max (1 - (2 * u1 - 1) * (2 * u1 - 1)) 0) * Real.sin (2 * Real.pi * u2),
       2 * u1 - 1) := by
  unfold emitDirection
  simp only [amax_real, lit2, lit1, lit0]
  rfl

theorem emitTau_real (u : ℝ) : emitTau u = -Real.log u := rfl

end CMacVerif.Ranlux
