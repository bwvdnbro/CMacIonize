import CMacVerif.Lemmas.Predicates
import CMacVerif.Lemmas.PredicatesFilter
import CMacVerif.Lemmas.PredicatesDet
import CMacVerif.Lemmas.PredicatesBits
/-!
# C17 — orientation and in-sphere tests return the exact sign

Property theorems, the definitions their statements use and the lemmas that need those.  Model:
`CMacVerif/Model/Predicates.lean` (mirrors
`src/ExactGeometricTests.hpp`).  Notation: `orientExactVal` / `insphereExactVal` at `ι := ℤ` are
the integers the exact routines compute from the mantissas; `orient3dExact` / `insphereExact`
are the routines as coded (256- resp. 278-bit sign-magnitude integers, truncating);
`orientFilter` / `insphereFilter` are the floating-point parts of the adaptive routines,
`orient3dAdaptive` / `insphereAdaptive` the adaptive routines.
-/
set_option exponentiation.threshold 2000
namespace CMacVerif.Predicates

/-! ## 1. the exact routines compute the determinant -/

/-- `orient3d_exact` computes the 3x3 determinant of the coordinate differences
(Leibniz formula written out) -/
theorem orient_exact_is_det (a b c d : V3 ℤ) :
    orientExactVal a b c d =
      (a.x - d.x) * (b.y - d.y) * (c.z - d.z) + (a.y - d.y) * (b.z - d.z) * (c.x - d.x)
      + (a.z - d.z) * (b.x - d.x) * (c.y - d.y) - (a.z - d.z) * (b.y - d.y) * (c.x - d.x)
      - (a.y - d.y) * (b.x - d.x) * (c.z - d.z) - (a.x - d.x) * (b.z - d.z) * (c.y - d.y) := by
  simp only [orientExactVal]; ring

/-- the same with Mathlib's determinant -/
theorem orient_exact_is_matrix_det (a b c d : V3 ℤ) :
    orientExactVal a b c d =
      Matrix.det !![a.x - d.x, a.y - d.y, a.z - d.z;
                    b.x - d.x, b.y - d.y, b.z - d.z;
                    c.x - d.x, c.y - d.y, c.z - d.z] := by
  rw [Matrix.det_fin_three]
  simp only [Matrix.of_apply, Matrix.cons_val, orientExactVal]
  ring

/-- 3x3 determinant, Leibniz formula -/
def idet3 (a1 a2 a3 b1 b2 b3 c1 c2 c3 : ℤ) : ℤ :=
  a1 * b2 * c3 + a2 * b3 * c1 + a3 * b1 * c2 - a3 * b2 * c1 - a2 * b1 * c3 - a1 * b3 * c2

theorem det_fin_four_last_col (A : Matrix (Fin 4) (Fin 4) ℤ) :
    A.det =
      - A 0 3 * idet3 (A 1 0) (A 1 1) (A 1 2) (A 2 0) (A 2 1) (A 2 2) (A 3 0) (A 3 1) (A 3 2)
      + A 1 3 * idet3 (A 0 0) (A 0 1) (A 0 2) (A 2 0) (A 2 1) (A 2 2) (A 3 0) (A 3 1) (A 3 2)
      - A 2 3 * idet3 (A 0 0) (A 0 1) (A 0 2) (A 1 0) (A 1 1) (A 1 2) (A 3 0) (A 3 1) (A 3 2)
      + A 3 3 * idet3 (A 0 0) (A 0 1) (A 0 2) (A 1 0) (A 1 1) (A 1 2) (A 2 0) (A 2 1) (A 2 2) := by
  -- the rows left when row `i` is deleted, and the signs of the four cofactors
  have e : ∀ i : Fin 4, i.succAbove = ![![1, 2, 3], ![0, 2, 3], ![0, 1, 3], ![0, 1, 2]] i := by
    decide
  have s : ∀ i : Fin 4, (-1 : ℤ) ^ ((i : ℕ) + ((3 : Fin 4) : ℕ)) = ![-1, 1, -1, 1] i := by decide
  rw [Matrix.det_succ_column A 3, Fin.sum_univ_four]
  simp only [s, e, Matrix.det_fin_three, Matrix.submatrix_apply, idet3, Matrix.cons_val]
  ring

theorem insphereCombine_parts (p q r s : V3 ℤ) :
    insphereCombine (insphereParts p q r s) =
      - nrm2 p * idet3 q.x q.y q.z r.x r.y r.z s.x s.y s.z
      + nrm2 q * idet3 p.x p.y p.z r.x r.y r.z s.x s.y s.z
      - nrm2 r * idet3 p.x p.y p.z q.x q.y q.z s.x s.y s.z
      + nrm2 s * idet3 p.x p.y p.z q.x q.y q.z r.x r.y r.z := by
  simp only [insphereCombine, insphereParts, minor2, idet3]; ring

/-- `insphere_exact` computes the lifted 4x4 determinant with rows
`(px - ex, py - ey, pz - ez, |p - e|²)`, `p = a, b, c, d` (Laplace expansion along the last
column written out) -/
theorem insphere_exact_is_det (a b c d e : V3 ℤ) :
    insphereExactVal a b c d e =
      - (nrm2 (vsub a e)) * idet3 (b.x - e.x) (b.y - e.y) (b.z - e.z) (c.x - e.x) (c.y - e.y)
            (c.z - e.z) (d.x - e.x) (d.y - e.y) (d.z - e.z)
      + (nrm2 (vsub b e)) * idet3 (a.x - e.x) (a.y - e.y) (a.z - e.z) (c.x - e.x) (c.y - e.y)
            (c.z - e.z) (d.x - e.x) (d.y - e.y) (d.z - e.z)
      - (nrm2 (vsub c e)) * idet3 (a.x - e.x) (a.y - e.y) (a.z - e.z) (b.x - e.x) (b.y - e.y)
            (b.z - e.z) (d.x - e.x) (d.y - e.y) (d.z - e.z)
      + (nrm2 (vsub d e)) * idet3 (a.x - e.x) (a.y - e.y) (a.z - e.z) (b.x - e.x) (b.y - e.y)
            (b.z - e.z) (c.x - e.x) (c.y - e.y) (c.z - e.z) :=
  insphereCombine_parts (vsub a e) (vsub b e) (vsub c e) (vsub d e)

/-- the same with Mathlib's determinant -/
theorem insphere_exact_is_matrix_det (a b c d e : V3 ℤ) :
    insphereExactVal a b c d e =
      Matrix.det !![a.x - e.x, a.y - e.y, a.z - e.z, (a.x - e.x) ^ 2 + (a.y - e.y) ^ 2 + (a.z - e.z) ^ 2;
                    b.x - e.x, b.y - e.y, b.z - e.z, (b.x - e.x) ^ 2 + (b.y - e.y) ^ 2 + (b.z - e.z) ^ 2;
                    c.x - e.x, c.y - e.y, c.z - e.z, (c.x - e.x) ^ 2 + (c.y - e.y) ^ 2 + (c.z - e.z) ^ 2;
                    d.x - e.x, d.y - e.y, d.z - e.z, (d.x - e.x) ^ 2 + (d.y - e.y) ^ 2 + (d.z - e.z) ^ 2] := by
  rw [det_fin_four_last_col, insphere_exact_is_det]
  simp only [Matrix.of_apply, Matrix.cons_val, nrm2, vsub, pow_two]

/-- homogeneous 4x4 matrix of four points: rows `(x, y, z, 1)` -/
def homM (p : Fin 4 → V3 ℤ) : Matrix (Fin 4) (Fin 4) ℤ :=
  Matrix.of fun i j => ![(p i).x, (p i).y, (p i).z, 1] j

/-- lifted homogeneous 5x5 matrix of five points: rows `(x, y, z, x²+y²+z², 1)` -/
def liftM (p : Fin 5 → V3 ℤ) : Matrix (Fin 5) (Fin 5) ℤ :=
  Matrix.of fun i j =>
    ![(p i).x, (p i).y, (p i).z, (p i).x ^ 2 + (p i).y ^ 2 + (p i).z ^ 2, 1] j

/-- orientation value = homogeneous 4x4 determinant of the points themselves -/
theorem orient_exact_is_hom_det (p : Fin 4 → V3 ℤ) :
    orientExactVal (p 0) (p 1) (p 2) (p 3) = (homM p).det := by
  rw [det_of_last_col_one _ (fun _ => rfl), Matrix.det_fin_three]
  simp only [homM, Matrix.of_apply, Fin.castSucc_zero, Fin.castSucc_one, Fin.reduceCastSucc,
    Fin.reduceLast, Matrix.cons_val, orientExactVal]
  ring

/-- a 4x4 determinant whose last column is a combination of the first three vanishes -/
theorem idet3_lincomb (p q r s e : V3 ℤ) :
    - (e.x * p.x + e.y * p.y + e.z * p.z) * idet3 q.x q.y q.z r.x r.y r.z s.x s.y s.z
    + (e.x * q.x + e.y * q.y + e.z * q.z) * idet3 p.x p.y p.z r.x r.y r.z s.x s.y s.z
    - (e.x * r.x + e.y * r.y + e.z * r.z) * idet3 p.x p.y p.z q.x q.y q.z s.x s.y s.z
    + (e.x * s.x + e.y * s.y + e.z * s.z) * idet3 p.x p.y p.z q.x q.y q.z r.x r.y r.z = 0 := by
  simp only [idet3]; ring

/-- in-sphere value = lifted homogeneous 5x5 determinant of the points themselves -/
theorem insphere_exact_is_lift_det (p : Fin 5 → V3 ℤ) :
    insphereExactVal (p 0) (p 1) (p 2) (p 3) (p 4) = (liftM p).det := by
  -- difference of the squared norms = squared norm of the difference + a combination of the
  -- coordinates of the difference
  have hn : ∀ a e : V3 ℤ, a.x ^ 2 + a.y ^ 2 + a.z ^ 2 - (e.x ^ 2 + e.y ^ 2 + e.z ^ 2) =
      nrm2 (vsub a e) + 2 * (e.x * (a.x - e.x) + e.y * (a.y - e.y) + e.z * (a.z - e.z)) :=
    fun a e => by simp only [nrm2, vsub]; ring
  have h0 := idet3_lincomb (vsub (p 0) (p 4)) (vsub (p 1) (p 4)) (vsub (p 2) (p 4))
    (vsub (p 3) (p 4)) (p 4)
  simp only [vsub] at h0
  rw [det_of_last_col_one _ (fun _ => rfl), det_fin_four_last_col, insphere_exact_is_det]
  simp only [liftM, Matrix.of_apply, Fin.castSucc_zero, Fin.castSucc_one, Fin.reduceCastSucc,
    Fin.reduceLast, Matrix.cons_val, hn]
  linear_combination -2 * h0

/-- orientation convention of the source comment: (0,0,0), (0,0,1), (0,1,0), (1,0,0) gives +1 -/
example : sgn (orientExactVal (⟨0, 0, 0⟩ : V3 ℤ) ⟨0, 0, 1⟩ ⟨0, 1, 0⟩ ⟨1, 0, 0⟩) = 1 := by decide

/-! ## 2. behaviour under permutations of the points -/

/-- every permutation of the four points multiplies the value by its signature -/
theorem orient_perm (σ : Equiv.Perm (Fin 4)) (p : Fin 4 → V3 ℤ) :
    orientExactVal (p (σ 0)) (p (σ 1)) (p (σ 2)) (p (σ 3)) =
      (Equiv.Perm.sign σ : ℤ) * orientExactVal (p 0) (p 1) (p 2) (p 3) := by
  rw [orient_exact_is_hom_det (fun i => p (σ i)), orient_exact_is_hom_det p]
  have e : homM (fun i => p (σ i)) = (homM p).submatrix σ id := rfl
  rw [e, Matrix.det_permute, Int.cast_id]

/-- every permutation of the five points multiplies the value by its signature -/
theorem insphere_perm (σ : Equiv.Perm (Fin 5)) (p : Fin 5 → V3 ℤ) :
    insphereExactVal (p (σ 0)) (p (σ 1)) (p (σ 2)) (p (σ 3)) (p (σ 4)) =
      (Equiv.Perm.sign σ : ℤ) * insphereExactVal (p 0) (p 1) (p 2) (p 3) (p 4) := by
  rw [insphere_exact_is_lift_det (fun i => p (σ i)), insphere_exact_is_lift_det p]
  have e : liftM (fun i => p (σ i)) = (liftM p).submatrix σ id := rfl
  rw [e, Matrix.det_permute, Int.cast_id]

theorem orient_swap_ab (a b c d : V3 ℤ) : orientExactVal b a c d = -orientExactVal a b c d := by
  simpa [Equiv.swap_apply_def] using orient_perm (Equiv.swap 0 1) ![a, b, c, d]
theorem orient_swap_bc (a b c d : V3 ℤ) : orientExactVal a c b d = -orientExactVal a b c d := by
  simpa [Equiv.swap_apply_def] using orient_perm (Equiv.swap 1 2) ![a, b, c, d]
theorem orient_swap_cd (a b c d : V3 ℤ) : orientExactVal a b d c = -orientExactVal a b c d := by
  simpa [Equiv.swap_apply_def] using orient_perm (Equiv.swap 2 3) ![a, b, c, d]
theorem orient_swap_ad (a b c d : V3 ℤ) : orientExactVal d b c a = -orientExactVal a b c d := by
  simpa [Equiv.swap_apply_def] using orient_perm (Equiv.swap 0 3) ![a, b, c, d]
/-- a cyclic (even) permutation of three points keeps the value -/
theorem orient_cycle_abc (a b c d : V3 ℤ) : orientExactVal b c a d = orientExactVal a b c d := by
  rw [orient_swap_bc, orient_swap_ab, neg_neg]
theorem orient_cycle_bcd (a b c d : V3 ℤ) : orientExactVal a c d b = orientExactVal a b c d := by
  rw [orient_swap_cd, orient_swap_bc, neg_neg]

theorem insphere_swap_ab (a b c d e : V3 ℤ) :
    insphereExactVal b a c d e = -insphereExactVal a b c d e := by
  simpa [Equiv.swap_apply_def] using insphere_perm (Equiv.swap 0 1) ![a, b, c, d, e]
theorem insphere_swap_bc (a b c d e : V3 ℤ) :
    insphereExactVal a c b d e = -insphereExactVal a b c d e := by
  simpa [Equiv.swap_apply_def] using insphere_perm (Equiv.swap 1 2) ![a, b, c, d, e]
theorem insphere_swap_cd (a b c d e : V3 ℤ) :
    insphereExactVal a b d c e = -insphereExactVal a b c d e := by
  simpa [Equiv.swap_apply_def] using insphere_perm (Equiv.swap 2 3) ![a, b, c, d, e]
/-- also the test point may be exchanged with a vertex -/
theorem insphere_swap_de (a b c d e : V3 ℤ) :
    insphereExactVal a b c e d = -insphereExactVal a b c d e := by
  simpa [Equiv.swap_apply_def] using insphere_perm (Equiv.swap 3 4) ![a, b, c, d, e]
theorem insphere_cycle_abc (a b c d e : V3 ℤ) :
    insphereExactVal b c a d e = insphereExactVal a b c d e := by
  rw [insphere_swap_bc, insphere_swap_ab, neg_neg]
theorem insphere_cycle_cde (a b c d e : V3 ℤ) :
    insphereExactVal a b d e c = insphereExactVal a b c d e := by
  rw [insphere_swap_de, insphere_swap_cd, neg_neg]

/-! ## 3. the fixed-width routines return the unbounded value -/

/-- the routine as coded (256-bit integers) returns the sign of the unbounded determinant -/
theorem orient_fits_256 (a b c d : V3 ℤ) (ha : Mant53 a) (hb : Mant53 b) (hc : Mant53 c)
    (hd : Mant53 d) : orient3dExact a b c d = sgn (orientExactVal a b c d) := by
  unfold orient3dExact
  rw [(orient_fits orientBits (by decide) a b c d ha hb hc hd).1]

/-- the routine as coded (278-bit integers) returns the sign of the unbounded determinant -/
theorem insphere_fits_278 (a b c d e : V3 ℤ) (ha : Mant53 a) (hb : Mant53 b) (hc : Mant53 c)
    (hd : Mant53 d) (he : Mant53 e) :
    insphereExact a b c d e = sgn (insphereExactVal a b c d e) := by
  unfold insphereExact
  rw [(insphere_fits insphereBits (by decide) a b c d e ha hb hc hd he).1]

/-- for the mantissas of ANY twelve doubles (no hypothesis left) -/
theorem orient_exact_sign (a b c d : V3 ℕ) :
    orient3dExact (a.map mantissa) (b.map mantissa) (c.map mantissa) (d.map mantissa) =
      sgn (orientExactVal (a.map mantissa) (b.map mantissa) (c.map mantissa) (d.map mantissa)) :=
  orient_fits_256 _ _ _ _ (mant53_of_bits a) (mant53_of_bits b) (mant53_of_bits c)
    (mant53_of_bits d)

theorem insphere_exact_sign (a b c d e : V3 ℕ) :
    insphereExact (a.map mantissa) (b.map mantissa) (c.map mantissa) (d.map mantissa)
      (e.map mantissa) =
      sgn (insphereExactVal (a.map mantissa) (b.map mantissa) (c.map mantissa) (d.map mantissa)
        (e.map mantissa)) :=
  insphere_fits_278 _ _ _ _ _ (mant53_of_bits a) (mant53_of_bits b) (mant53_of_bits c)
    (mant53_of_bits d) (mant53_of_bits e)

/-- the hypothesis of the `_fits` theorems is satisfiable, also at its upper end -/
example : Mant53 ⟨0, 2 ^ 53 - 1, 2 ^ 52⟩ := by
  refine ⟨⟨?_, ?_⟩, ⟨?_, ?_⟩, ⟨?_, ?_⟩⟩ <;> norm_num

/-- the bound is not far from tight: values of at least `2^159` occur -/
example : ∃ a b c d : V3 ℤ, Mant53 a ∧ Mant53 b ∧ Mant53 c ∧ Mant53 d ∧
    2 ^ 159 ≤ |orientExactVal a b c d| := by
  refine ⟨⟨2 ^ 53 - 1, 0, 0⟩, ⟨0, 2 ^ 53 - 1, 0⟩, ⟨0, 0, 2 ^ 53 - 1⟩,
    ⟨2 ^ 53 - 1, 2 ^ 53 - 1, 2 ^ 53 - 1⟩, ?_⟩
  unfold Mant53 M53
  decide

/-! ## 4. the floating-point filter is sound -/

/-- the coordinates of `p` are doubles in [1,2): value `1 + m / 2^52` with the 52-bit mantissa
`m = mant x` that `get_mantissa` extracts -/
def OnGrid {fl : ℝ → ℝ} (mant : Rnd fl → ℤ) (p : V3 (Rnd fl)) : Prop :=
  Grid (vals p) (p.map mant) ∧ Mant53 (p.map mant)

/-- `differences_exact`: under IEEE arithmetic (every multiple `k·2⁻⁵²` with `|k| < 2⁵³` is a double,
so a correctly rounding `fl` returns it unchanged) the coordinate differences the adaptive
routines start from are computed without error.  The soundness theorems below do NOT need this:
they hold for every `fl`, exact differences or not. -/
theorem differences_exact (fl : ℝ → ℝ)
    (hex : ∀ k : ℤ, |k| < 2 ^ 53 → fl ((k : ℝ) / 2 ^ 52) = (k : ℝ) / 2 ^ 52)
    (mant : Rnd fl → ℤ) (a d : V3 (Rnd fl)) (ha : OnGrid mant a) (hd : OnGrid mant d) :
    (vsub a d).x.val = a.x.val - d.x.val ∧ (vsub a d).y.val = a.y.val - d.y.val ∧
    (vsub a d).z.val = a.z.val - d.z.val := by
  have key : ∀ {r : ℝ} {m n : ℤ}, r = ((m - n : ℤ) : ℝ) / 2 ^ 52 → M53 m → M53 n → fl r = r := by
    rintro _ m n rfl hm hn
    exact hex _ (abs_sub_lt_of_nonneg_of_lt hm.1 hm.2 hn.1 hn.2)
  obtain ⟨ga, ax, ay, az⟩ := ha
  obtain ⟨gd, dx, dy, dz⟩ := hd
  obtain ⟨ex, ey, ez⟩ := ga.vsub gd
  exact ⟨key ex ax dx, key ey ay dy, key ez az dz⟩

/-- **filter_sound (orientation)**: for every rounding function `fl` with relative error at most
`2⁻⁵³` applied after every operation (differences included) and to the literal `1.e-10`, a
non-zero answer of the filter is the sign of the exact integer determinant. -/
theorem orient_filter_sound (fl : ℝ → ℝ) (hfl : ∀ x, |fl x - x| ≤ 1 / 2 ^ 53 * |x|)
    (mant : Rnd fl → ℤ) (a b c d : V3 (Rnd fl))
    (ha : OnGrid mant a) (hb : OnGrid mant b) (hc : OnGrid mant c) (hd : OnGrid mant d)
    (hne : filterSign (orientFilter a b c d) ≠ 0) :
    filterSign (orientFilter a b c d) =
      sgn (orientExactVal (a.map mant) (b.map mant) (c.map mant) (d.map mant)) := by
  have hfl' : RndOK fl := hfl
  rw [orientExactVal_eq]
  exact filterSign_eq_sgn
    (orientCore_sign hfl' (vappr_vsub hfl' a d) (vappr_vsub hfl' b d) (vappr_vsub hfl' c d))
    (orientVec_scaled (ha.1.vsub hd.1) (hb.1.vsub hd.1) (hc.1.vsub hd.1)) hne

/-- **filter_sound (in-sphere)** -/
theorem insphere_filter_sound (fl : ℝ → ℝ) (hfl : ∀ x, |fl x - x| ≤ 1 / 2 ^ 53 * |x|)
    (mant : Rnd fl → ℤ) (a b c d e : V3 (Rnd fl))
    (ha : OnGrid mant a) (hb : OnGrid mant b) (hc : OnGrid mant c) (hd : OnGrid mant d)
    (he : OnGrid mant e) (hne : filterSign (insphereFilter a b c d e) ≠ 0) :
    filterSign (insphereFilter a b c d e) =
      sgn (insphereExactVal (a.map mant) (b.map mant) (c.map mant) (d.map mant) (e.map mant)) := by
  have hfl' : RndOK fl := hfl
  exact filterSign_eq_sgn
    (insphereCore_sign hfl' (vappr_vsub hfl' a e) (vappr_vsub hfl' b e) (vappr_vsub hfl' c e)
      (vappr_vsub hfl' d e))
    (insphereCombine_scaled (ha.1.vsub he.1) (hb.1.vsub he.1) (hc.1.vsub he.1) (hd.1.vsub he.1)) hne

/-- **filter_sound**: both filters, one statement -/
theorem filter_sound (fl : ℝ → ℝ) (hfl : ∀ x, |fl x - x| ≤ 1 / 2 ^ 53 * |x|) (mant : Rnd fl → ℤ)
    (a b c d e : V3 (Rnd fl)) (ha : OnGrid mant a) (hb : OnGrid mant b) (hc : OnGrid mant c)
    (hd : OnGrid mant d) (he : OnGrid mant e) :
    (filterSign (orientFilter a b c d) ≠ 0 → filterSign (orientFilter a b c d) =
      sgn (orientExactVal (a.map mant) (b.map mant) (c.map mant) (d.map mant))) ∧
    (filterSign (insphereFilter a b c d e) ≠ 0 → filterSign (insphereFilter a b c d e) =
      sgn (insphereExactVal (a.map mant) (b.map mant) (c.map mant) (d.map mant) (e.map mant))) :=
  ⟨orient_filter_sound fl hfl mant a b c d ha hb hc hd,
   insphere_filter_sound fl hfl mant a b c d e ha hb hc hd he⟩

/-- **`orient3d_adaptive` returns the exact sign for all inputs in [1,2)** (filter decided or
fallback to the 256-bit routine) -/
theorem orient_adaptive_exact (fl : ℝ → ℝ) (hfl : ∀ x, |fl x - x| ≤ 1 / 2 ^ 53 * |x|)
    (mant : Rnd fl → ℤ) (a b c d : V3 (Rnd fl))
    (ha : OnGrid mant a) (hb : OnGrid mant b) (hc : OnGrid mant c) (hd : OnGrid mant d) :
    orient3dAdaptive mant a b c d =
      sgn (orientExactVal (a.map mant) (b.map mant) (c.map mant) (d.map mant)) := by
  unfold orient3dAdaptive
  simp only
  split_ifs with h0
  · exact orient_fits_256 _ _ _ _ ha.2 hb.2 hc.2 hd.2
  · exact orient_filter_sound fl hfl mant a b c d ha hb hc hd h0

/-- **`insphere_adaptive` returns the exact sign for all inputs in [1,2)** -/
theorem insphere_adaptive_exact (fl : ℝ → ℝ) (hfl : ∀ x, |fl x - x| ≤ 1 / 2 ^ 53 * |x|)
    (mant : Rnd fl → ℤ) (a b c d e : V3 (Rnd fl))
    (ha : OnGrid mant a) (hb : OnGrid mant b) (hc : OnGrid mant c) (hd : OnGrid mant d)
    (he : OnGrid mant e) :
    insphereAdaptive mant a b c d e =
      sgn (insphereExactVal (a.map mant) (b.map mant) (c.map mant) (d.map mant) (e.map mant)) := by
  unfold insphereAdaptive
  simp only
  split_ifs with h0
  · exact insphere_fits_278 _ _ _ _ _ ha.2 hb.2 hc.2 hd.2 he.2
  · exact insphere_filter_sound fl hfl mant a b c d e ha hb hc hd he h0

/-- consequence: the adaptive orientation test is negated by exchanging two points -/
theorem orient_adaptive_swap_ab (fl : ℝ → ℝ) (hfl : ∀ x, |fl x - x| ≤ 1 / 2 ^ 53 * |x|)
    (mant : Rnd fl → ℤ) (a b c d : V3 (Rnd fl))
    (ha : OnGrid mant a) (hb : OnGrid mant b) (hc : OnGrid mant c) (hd : OnGrid mant d) :
    orient3dAdaptive mant b a c d = - orient3dAdaptive mant a b c d := by
  rw [orient_adaptive_exact fl hfl mant b a c d hb ha hc hd,
    orient_adaptive_exact fl hfl mant a b c d ha hb hc hd, orient_swap_ab, sgn_neg_eq]

theorem insphere_adaptive_swap_de (fl : ℝ → ℝ) (hfl : ∀ x, |fl x - x| ≤ 1 / 2 ^ 53 * |x|)
    (mant : Rnd fl → ℤ) (a b c d e : V3 (Rnd fl))
    (ha : OnGrid mant a) (hb : OnGrid mant b) (hc : OnGrid mant c) (hd : OnGrid mant d)
    (he : OnGrid mant e) :
    insphereAdaptive mant a b c e d = - insphereAdaptive mant a b c d e := by
  rw [insphere_adaptive_exact fl hfl mant a b c e d ha hb hc he hd,
    insphere_adaptive_exact fl hfl mant a b c d e ha hb hc hd he, insphere_swap_de, sgn_neg_eq]

/-- every permutation of the points multiplies the adaptive answer by its signature -/
theorem orient_adaptive_perm (fl : ℝ → ℝ) (hfl : ∀ x, |fl x - x| ≤ 1 / 2 ^ 53 * |x|)
    (mant : Rnd fl → ℤ) (σ : Equiv.Perm (Fin 4)) (p : Fin 4 → V3 (Rnd fl))
    (hp : ∀ i, OnGrid mant (p i)) :
    orient3dAdaptive mant (p (σ 0)) (p (σ 1)) (p (σ 2)) (p (σ 3)) =
      (Equiv.Perm.sign σ : ℤ) * orient3dAdaptive mant (p 0) (p 1) (p 2) (p 3) := by
  rw [orient_adaptive_exact fl hfl mant _ _ _ _ (hp _) (hp _) (hp _) (hp _),
    orient_adaptive_exact fl hfl mant _ _ _ _ (hp _) (hp _) (hp _) (hp _),
    orient_perm σ fun i => (p i).map mant, sgn_unit_mul]

theorem insphere_adaptive_perm (fl : ℝ → ℝ) (hfl : ∀ x, |fl x - x| ≤ 1 / 2 ^ 53 * |x|)
    (mant : Rnd fl → ℤ) (σ : Equiv.Perm (Fin 5)) (p : Fin 5 → V3 (Rnd fl))
    (hp : ∀ i, OnGrid mant (p i)) :
    insphereAdaptive mant (p (σ 0)) (p (σ 1)) (p (σ 2)) (p (σ 3)) (p (σ 4)) =
      (Equiv.Perm.sign σ : ℤ) * insphereAdaptive mant (p 0) (p 1) (p 2) (p 3) (p 4) := by
  rw [insphere_adaptive_exact fl hfl mant _ _ _ _ _ (hp _) (hp _) (hp _) (hp _) (hp _),
    insphere_adaptive_exact fl hfl mant _ _ _ _ _ (hp _) (hp _) (hp _) (hp _) (hp _),
    insphere_perm σ fun i => (p i).map mant, sgn_unit_mul]

/-! ### non-vacuity -/

/-- the hypotheses of `filter_sound` are satisfiable: exact arithmetic (`fl = id`) is a rounding
function, and the point (1, 1, 1) lies on the grid -/
example : ∃ (fl : ℝ → ℝ) (mant : Rnd fl → ℤ) (p : V3 (Rnd fl)),
    (∀ x, |fl x - x| ≤ 1 / 2 ^ 53 * |x|) ∧ OnGrid mant p := by
  refine ⟨id, fun x => ⌊(x.val - 1) * 2 ^ 52⌋, ⟨⟨1⟩, ⟨1⟩, ⟨1⟩⟩, fun x => by simp, ?_⟩
  norm_num [OnGrid, Grid, Mant53, M53, vals, V3.map]

/-- the unit tetrahedron scaled into [1,2), evaluated in exact arithmetic (`fl = id`) -/
private noncomputable def tetF : FiltOut (Rnd id) :=
  orientFilter ⟨⟨1⟩, ⟨1⟩, ⟨1⟩⟩ ⟨⟨1⟩, ⟨1⟩, ⟨1.5⟩⟩ ⟨⟨1⟩, ⟨1.5⟩, ⟨1⟩⟩ ⟨⟨1.5⟩, ⟨1⟩, ⟨1⟩⟩

/-- the filter does decide (its answer is not always 0) -/
example : filterSign tetF = 1 := by
  have h : ¬ (tetF.result < -tetF.errbound) ∧ tetF.errbound < tetF.result := by
    show ¬ (tetF.result.val < -tetF.errbound.val) ∧ tetF.errbound.val < tetF.result.val
    simp only [tetF, orientFilter, orientCore, vsub, Rnd.add_val, Rnd.sub_val, Rnd.mul_val,
      Rnd.abs_val, Rnd.sci_val, id]
    norm_num
  unfold filterSign
  rw [if_neg h.1, if_pos h.2]

/-! ## 5. the rescaling of the simulation box maps into [1,2) (real arithmetic) -/

/-- **rescale_in_range**: `x ↦ 1 + (x - min) / (ext (1 + 4ε))` maps `[min, min + ext]` into `[1, 2)`
(per axis, with that axis' own extent) -/
theorem rescale_in_range (mn ext ε x : ℝ) (hext : 0 < ext) (hε : 0 < ε) (h1 : mn ≤ x)
    (h2 : x ≤ mn + ext) :
    1 ≤ rescale1 x mn (ext * (1 + 4 * ε)) ∧ rescale1 x mn (ext * (1 + 4 * ε)) < 2 := by
  have hd : 0 < ext * (1 + 4 * ε) := mul_pos hext (by linarith)
  have hlt : x - mn < ext * (1 + 4 * ε) := by
    have : 0 < ext * (4 * ε) := mul_pos hext (by linarith)
    linarith
  unfold rescale1
  rw [lit1]
  constructor
  · exact le_add_of_nonneg_right (div_nonneg (sub_nonneg.2 h1) hd.le)
  · linarith [(div_lt_one hd).2 hlt]

/-- the rescaling is monotone -/
theorem rescale_mono (mn ext x y : ℝ) (hext : 0 < ext) (h : x ≤ y) :
    rescale1 x mn ext ≤ rescale1 y mn ext :=
  add_le_add le_rfl (div_le_div_of_nonneg_right (sub_le_sub_right h mn) hext.le)

/-- with an extent that is too small by any factor the upper end leaves `[1,2)`: the extent of each
axis has to be (at least) the one of that axis -/
theorem rescale_needs_own_extent (mn ext ext' : ℝ) (hext' : 0 < ext') (h : ext' ≤ ext) :
    2 ≤ rescale1 (mn + ext) mn ext' := by
  unfold rescale1
  rw [lit1, add_sub_cancel_left]
  linarith [(one_le_div hext').2 h]

/-- everything the Voronoi construction rescales (box, generators inside it, the vertices of the
all-encompassing tetrahedron) lies, per axis, between the tetrahedron's minimum `anchor - side`
and that minimum plus the axis' extent `9 max_side`; so with the padded extent of
`paddedExtent` it is mapped into `[1,2)`.  Stated for the x axis of `boxTetra` / `paddedExtent`
(y and z are the same statement with the components renamed). -/
theorem rescale_box_in_range (anchor sides : V3 ℝ) (ε x : ℝ) (hε : 0 < ε)
    (hx : 0 < sides.x) (h1 : anchor.x - sides.x ≤ x)
    (h2 : x ≤ anchor.x - sides.x + 9.0 * amax (amax sides.x sides.y) sides.z) :
    let t := boxTetra anchor sides
    1 ≤ rescale1 x t.v0.x (paddedExtent (1 + 4 * ε) t).x ∧
      rescale1 x t.v0.x (paddedExtent (1 + 4 * ε) t).x < 2 := by
  intro t
  have hext : 0 < 9.0 * amax (amax sides.x sides.y) sides.z :=
    mul_pos (by norm_num) (hx.trans_le (side_le_amax sides))
  have e : (paddedExtent (1 + 4 * ε) t).x =
      9.0 * amax (amax sides.x sides.y) sides.z * (1 + 4 * ε) := by
    show (anchor.x - sides.x + _ - (anchor.x - sides.x)) * _ = _
    rw [add_sub_cancel_left]
  rw [e]
  exact rescale_in_range _ _ ε x hext hε h1 h2

/-- in particular the generators: every `x` inside the box -/
example (anchor sides : V3 ℝ) (hx : 0 < sides.x) (x : ℝ)
    (h1 : anchor.x ≤ x) (h2 : x ≤ anchor.x + sides.x) :
    anchor.x - sides.x ≤ x ∧ x ≤ anchor.x - sides.x + 9.0 * amax (amax sides.x sides.y) sides.z := by
  have hm := side_le_amax sides
  rw [show (9.0 : ℝ) = 9 by norm_num]
  constructor <;> linarith

/-! ## 6. the ROUNDED rescaling stays inside [1,2) -/

/-- all three coordinates in [1,2) -/
def In12 {fl : ℝ → ℝ} (p : V3 (Rnd fl)) : Prop :=
  (1 ≤ p.x.val ∧ p.x.val < 2) ∧ (1 ≤ p.y.val ∧ p.y.val < 2) ∧ (1 ≤ p.z.val ∧ p.z.val < 2)

/-- the tetrahedron spans a non-empty interval on every axis (as computed) -/
def TetraPos {fl : ℝ → ℝ} (t : Tetra (Rnd fl)) : Prop :=
  t.v0.x.val < t.v1.x.val ∧ t.v0.y.val < t.v2.y.val ∧ t.v0.z.val < t.v3.z.val

/-- `p` lies, axis by axis, between the minimum and the maximum the extents are taken from -/
def Within {fl : ℝ → ℝ} (t : Tetra (Rnd fl)) (p : V3 (Rnd fl)) : Prop :=
  (t.v0.x.val ≤ p.x.val ∧ p.x.val ≤ t.v1.x.val) ∧ (t.v0.y.val ≤ p.y.val ∧ p.y.val ≤ t.v2.y.val) ∧
    (t.v0.z.val ≤ p.z.val ∧ p.z.val ≤ t.v3.z.val)

/-- **rescale_rounded_in_range**: for EVERY rounding function `fl` with relative error ≤ 2⁻⁵³ that
is monotone and leaves 1 unchanged, applied after every operation of
`1. + (x - min_anchor) / max_anchor` and of `max_anchor = (max - min) * (1 + 4 DBL_EPSILON)`:
every point between the axis minima and maxima is mapped into [1,2)^3.  (With `1 + DBL_EPSILON` in
place of `1 + 4 DBL_EPSILON` the statement is false: box (0,0,0)+(0.3,0.3,0.3).) -/
theorem rescale_rounded_in_range (fl : ℝ → ℝ) (hfl : ∀ x, |fl x - x| ≤ 1 / 2 ^ 53 * |x|)
    (hmono : Monotone fl) (h1 : fl 1 = 1) (k : Rnd fl) (hk : k.val = 1 + 4 * (1 / 2 ^ 52))
    (t : Tetra (Rnd fl)) (ht : TetraPos t) (p : V3 (Rnd fl)) (hp : Within t p) :
    In12 (rescaleP p t.v0 (paddedExtent k t)) := by
  have hk' : k.val = 1 + 8 * u := by rw [hk]; unfold u; ring
  have hfl' : RndOK fl := hfl
  obtain ⟨tx, ty, tz⟩ := ht
  obtain ⟨⟨x1, x2⟩, ⟨y1, y2⟩, ⟨z1, z2⟩⟩ := hp
  exact ⟨rescale1_rounded hfl' hmono h1 p.x t.v0.x t.v1.x k hk' x1 x2 tx,
    rescale1_rounded hfl' hmono h1 p.y t.v0.y t.v2.y k hk' y1 y2 ty,
    rescale1_rounded hfl' hmono h1 p.z t.v0.z t.v3.z k hk' z1 z2 tz⟩

/-- the four vertices of the all-encompassing tetrahedron of ANY box are rescaled into [1,2)^3
(only premise: the tetrahedron is not degenerate as computed; no premise on the vertices: the
coordinates of `boxTetra` that should be equal are the same expression) -/
theorem rescaled_tetra_in_range (fl : ℝ → ℝ) (hfl : ∀ x, |fl x - x| ≤ 1 / 2 ^ 53 * |x|)
    (hmono : Monotone fl) (h1 : fl 1 = 1) (k : Rnd fl) (hk : k.val = 1 + 4 * (1 / 2 ^ 52))
    (anchor sides : V3 (Rnd fl)) (ht : TetraPos (boxTetra anchor sides)) :
    In12 (rescaleBox k anchor sides).tet.v0 ∧ In12 (rescaleBox k anchor sides).tet.v1 ∧
    In12 (rescaleBox k anchor sides).tet.v2 ∧ In12 (rescaleBox k anchor sides).tet.v3 := by
  have key := rescale_rounded_in_range fl hfl hmono h1 k hk (boxTetra anchor sides) ht
  obtain ⟨hx, hy, hz⟩ := ht
  refine ⟨key _ ?_, key _ ?_, key _ ?_, key _ ?_⟩
  · exact ⟨⟨le_refl _, hx.le⟩, ⟨le_refl _, hy.le⟩, ⟨le_refl _, hz.le⟩⟩
  · exact ⟨⟨hx.le, le_refl _⟩, ⟨le_refl _, hy.le⟩, ⟨le_refl _, hz.le⟩⟩
  · exact ⟨⟨le_refl _, hx.le⟩, ⟨hy.le, le_refl _⟩, ⟨le_refl _, hz.le⟩⟩
  · exact ⟨⟨le_refl _, hx.le⟩, ⟨le_refl _, hy.le⟩, ⟨hz.le, le_refl _⟩⟩

/-- box corners and generators: in range as soon as they lie between the tetrahedron's minima and
maxima (premise evaluated on the real code for every generated box: oracle
`rescale-premise-violated`) -/
theorem rescaled_box_in_range (fl : ℝ → ℝ) (hfl : ∀ x, |fl x - x| ≤ 1 / 2 ^ 53 * |x|)
    (hmono : Monotone fl) (h1 : fl 1 = 1) (k : Rnd fl) (hk : k.val = 1 + 4 * (1 / 2 ^ 52))
    (anchor sides : V3 (Rnd fl)) (ht : TetraPos (boxTetra anchor sides))
    (ha : Within (boxTetra anchor sides) anchor)
    (hs : Within (boxTetra anchor sides)
      ⟨anchor.x + sides.x, anchor.y + sides.y, anchor.z + sides.z⟩) :
    In12 (rescaleBox k anchor sides).bottom ∧ In12 (rescaleBox k anchor sides).top :=
  ⟨rescale_rounded_in_range fl hfl hmono h1 k hk _ ht _ ha,
   rescale_rounded_in_range fl hfl hmono h1 k hk _ ht _ hs⟩

/-- non-vacuity: exact arithmetic is such a rounding function, the unit box satisfies the premises -/
example : ∃ (fl : ℝ → ℝ) (anchor sides : V3 (Rnd fl)), (∀ x, |fl x - x| ≤ 1 / 2 ^ 53 * |x|) ∧
    Monotone fl ∧ fl 1 = 1 ∧ TetraPos (boxTetra anchor sides) ∧
    Within (boxTetra anchor sides) anchor := by
  refine ⟨id, ⟨⟨0⟩, ⟨0⟩, ⟨0⟩⟩, ⟨⟨1⟩, ⟨1⟩, ⟨1⟩⟩, fun x => by simp, monotone_id, rfl, ?_⟩
  simp only [TetraPos, Within, boxTetra, amax, Rnd.add_val, Rnd.sub_val, Rnd.mul_val, Rnd.sci_val,
    id, Rnd.lt_iff]
  norm_num

/-! ## 7. wall copies (real arithmetic) -/

/-- mirroring commutes with the (affine) rescaling: the wall copy computed from the rescaled box
and the rescaled generator is the rescaled wall copy -/
theorem wall_copy_commutes (mn ext a x : ℝ) (hext : ext ≠ 0) :
    2.0 * rescale1 a mn ext - rescale1 x mn ext = rescale1 (2.0 * a - x) mn ext := by
  unfold rescale1
  rw [lit1, lit2]
  field_simp
  ring

/-- the wall copies of a generator inside the box lie between the tetrahedron's minimum and
maximum of that axis (`side ≤ max_side`), so they are rescaled into [1,2) as well
(x axis, LEFT and RIGHT wall; the other axes are the same statement) -/
theorem wall_copy_in_range (anchor sides p : V3 ℝ) (ε : ℝ) (hε : 0 < ε) (hx : 0 < sides.x)
    (h1 : anchor.x ≤ p.x) (h2 : p.x ≤ anchor.x + sides.x) (w : ℕ) (hw : w = 0 ∨ w = 1) :
    let t := boxTetra anchor sides
    1 ≤ rescale1 (wallCopy w anchor sides p).x t.v0.x (paddedExtent (1 + 4 * ε) t).x ∧
      rescale1 (wallCopy w anchor sides p).x t.v0.x (paddedExtent (1 + 4 * ε) t).x < 2 := by
  have hm := side_le_amax sides
  have e9 : (9.0 : ℝ) = 9 := by norm_num
  -- both walls mirror at a plane `x = c` inside the box
  have key := fun c (h3 : anchor.x ≤ c) (h4 : c ≤ anchor.x + sides.x) =>
    rescale_box_in_range anchor sides ε (2.0 * c - p.x) hε hx (by rw [lit2]; linarith)
      (by rw [lit2, e9]; linarith)
  rcases hw with rfl | rfl
  · exact key _ le_rfl (le_add_of_nonneg_right hx.le)
  · exact key _ (le_add_of_nonneg_right hx.le) le_rfl

/-! ## 8. `get_mantissa` and the value of the double

`Util.ratOfBits` is the exact rational value of an IEEE-754 binary64 bit pattern (shared decoder of
the drivers).  The doubles in [1,2) are exactly the patterns with sign bit 0 and biased exponent 1023
(`fields_of_range`, `value_of_fields`), and their value is `1 + mantissa / 2^52`: the form that the
hypothesis `Grid` / `OnGrid` of the filter theorems gives a coordinate (over ℚ and bit patterns
here; no theorem produces an `OnGrid` for `Rnd fl` from it). -/
section Mantissa
open CMacVerif.Util
/-- **get_mantissa_value**: for EVERY finite double whose value `q` lies in [1,2), `get_mantissa`
returns the 52-bit integer `m` with `q = 1 + m / 2^52` (`hn` is not needed: a sign field
other than 1 reads as positive) -/
theorem get_mantissa_value (n : ℕ) (q : ℚ) (h : ratOfBits n = some q) (h1 : 1 ≤ q) (h2 : q < 2)
    (hn : n < 2 ^ 64) :
    q = 1 + (mantissa n : ℚ) / 2 ^ 52 ∧ 0 ≤ mantissa n ∧ mantissa n < 2 ^ 52 :=
  ⟨value_of_range n q h h1 h2, mantissa_range n⟩

/-- non-vacuity: 1.5 = pattern 0x3FF8000000000000 -/
example : ratOfBits 0x3FF8000000000000 = some (3 / 2) ∧ mantissa 0x3FF8000000000000 = 2 ^ 51 := by
  rw [value_of_fields _ (by norm_num) (by norm_num)]
  norm_num [mantissa]
end Mantissa

end CMacVerif.Predicates
