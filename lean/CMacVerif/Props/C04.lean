import CMacVerif.Lemmas.HydroStep
import CMacVerif.Lemmas.HydroUpdate
import CMacVerif.Props.C05
/-!
# C04 — a hydro step conserves mass, momentum and energy; states stay physical

Property theorems, with the definitions of their statements that nothing earlier needs (`Lin`, `hllcFlux`,
`runSteps`, `NoClamp`, `flatCell`; `total`, `LoHi` are in `Lemmas/HydroStep.lean`, `phiminusR`, `phiplusR`,
`maxExt` in `Lemmas/HydroUpdate.lean`).  Models: `Model/HydroSweeps.lean` (which cell pairs the sweeps of a
subgrid visit), `Model/HydroUpdate.lean` (the cell-level arithmetic of Hydro.hpp with the Riemann solver as
a parameter), `Model/HydroStep.lean` (one step of the whole grid), at `ℝ`.
-/
namespace CMacVerif.C04
open CMacVerif CMacVerif.RiemannVacuum CMacVerif.HydroGraph CMacVerif.HydroSweeps
  CMacVerif.HydroUpdate CMacVerif.HydroStep

/-! ## Every face exactly once -/

/-- **faces_exactly_once.**  For every layout of subgrids, every number of cells per subgrid (at
least one along the swept axis) and every periodicity: the internal sweeps and the pair sweeps of
all subgrids together perform exactly the interactions `(cell, next cell along the axis)` of the
undivided global grid — the concatenated list is a permutation of the plain list of faces. -/
theorem faces_exactly_once (L : Layout) (c : Cells) (ax : Axis) (hc : 0 < clen c ax) :
    (allFaces L c ax).Perm (gridFaces (cellGrid L c) ax) :=
  allFaces_perm L c ax hc

/-- … and the boundary sweeps exactly the faces on a non-periodic side of the box -/
theorem boundary_faces_exactly_once (L : Layout) (c : Cells) (ax : Axis) (up : Bool)
    (hc : 0 < clen c ax) : (allGhosts L c ax up).Perm (gridGhosts (cellGrid L c) ax up) :=
  allGhosts_perm L c ax up hc

/-- no interaction is performed twice, and a face is identified by its left cell -/
theorem no_face_twice (L : Layout) (c : Cells) (ax : Axis) (hc : 0 < clen c ax) :
    (allFaces L c ax).Nodup ∧ (∀ up, (allGhosts L c ax up).Nodup) ∧
      ∀ X Y Y', (X, Y) ∈ allFaces L c ax → (X, Y') ∈ allFaces L c ax → Y = Y' := by
  refine ⟨allFaces_nodup L c ax hc, fun up => allGhosts_nodup L c ax up hc, ?_⟩
  intro X Y Y' h h'
  rw [mem_allFaces_iff L c ax hc, mem_gridFaces] at h h'
  exact Option.some.inj (h.2.symm.trans h'.2)

/-- the index expressions of the C++ sweeps (`start + ic * column_increment + ir * row_increment`,
`ix * n3 + iy * n2 + iz`) name exactly the cells of the coordinate-level lists, and different cells
of a subgrid have different indices -/
theorem index_level_faithful (c : Cells) (ax : Axis) :
    innerIdx c ax = (innerLoc c ax).map (fun pq => (lidx c pq.1, lidx c pq.2)) ∧
    outerIdx c ax = (outerLoc c ax).map (fun pq => (lidx c pq.1, lidx c pq.2)) ∧
    (∀ up, ghostIdx c ax up = (ghostLoc c ax up).map (lidx c)) ∧
    ∀ p q, validLoc c p = true → validLoc c q = true → lidx c p = lidx c q → p = q :=
  ⟨innerIdx_eq c ax, outerIdx_eq c ax, fun up => ghostIdx_eq c ax up,
    fun _ _ hp hq h => lidx_inj c hp hq h⟩

/-- non-vacuity: a periodic 2 × 1 × 1 layout of 2 × 1 × 1 cells has the four x faces
0→1→2→3→0 -/
example : allFaces ⟨2, 1, 1, true, true, true⟩ ⟨2, 1, 1⟩ .x
    = [((0,0,0),(1,0,0)), ((1,0,0),(2,0,0)), ((2,0,0),(3,0,0)), ((3,0,0),(0,0,0))] := by decide

/-! ## One face -/

/-- **flux_antisymmetric_update.**  `do_flux_calculation` subtracts from the left cell exactly
what it adds to the right cell, and that quantity is the area-weighted Riemann flux of the
reconstructed states times **one** factor in `[0, 1]` common to mass, momentum and energy — for
any Riemann solver, any states with non-negative masses and energies.  (The factor is common, so
the limiter's test of the *left* squared momentum in the right-cell condition, Hydro.hpp:514,
cannot break conservation.) -/
theorem flux_antisymmetric_update (flux : FluxFn ℝ) (tiny g : ℝ) (i : Axis) (L R : HV ℝ)
    (dx A dt : ℝ) (hmL : 0 ≤ L.cons.d) (hmR : 0 ≤ R.cons.d) (heL : 0 ≤ L.cons.e)
    (heR : 0 ≤ R.cons.e) :
    ∃ fac : ℝ, 0 ≤ fac ∧ fac ≤ 1 ∧
      let raw := rawFlux flux
        (reconstruct tiny L.prim (L.grad.along i) R.prim (R.grad.along i) dx) (unitNormal i 1.0) A
      let F := scaleFlux raw fac
      doFluxCalculation flux tiny g i L R dx A dt
          = ({ L with dcons := L.dcons.sub F }, { R with dcons := R.dcons.add F }) ∧
        (doFluxCalculation flux tiny g i L R dx A dt).1.dcons.add
            (doFluxCalculation flux tiny g i L R dx A dt).2.dcons = L.dcons.add R.dcons := by
  refine ⟨_, (fluxFac_range g _ _ _ dt L R hmL hmR heL heR).1,
    (fluxFac_range g _ _ _ dt L R hmL hmR heL heR).2, rfl, ?_⟩
  simp only [doFluxCalculation]
  ext <;> simp only [Q.add, Q.sub, V3.add, V3.sub] <;> ring

/-! ## Totals -/

/-- a component of the five conserved quantities (mass, a momentum component, energy) -/
structure Lin (φ : Q ℝ → ℝ) : Prop where
  add : ∀ a b, φ (a.add b) = φ a + φ b
  sub : ∀ a b, φ (a.sub b) = φ a - φ b
  axpy : ∀ a b t, φ ⟨a.d + b.d * t, ⟨a.v.x + b.v.x * t, a.v.y + b.v.y * t, a.v.z + b.v.z * t⟩,
    a.e + b.e * t⟩ = φ a + φ b * t
  zero : φ ⟨0, ⟨0, 0, 0⟩, 0⟩ = 0

theorem lin_mass : Lin (fun q => q.d) := ⟨fun _ _ => rfl, fun _ _ => rfl, fun _ _ _ => rfl, rfl⟩
theorem lin_px : Lin (fun q => q.v.x) := ⟨fun _ _ => rfl, fun _ _ => rfl, fun _ _ _ => rfl, rfl⟩
theorem lin_py : Lin (fun q => q.v.y) := ⟨fun _ _ => rfl, fun _ _ => rfl, fun _ _ _ => rfl, rfl⟩
theorem lin_pz : Lin (fun q => q.v.z) := ⟨fun _ _ => rfl, fun _ _ => rfl, fun _ _ _ => rfl, rfl⟩
theorem lin_energy : Lin (fun q => q.e) := ⟨fun _ _ => rfl, fun _ _ => rfl, fun _ _ _ => rfl, rfl⟩

theorem flux_run_total (flux : FluxFn ℝ) (pr : Params ℝ) {cells : List Cell} (hn : cells.Nodup)
    {φ : Q ℝ → ℝ} (hφ : Lin φ) (ops : List Op)
    (hper : ∀ op ∈ ops, ∃ ax l r, op = .pair ax l r ∧ l ∈ cells ∧ r ∈ cells) (s : Grid (HV ℝ)) :
    total cells (fun y => φ (runOps (fluxPhys flux pr) s ops y).dcons)
      = total cells (fun y => φ (s y).dcons) := by
  induction ops generalizing s with
  | nil => rfl
  | cons o ops ih =>
    rw [runOps_cons, ih (fun op hop => hper op (List.mem_cons_of_mem _ hop))]
    obtain ⟨ax, l, r, rfl, hl, hr⟩ := hper o List.mem_cons_self
    simp only [applyOp]
    rw [total_gupd hn hr (fun h : HV ℝ => φ h.dcons), total_gupd hn hl (fun h : HV ℝ => φ h.dcons)]
    simp only [fluxPhys, gupd, hφ.add, hφ.sub]
    -- `l = r` (one cell on a periodic axis): that cell receives `−F + F`
    split_ifs <;> ring

theorem hydroStepFlux_dcons_total (flux : FluxFn ℝ) (pr : Params ℝ) (limiter : HV ℝ → Grad ℝ)
    (predict : HV ℝ → Q ℝ) (gradOps fluxOps : List Op) {cells : List Cell} (hn : cells.Nodup)
    {φ : Q ℝ → ℝ} (hφ : Lin φ)
    (hper : ∀ op ∈ fluxOps, ∃ ax l r, op = .pair ax l r ∧ l ∈ cells ∧ r ∈ cells)
    (s : Grid (HV ℝ)) :
    total cells (fun y => φ (hydroStepFlux flux pr limiter predict gradOps fluxOps s y).dcons)
      = total cells (fun y => φ (s y).dcons) := by
  unfold hydroStepFlux
  rw [flux_run_total flux pr hn hφ fluxOps hper]
  exact total_congr fun y _ => by
    obtain ⟨-, hd, -, -⟩ := runOps_grad_fields pr gradOps s y
    exact congrArg φ hd

/-- **totals_conserved.**  One hydro step in which every flux call is a pair call between two
cells of the grid (periodic box: no boundary faces), without gravity and energy source term, and in
which no positivity clamp fires: the sum over all cells of every conserved quantity is unchanged —
for ANY flux function, any slope limiter and prediction, any gradient calls, any state, any `dt`.
`φ` is one of mass / momentum component / energy (`lin_mass` … `lin_energy`). -/
theorem totals_conserved (flux : FluxFn ℝ) (pr : Params ℝ) (limiter : HV ℝ → Grad ℝ)
    (predict : HV ℝ → Q ℝ) (gradOps fluxOps : List Op) (cells : List Cell) (s : Grid (HV ℝ))
    (hn : cells.Nodup)
    (hper : ∀ op ∈ fluxOps, ∃ ax l r, op = .pair ax l r ∧ l ∈ cells ∧ r ∈ cells)
    (h0 : ∀ x ∈ cells, (s x).dcons = ⟨0, ⟨0, 0, 0⟩, 0⟩ ∧ (s x).acc = ⟨0, 0, 0⟩ ∧ (s x).eterm = 0)
    (hclamp : ∀ x ∈ cells, (updateConservedTag pr.dmax
        (hydroStepFlux flux pr limiter predict gradOps fluxOps s x) pr.dt).2 = 0)
    {φ : Q ℝ → ℝ} (hφ : Lin φ) :
    total cells (fun x => φ (hydroStep flux pr limiter predict gradOps fluxOps s x).cons)
      = total cells (fun x => φ (s x).cons) := by
  have hstep : ∀ x ∈ cells,
      φ (hydroStep flux pr limiter predict gradOps fluxOps s x).cons
        = φ (s x).cons
          + φ (hydroStepFlux flux pr limiter predict gradOps fluxOps s x).dcons * pr.dt := by
    intro x hx
    obtain ⟨f1, f2, f3⟩ := hydroStepFlux_fields flux pr limiter predict gradOps fluxOps s x
    simp only [hydroStep, mapCells]
    rw [updateConserved_cons (by rw [f2]; exact (h0 x hx).2.1) (by rw [f3]; exact (h0 x hx).2.2)
      (hclamp x hx), hφ.axpy, f1]
  rw [total_congr hstep, total_add, total_mul,
    hydroStepFlux_dcons_total flux pr limiter predict gradOps fluxOps hn hφ hper s]
  have hz : total cells (fun y => φ (s y).dcons) = 0 := by
    rw [total_congr (g := fun _ => 0) (fun x hx => by rw [(h0 x hx).1]; exact hφ.zero)]
    simp [total]
  rw [hz]; ring

/-- non-vacuity of the hypotheses of `totals_conserved`: a cell of unit mass and energy, no faces -/
example (flux : FluxFn ℝ) (pr : Params ℝ) (limiter : HV ℝ → Grad ℝ) (predict : HV ℝ → Q ℝ) :
    let h : HV ℝ := ⟨⟨1, ⟨0, 0, 0⟩, 1⟩, Grad.zero, ⟨0, ⟨0, 0, 0⟩, 0⟩, ⟨0, ⟨0, 0, 0⟩, 0⟩,
      ⟨1, ⟨0, 0, 0⟩, 1⟩, ⟨0, ⟨0, 0, 0⟩, 0⟩, ⟨0, 0, 0⟩, 0⟩
    let s : Grid (HV ℝ) := fun _ => h
    (∀ x ∈ [((0, 0, 0) : Cell)], (s x).dcons = ⟨0, ⟨0, 0, 0⟩, 0⟩ ∧ (s x).acc = ⟨0, 0, 0⟩ ∧
      (s x).eterm = 0) ∧
    ∀ x ∈ [((0, 0, 0) : Cell)], (updateConservedTag pr.dmax
      (hydroStepFlux flux pr limiter predict [] [] s x) pr.dt).2 = 0 := by
  intro h s
  refine ⟨fun x _ => ⟨rfl, rfl, rfl⟩, fun x _ => ?_⟩
  simp only [hydroStepFlux, runOps, List.foldl_nil, mapCells, updateConservedTag, s, h, V3.dot,
    lit0]
  norm_num

/-- **totals_conserved_periodic.**  For every layout, every number of cells per subgrid and a
fully periodic box: total mass, the three components of total momentum and total energy of the
global grid are unchanged by a hydro step (under the hypotheses of `totals_conserved`). -/
theorem totals_conserved_periodic (L : Layout) (c : Cells) (hc : 0 < c.cx ∧ 0 < c.cy ∧ 0 < c.cz)
    (hp : L.px = true ∧ L.py = true ∧ L.pz = true)
    (flux : FluxFn ℝ) (pr : Params ℝ) (limiter : HV ℝ → Grad ℝ) (predict : HV ℝ → Q ℝ)
    (s : Grid (HV ℝ))
    (h0 : ∀ x ∈ allSubs (cellGrid L c),
      (s x).dcons = ⟨0, ⟨0, 0, 0⟩, 0⟩ ∧ (s x).acc = ⟨0, 0, 0⟩ ∧ (s x).eterm = 0)
    (hclamp : ∀ x ∈ allSubs (cellGrid L c), (updateConservedTag pr.dmax
        (hydroStepFlux flux pr limiter predict (layoutOps L c) (layoutOps L c) s x) pr.dt).2 = 0) :
    let s' := hydroStep flux pr limiter predict (layoutOps L c) (layoutOps L c) s
    let cells := allSubs (cellGrid L c)
    total cells (fun x => (s' x).cons.d) = total cells (fun x => (s x).cons.d) ∧
    total cells (fun x => (s' x).cons.v.x) = total cells (fun x => (s x).cons.v.x) ∧
    total cells (fun x => (s' x).cons.v.y) = total cells (fun x => (s x).cons.v.y) ∧
    total cells (fun x => (s' x).cons.v.z) = total cells (fun x => (s x).cons.v.z) ∧
    total cells (fun x => (s' x).cons.e) = total cells (fun x => (s x).cons.e) := by
  have T := fun {φ : Q ℝ → ℝ} (hφ : Lin φ) => totals_conserved flux pr limiter predict _ _ _ s
    (allSubs_nodup (cellGrid L c)) (periodic_layout_ops L c hc hp) h0 hclamp hφ
  exact ⟨T lin_mass, T lin_px, T lin_py, T lin_pz, T lin_energy⟩

/-! ## Reflective walls -/

/-- the HLLC solver of C05 (`tiny = 0`) as the flux function, face at rest -/
noncomputable def hllcFlux (g : ℝ) : FluxFn ℝ := fun rhoL uL PL rhoR uR PR n =>
  C05.hllc g rhoL uL PL rhoR uR PR n V3.zero

theorem mirror_unitNormal (i : Axis) {s : ℝ} (hs : s * s = 1) (v : V3 ℝ) :
    C05.mirrorVelocity v (unitNormal i s) V3.zero = HydroUpdate.flip i v := by
  have h : C05.mirrorVelocity v (unitNormal i s) V3.zero
      = V3'.set v i ((1 - 2 * (s * s)) * V3'.get v i) := by
    cases i <;> ext <;>
      simp only [V3'.set, V3'.get, unitNormal, V3.zero, C05.mirrorVelocity, V3.sub, V3.smul, V3.dot,
        lit0] <;> ring
  rw [h, hs, HydroUpdate.flip]; congr 1; ring

/-- **reflective_no_mass_energy.**  At a reflective box boundary the ghost state is the mirror
image of the cell (same density and pressure, reversed normal velocity — also after the
reconstruction and the per-face limiter), so by C05's `mirror_no_exchange` the wall face exchanges
no mass and no energy, as long as the reconstructed velocity towards the wall is below 1.5 sound
speeds.  Either side of the box (`dx < 0` for a lower face), any axis, any gradients, any `dt`. -/
theorem reflective_no_mass_energy (g : ℝ) (i : Axis) (L : HV ℝ) (dx A dt : ℝ)
    (hr : 0 < L.prim.d) (hP : 0 < L.prim.e)
    (hv : orientation dx * V3'.get (reconstruct 0 L.prim (L.grad.along i)
        (reflectiveRight i L.prim (L.grad.along i)).1
        (reflectiveRight i L.prim (L.grad.along i)).2 dx).vL i
      < 3 / 2 * C05.sound g L.prim.d L.prim.e) :
    (ghostFaceFlux (hllcFlux g) 0 g i L dx A dt).d = 0 ∧
      (ghostFaceFlux (hllcFlux g) 0 g i L dx A dt).e = 0 := by
  obtain ⟨h1, h2, h3, h4, h5⟩ := reconstruct_reflective i L.prim (L.grad.along i) dx hr.le hP.le
  have hs := orientation_mul_self dx
  have hmir := C05.mirror_no_exchange g L.prim.d L.prim.e _ (unitNormal i (orientation dx))
    V3.zero hr hP (by rw [unitNormal_norm2, hs]) (by rw [sub_zero_dot_unitNormal]; exact hv)
  rw [mirror_unitNormal i hs, ← h5] at hmir
  have hz : ∀ p : V3 ℝ, V3.zero.dot p = 0 := fun p => by simp only [V3.zero, V3.dot, lit0]; ring
  rw [ghostFaceFlux_eq]
  simp only [scaleFlux, rawFlux, hllcFlux, h1, h2, h3, h4, hmir.1, hmir.2, hz, zero_mul, and_self]

/-! ## Reconstruction: slope limiter, per-face limiter, prediction

`apply_slope_limiter`, `Hydro::limit`, the face reconstruction of `do_flux_calculation` and
`predict_primitive_variables` are modelled statement by statement in `Model/HydroUpdate.lean`
(`slopeAlpha`, `applySlopeLimiter`, `limit`, `reconstruct`, `predictPrimitive`); these are the
facts the code guarantees about them — and the ones it does not. -/

/-- **limiter_bounds.**  After `apply_slope_limiter`, for every variable whose neighbour minimum
`lo` (`Wlim[2i]`) is not above its neighbour maximum `hi` (`Wlim[2i+1]`; true as soon as one
gradient call has touched the cell) and for every axis, the extrapolation to the two faces
`± grad · dx / 2` is at most `½ · min(|hi − W|, |W − lo|)` in absolute value.  This is exactly
what the code guarantees (`alpha = min(1, ½ min(maxfac, minfac))` with one `alpha` per variable,
which is negative at a local extremum). -/
theorem limiter_bounds (dmax : ℝ) (h : HV ℝ) (dx : V3 ℝ)
    (h0 : h.lo.d ≤ h.hi.d) (h1 : h.lo.v.x ≤ h.hi.v.x) (h2 : h.lo.v.y ≤ h.hi.v.y)
    (h3 : h.lo.v.z ≤ h.hi.v.z) (h4 : h.lo.e ≤ h.hi.e) :
    let G := applySlopeLimiter dmax h dx
    let B := fun (W lo hi : ℝ) => 1 / 2 * min |hi - W| |W - lo|
    let ok := fun (g : V3 ℝ) (b : ℝ) =>
      |g.x * 0.5 * dx.x| ≤ b ∧ |g.y * 0.5 * dx.y| ≤ b ∧ |g.z * 0.5 * dx.z| ≤ b
    ok G.d (B h.prim.d h.lo.d h.hi.d) ∧ ok G.vx (B h.prim.v.x h.lo.v.x h.hi.v.x) ∧
      ok G.vy (B h.prim.v.y h.lo.v.y h.hi.v.y) ∧ ok G.vz (B h.prim.v.z h.lo.v.z h.hi.v.z) ∧
      ok G.e (B h.prim.e h.lo.e h.hi.e) :=
  ⟨limited_var_bound dmax dx h0, limited_var_bound dmax dx h1, limited_var_bound dmax dx h2,
    limited_var_bound dmax dx h3, limited_var_bound dmax dx h4⟩

/-- … hence a cell whose value lies between the smallest and the largest neighbour value has all
its face values in that range (stated for one variable, e.g. the density) -/
theorem limiter_within_neighbours (dmax W : ℝ) (g : V3 ℝ) (lo hi : ℝ) (dx : V3 ℝ) (hlo : lo ≤ W)
    (hhi : W ≤ hi) (gk dxk : ℝ) (hk : |gk * 0.5 * dxk| ≤ maxExt g dx) :
    let δ := gk * slopeAlpha dmax W g lo hi dx * 0.5 * dxk
    lo ≤ W + δ ∧ W + δ ≤ hi ∧ lo ≤ W - δ ∧ W - δ ≤ hi := by
  intro δ
  have h1 : 0 ≤ hi - W := sub_nonneg.mpr hhi
  have h2 : 0 ≤ W - lo := sub_nonneg.mpr hlo
  have hb : |δ| ≤ 1 / 2 * min (hi - W) (W - lo) := by
    have := limited_ext_le dmax W g lo hi dx (hlo.trans hhi) gk dxk hk
    rwa [abs_of_nonneg h1, abs_of_nonneg h2] at this
  have hm : |δ| ≤ min (hi - W) (W - lo) :=
    hb.trans (mul_le_of_le_one_left (le_min h1 h2) (by norm_num))
  obtain ⟨a1, a2⟩ := abs_le.mp (hm.trans (min_le_left _ _))
  obtain ⟨b1, b2⟩ := abs_le.mp (hm.trans (min_le_right _ _))
  exact ⟨by linarith, by linarith, by linarith, by linarith⟩

/-- **What the slope limiter does NOT guarantee:** face values between the minimum and the maximum
over the cell *and* its neighbours.  At a local extremum `alpha` is negative: a cell with value 1
whose neighbours have 0 and ½ (gradient ¼ per unit length, unit cells) gets `alpha = −2`; its face
values are `1 ∓ ¼`, i.e. one of them is 1.25 — above the largest of the seven values. -/
theorem limiter_overshoots_local_extremum :
    slopeAlpha (0 : ℝ) 1 ⟨1 / 4, 0, 0⟩ 0 (1 / 2) ⟨1, 1, 1⟩ = -2 ∧
      (1 : ℝ) - (1 / 4 * slopeAlpha (0 : ℝ) 1 ⟨1 / 4, 0, 0⟩ 0 (1 / 2) ⟨1, 1, 1⟩ * 0.5 * 1) = 5 / 4 := by
  have hE : maxExt (⟨1 / 4, 0, 0⟩ : V3 ℝ) ⟨1, 1, 1⟩ = 1 / 8 := by
    simp only [maxExt, lit05]; norm_num [abs_of_pos]
  have ha : slopeAlpha (0 : ℝ) 1 ⟨1 / 4, 0, 0⟩ 0 (1 / 2) ⟨1, 1, 1⟩ = -2 := by
    rw [slopeAlpha_eq, hE]; norm_num
  exact ⟨ha, by rw [ha, lit05]; norm_num⟩

/-- **limit_between.**  `Hydro::limit(m, a, b, ½)` (own cell value `a`, other cell `b`,
reconstructed value `m`): for `a = b` it is `a`; otherwise it is `m` clipped to an interval that
reaches three quarters of the way to `b` on one side and, on the other side, `½|a − b|` beyond `a`
(or a damped value of the same sign as `a` if that would change sign) — so the face value can lie
*beyond the own cell value, away from the neighbour*, but never beyond the neighbour. -/
theorem limit_between (m a b : ℝ) :
    (a = b → limit 0 m a b 0.5 = a) ∧
    (a < b → phiminusR a (1 / 2 * (b - a)) ≤ limit 0 m a b 0.5 ∧
      limit 0 m a b 0.5 ≤ a + 3 / 4 * (b - a) ∧ phiminusR a (1 / 2 * (b - a)) ≤ a ∧
      (phiminusR a (1 / 2 * (b - a)) ≤ m → m ≤ a + 3 / 4 * (b - a) → limit 0 m a b 0.5 = m)) ∧
    (b < a → a - 3 / 4 * (a - b) ≤ limit 0 m a b 0.5 ∧
      limit 0 m a b 0.5 ≤ phiplusR a (1 / 2 * (a - b)) ∧ a ≤ phiplusR a (1 / 2 * (a - b)) ∧
      (a - 3 / 4 * (a - b) ≤ m → m ≤ phiplusR a (1 / 2 * (a - b)) → limit 0 m a b 0.5 = m)) := by
  refine ⟨fun h => by rw [h, limit_self], fun hab => ?_, fun hab => ?_⟩
  · obtain ⟨e, h1, h2⟩ := limit_lt m hab
    obtain ⟨-, c1, c2, c3⟩ := clip (h1.trans h2) m
    rw [e]; exact ⟨c1, c2, h1, c3⟩
  · obtain ⟨e, h1, h2⟩ := limit_gt m hab
    obtain ⟨-, c1, c2, c3⟩ := clip (h1.trans h2) m
    rw [e]; exact ⟨c1, c2, h2, c3⟩

/-- **face_density_pressure_nonneg.**  The densities and pressures handed to the Riemann solver
are ≥ 0 for any cell states, gradients and `dx` (clamps of lines 439-442), and when the densities
and pressures of the two cells are ≥ 0 the clamps do not act: `Hydro::limit` alone already returns
a non-negative value, however negative the extrapolated value is. -/
theorem face_density_pressure_nonneg (tiny : ℝ) (WL gL WR gR : Q ℝ) (dx : ℝ) :
    (0 ≤ (reconstruct tiny WL gL WR gR dx).rhoL ∧ 0 ≤ (reconstruct tiny WL gL WR gR dx).PL ∧
      0 ≤ (reconstruct tiny WL gL WR gR dx).rhoR ∧ 0 ≤ (reconstruct tiny WL gL WR gR dx).PR) ∧
    ∀ m a b : ℝ, 0 ≤ a → 0 ≤ b → 0 ≤ limit 0 m a b 0.5 :=
  ⟨⟨amax_lit0_right_nonneg _, amax_lit0_right_nonneg _, amax_lit0_right_nonneg _,
    amax_lit0_right_nonneg _⟩, limit_nonneg⟩

/-- **predict_nonneg.**  After `predict_primitive_variables` density and pressure are ≥ 0 for every
cell with non-negative density and pressure, any gradients, acceleration and `dt` — thanks to the
clamps — and the unclamped predicted density is non-negative exactly when
`dt (ρ ∇·v + v·∇ρ) ≤ ρ`. -/
theorem predict_nonneg (g ovf : ℝ) (W : Q ℝ) (G : Grad ℝ) (a : V3 ℝ) (dt : ℝ)
    (hd : 0 ≤ W.d) (hp : 0 ≤ W.e) :
    (0 ≤ (predictPrimitive g ovf W G a dt).d ∧ 0 ≤ (predictPrimitive g ovf W G a dt).e) ∧
    (0 ≤ (predictRaw g W G a dt).d ↔
      dt * (W.d * (G.vx.x + G.vy.y + G.vz.z) + W.v.x * G.d.x + W.v.y * G.d.y + W.v.z * G.d.z)
        ≤ W.d) := by
  refine ⟨?_, ?_⟩
  · unfold predictPrimitive predictPrimitiveTag
    split
    · exact ⟨hd, hp⟩
    · split
      · exact ⟨hd, hp⟩
      · exact ⟨amax_lit0_right_nonneg _, amax_lit0_right_nonneg _⟩
  · simp only [predictRaw]
    constructor <;> intro h <;> linarith

/-- **What the prediction does NOT guarantee without its clamp:** a gas at rest with unit density
in a diverging flow `∇·v = 3` predicted over `dt = ½` has the unclamped density `−½`; the code
then silently sets it to 0. -/
theorem predict_needs_clamp :
    (predictRaw (5 / 3 : ℝ) ⟨1, ⟨0, 0, 0⟩, 1⟩
      ⟨⟨0, 0, 0⟩, ⟨3, 0, 0⟩, ⟨0, 0, 0⟩, ⟨0, 0, 0⟩, ⟨0, 0, 0⟩⟩ ⟨0, 0, 0⟩ (1 / 2)).d = -(1 / 2 : ℝ) ∧
    (predictPrimitive (5 / 3 : ℝ) 0 ⟨1, ⟨0, 0, 0⟩, 1⟩
      ⟨⟨0, 0, 0⟩, ⟨3, 0, 0⟩, ⟨0, 0, 0⟩, ⟨0, 0, 0⟩, ⟨0, 0, 0⟩⟩ ⟨0, 0, 0⟩ (1 / 2)).d = 0 := by
  constructor
  · simp only [predictRaw]; norm_num
  · simp only [predictPrimitive, predictPrimitiveTag, predictRaw, feq, invOverflows, amax, lit0]
    norm_num

/-- the conservation theorem for the step with the slope limiter and the prediction of the code
(instance of `totals_conserved_periodic`, which holds for any per-cell limiter and prediction) -/
theorem totals_conserved_periodic_code (L : Layout) (c : Cells)
    (hc : 0 < c.cx ∧ 0 < c.cy ∧ 0 < c.cz) (hp : L.px = true ∧ L.py = true ∧ L.pz = true)
    (flux : FluxFn ℝ) (pr : Params ℝ) (s : Grid (HV ℝ))
    (h0 : ∀ x ∈ allSubs (cellGrid L c),
      (s x).dcons = ⟨0, ⟨0, 0, 0⟩, 0⟩ ∧ (s x).acc = ⟨0, 0, 0⟩ ∧ (s x).eterm = 0)
    (hclamp : ∀ x ∈ allSubs (cellGrid L c), (updateConservedTag pr.dmax
        (hydroStepFlux flux pr (codeLimiter pr) (codePredict pr) (layoutOps L c) (layoutOps L c) s x)
        pr.dt).2 = 0) :
    let s' := hydroStepCode flux pr (layoutOps L c) (layoutOps L c) s
    let cells := allSubs (cellGrid L c)
    total cells (fun x => (s' x).cons.d) = total cells (fun x => (s x).cons.d) ∧
    total cells (fun x => (s' x).cons.v.x) = total cells (fun x => (s x).cons.v.x) ∧
    total cells (fun x => (s' x).cons.v.y) = total cells (fun x => (s x).cons.v.y) ∧
    total cells (fun x => (s' x).cons.v.z) = total cells (fun x => (s x).cons.v.z) ∧
    total cells (fun x => (s' x).cons.e) = total cells (fun x => (s x).cons.e) :=
  totals_conserved_periodic L c hc hp flux pr (codeLimiter pr) (codePredict pr) s h0 hclamp

/-! ## Hypotheses that hold by construction -/

/-- **limiter_premise_holds.**  The premise `lo ≤ hi` of `limiter_bounds` need not be assumed:
after the gradient sweeps of any layout, in every cell of the grid and for all five variables the
neighbour minimum is at most the neighbour maximum — whatever the limiter arrays contained before
(every cell is the left cell of a pair call or of a boundary call along `x`, and one call sets
`lo ← min(lo, W)`, `hi ← max(hi, W)` with the same neighbour value `W`). -/
theorem limiter_premise_holds (L : Layout) (c : Cells) (hc : 0 < c.cx ∧ 0 < c.cy ∧ 0 < c.cz)
    (pr : Params ℝ) (s : Grid (HV ℝ)) (x : Cell) (hx : valid (cellGrid L c) x = true) :
    LoHi (runOps (gradPhys pr) s (layoutOps L c) x) :=
  loHi_runOps pr _ s x (Or.inr (valid_cell_touched L c hc hx))

/-- a run of several steps (one `Params` per step: the time step changes), same calls every step -/
noncomputable def runSteps (flux : FluxFn ℝ) (limiter : Params ℝ → HV ℝ → Grad ℝ)
    (predict : Params ℝ → HV ℝ → Q ℝ) (ops : List Op) : List (Params ℝ) → Grid (HV ℝ) → Grid (HV ℝ)
  | [], s => s
  | pr :: prs, s => runSteps flux limiter predict ops prs
      (hydroStep flux pr (limiter pr) (predict pr) ops ops s)

/-- no positivity clamp fires in any step of the run -/
def NoClamp (flux : FluxFn ℝ) (limiter : Params ℝ → HV ℝ → Grad ℝ)
    (predict : Params ℝ → HV ℝ → Q ℝ) (ops : List Op) (cells : List Cell) :
    List (Params ℝ) → Grid (HV ℝ) → Prop
  | [], _ => True
  | pr :: prs, s =>
    (∀ x ∈ cells, (updateConservedTag pr.dmax
      (hydroStepFlux flux pr (limiter pr) (predict pr) ops ops s x) pr.dt).2 = 0) ∧
    NoClamp flux limiter predict ops cells prs (hydroStep flux pr (limiter pr) (predict pr) ops ops s)

/-- **totals_conserved_run.**  Any number of steps with any time steps: the totals after the run
equal the totals before it, as long as no clamp fires.  The start-of-step hypothesis (no pending
changes, no gravity, no source term) is only needed for the FIRST step — every step re-establishes
it (`step_resets_accumulators`). -/
theorem totals_conserved_run (flux : FluxFn ℝ) (limiter : Params ℝ → HV ℝ → Grad ℝ)
    (predict : Params ℝ → HV ℝ → Q ℝ) (ops : List Op) (cells : List Cell) (hn : cells.Nodup)
    (hper : ∀ op ∈ ops, ∃ ax l r, op = .pair ax l r ∧ l ∈ cells ∧ r ∈ cells)
    {φ : Q ℝ → ℝ} (hφ : Lin φ) (prs : List (Params ℝ)) (s : Grid (HV ℝ))
    (h0 : ∀ x ∈ cells, (s x).dcons = ⟨0, ⟨0, 0, 0⟩, 0⟩ ∧ (s x).acc = ⟨0, 0, 0⟩ ∧ (s x).eterm = 0)
    (hclamp : NoClamp flux limiter predict ops cells prs s) :
    total cells (fun x => φ (runSteps flux limiter predict ops prs s x).cons)
      = total cells (fun x => φ (s x).cons) := by
  induction prs generalizing s with
  | nil => rfl
  | cons pr prs ih =>
    obtain ⟨hc1, hc2⟩ := hclamp
    have h0' : ∀ x ∈ cells,
        (hydroStep flux pr (limiter pr) (predict pr) ops ops s x).dcons = ⟨0, ⟨0, 0, 0⟩, 0⟩ ∧
        (hydroStep flux pr (limiter pr) (predict pr) ops ops s x).acc = ⟨0, 0, 0⟩ ∧
        (hydroStep flux pr (limiter pr) (predict pr) ops ops s x).eterm = 0 := by
      intro x hx
      obtain ⟨a, b, c⟩ := step_resets_accumulators flux pr (limiter pr) (predict pr) ops ops s x
      exact ⟨a, c.trans (h0 x hx).2.1, b⟩
    show total cells (fun x => φ (runSteps flux limiter predict ops prs
      (hydroStep flux pr (limiter pr) (predict pr) ops ops s) x).cons) = _
    rw [ih _ h0' hc2]
    exact totals_conserved flux pr (limiter pr) (predict pr) ops ops cells s hn hper h0 hc1 hφ

/-! ## Inflow and outflow boundaries -/

/-- **inflow_boundary_is_free.**  At an inflow boundary — and at an outflow boundary when the gas
of the cell moves out of the box — the ghost cell is a copy of the cell: both states handed to the
Riemann solver are the cell-centred state whatever the gradients, so the boundary flux is the flux
of two identical states (for HLLC the analytic Euler flux, C05 `hllc_identical`). -/
theorem inflow_boundary_is_free (i : Axis) (s : ℝ) (W g : Q ℝ) (dx : ℝ) (hd : 0 ≤ W.d)
    (hp : 0 ≤ W.e) :
    (reconstruct 0 W g (ghostFluxRight .inflow i s W g).1 (ghostFluxRight .inflow i s W g).2 dx
        = ⟨W.d, W.v, W.e, W.d, W.v, W.e⟩) ∧
    (0 ≤ s * V3'.get W.v i →
      reconstruct 0 W g (ghostFluxRight .outflow i s W g).1 (ghostFluxRight .outflow i s W g).2 dx
        = ⟨W.d, W.v, W.e, W.d, W.v, W.e⟩) :=
  ⟨reconstruct_copy W g g dx hd hp, fun h => by
    simp only [ghostFluxRight, lit0, if_neg (not_lt.mpr h)]
    exact reconstruct_copy W g g dx hd hp⟩

/-- **outflow_boundary_blocks_inflow.**  At an outflow boundary with gas moving INTO the box the
ghost state has the same density, pressure and tangential velocities and exactly the reversed
cell-centred normal velocity; the cell side carries its reconstructed normal velocity.  (Only when
that equals the cell value — e.g. zero gradient — are the two states mirror images and the face
closed like a reflecting wall; in general a small flux remains: the code does not guarantee more.) -/
theorem outflow_boundary_blocks_inflow (i : Axis) (s : ℝ) (W g : Q ℝ) (dx : ℝ) (hd : 0 ≤ W.d)
    (hp : 0 ≤ W.e) (hin : s * V3'.get W.v i < 0) :
    let r := ghostFluxRight .outflow i s W g
    let rc := reconstruct 0 W g r.1 r.2 dx
    rc.rhoL = W.d ∧ rc.rhoR = W.d ∧ rc.PL = W.e ∧ rc.PR = W.e ∧
      V3'.get rc.vR i = -(V3'.get W.v i) ∧
      (∀ j, j ≠ i → V3'.get rc.vR j = V3'.get W.v j ∧ V3'.get rc.vL j = V3'.get W.v j) := by
  have hin' : s * V3'.get W.v i < 0.0 := by rw [lit0]; exact hin
  simp only [ghostFluxRight, if_pos hin', get_reconstruct_vL, get_reconstruct_vR, V3'.get_set_self]
  simp only [reconstruct, limit_self, amax_lit0_right_of_nonneg hd, amax_lit0_right_of_nonneg hp, true_and]
  refine ⟨?_, fun j hj => ?_⟩
  · rw [lit0, mul_zero, sub_zero, limit_own_value]
  · rw [V3'.get_set_of_ne _ hj, limit_self, limit_self]; exact ⟨rfl, rfl⟩

/-- the reflective case of the general boundary functions is the function the wall theorem is about -/
theorem boundary_reflective_case (flux : FluxFn ℝ) (tiny g : ℝ) (i : Axis) (L : HV ℝ) (dx A dt : ℝ) :
    ghostFaceFluxB .reflective flux tiny g i L dx A dt = ghostFaceFlux flux tiny g i L dx A dt := rfl

/-! ## The time step restriction does not keep the masses non-negative -/

/-- the uniform gas of the counterexample: `ρ = 1`, `P = 3/5` (sound speed 1 for `γ = 5/3`), moving
along `+z` at half the sound speed, in a cell of height `ε` and unit base area -/
noncomputable def flatCell (ε : ℝ) : HV ℝ :=
  { prim := ⟨1, ⟨0, 0, 1 / 2⟩, 3 / 5⟩, grad := Grad.zero, lo := ⟨0, ⟨0, 0, 0⟩, 0⟩, hi := ⟨0, ⟨0, 0, 0⟩, 0⟩,
    cons := ⟨ε, ⟨0, 0, ε / 2⟩, 41 / 40 * ε⟩, dcons := ⟨0, ⟨0, 0, 0⟩, 0⟩, acc := ⟨0, 0, 0⟩, eterm := 0 }

theorem flat_raw (ε dx : ℝ) :
    (rawFlux (hllcFlux (5 / 3)) (reconstruct 0 (flatCell ε).prim ((flatCell ε).grad.along .z)
      (flatCell ε).prim ((flatCell ε).grad.along .z) dx) (unitNormal .z 1.0) 1).d = 1 / 2 ∧
    (rawFlux (hllcFlux (5 / 3)) (reconstruct 0 (flatCell ε).prim ((flatCell ε).grad.along .z)
      (flatCell ε).prim ((flatCell ε).grad.along .z) dx) (unitNormal .z 1.0) 1).e = 13 / 16 := by
  have hid := C05.hllc_identical (5 / 3) 1 (3 / 5) ⟨0, 0, 1 / 2⟩ (unitNormal .z 1.0) V3.zero
    (by norm_num) (by norm_num)
  have hG : effGamma (5 / 3 : ℝ) = 5 / 3 := effGamma_eq _ (by norm_num)
  rw [reconstruct_copy _ _ _ _ (by norm_num [flatCell]) (by norm_num [flatCell])]
  simp only [rawFlux, hllcFlux, flatCell]
  obtain ⟨hm, _, he⟩ := hid
  rw [hm, he]
  simp only [C05.eulerFlux, Flux.boost, hG, unitNormal, V3'.set, V3.zero, V3.sub, V3.dot, V3.norm2,
    V3.smul, V3.add, lit0, lit1]
  constructor <;> norm_num

theorem flat_fac (ε dt : ℝ) (pv : V3 ℝ) (hε : 0 < ε) (hdt : 8 * ε ≤ dt) :
    (fluxFac (5 / 3) fluxLimiter (1 / 2) pv (13 / 16) dt (flatCell ε) (flatCell ε)).1
      = 41 / 20 * ε / (13 / 16 * dt) := by
  have hdt0 : 0 < dt := by linarith
  have hq : 0 < ε / dt := div_pos hε hdt0
  have hεε := mul_pos hε hε
  rw [fluxLimiter_eq_two, fluxFac_left_mass_energy pv (by norm_num)]
  · show min (2 * ε / (1 / 2 * dt)) (2 * (41 / 40 * ε) / (13 / 16 * dt)) = _
    refine (min_eq_right ?_).trans (by rw [← mul_assoc]; norm_num)
    calc 2 * (41 / 40 * ε) / (13 / 16 * dt) = 164 / 65 * (ε / dt) := by ring
      _ ≤ 4 * (ε / dt) := by linarith
      _ = 2 * ε / (1 / 2 * dt) := by ring
  case c1 =>
    show 2 * ε < 1 / 2 * dt
    linarith
  case c2 =>
    show ¬ 2 * ε < -(1 / 2 * dt)
    linarith
  case c3 =>
    show 2 * (41 / 40 * ε) < 13 / 16 * dt
    linarith
  case c4 =>
    show ¬ 2 * (41 / 40 * ε) < -(13 / 16 * dt)
    linarith
  -- both cells are the same: conditions 5 and 6 are one statement (the gas is subsonic)
  case c5 | c6 =>
    show ¬ (5 / 3 : ℝ) * (ε * ε) * (3 / 5) < (0 * 0 + 0 * 0 + ε / 2 * (ε / 2)) * 1
    linarith

/-- the wall face of the counterexample: receding gas, nothing passes -/
theorem flat_wall (ε dt : ℝ) (hε : 0 < ε) :
    (ghostFaceFlux (hllcFlux (5 / 3)) 0 (5 / 3) .z (flatCell ε) (-ε) 1 dt).d = 0 := by
  refine (reflective_no_mass_energy (5 / 3) .z (flatCell ε) (-ε) 1 dt (by norm_num [flatCell])
    (by norm_num [flatCell]) ?_).1
  have ho : orientation (-ε) = -1 := by
    unfold orientation; rw [lit0, if_pos (by linarith)]; norm_num
  have hs : 0 ≤ C05.sound (5 / 3) (flatCell ε).prim.d (flatCell ε).prim.e := Real.sqrt_nonneg _
  rw [ho, show (flatCell ε).grad = Grad.zero from rfl, Grad.zero_along, reconstruct_vL_of_zero_grad]
  show -1 * (1 / 2 : ℝ) < _
  linarith

/-- **cfl_does_not_keep_mass_nonneg.**  A machine-checked counterexample to "the time step
restriction keeps the masses non-negative": uniform gas (`ρ = 1`, `P = 3/5`, sound speed 1,
`γ = 5/3`) moves at Mach ½ away from a reflecting wall; the cell at the wall has unit base area and
height `ε`, its neighbour above is identical.  For every time step `dt ≥ 8 ε` the wall face lets no
mass through, the upper face removes — after the flux limiter, here its energy condition — 82/65
of the cell's mass, so the updated mass is `−17/65 ε < 0` and the positivity clamp resets it to 0
(mass is created).  The code's own time step admits such a `dt` for flat cells because
`get_timestep` only knows the cell VOLUME (`code_timestep_allows_it`). -/
theorem cfl_does_not_keep_mass_nonneg (ε dt dmax : ℝ) (hε : 0 < ε) (hdt : 8 * ε ≤ dt) :
    let L := flatCell ε
    let top := faceFlux (hllcFlux (5 / 3)) 0 (5 / 3) .z L L ε 1 dt
    let bot := ghostFaceFlux (hllcFlux (5 / 3)) 0 (5 / 3) .z L (-ε) 1 dt
    let L' : HV ℝ := { L with dcons := (L.dcons.sub top).sub bot }
    bot.d = 0 ∧ L'.cons.d + L'.dcons.d * dt = -(17 / 65) * ε ∧
      (updateConservedTag dmax L' dt).2 % 2 = 1 ∧ (updateConserved dmax L' dt).cons.d = 0 := by
  intro L top bot L'
  have hbot : bot.d = 0 := flat_wall ε dt hε
  -- the upper face: half the mass flux of the uniform state times the limiter factor
  have htop : top.d = 1 / 2 * (41 / 20 * ε / (13 / 16 * dt)) := by
    obtain ⟨hd, he⟩ := flat_raw ε ε
    simp only [top, faceFlux, faceFluxTag, scaleFlux, L]
    rw [hd, he, flat_fac ε dt _ hε hdt]
  have hm : L'.cons.d + L'.dcons.d * dt = -(17 / 65) * ε := by
    have hdt0 : 0 < dt := by linarith
    show ε + (0 - top.d - bot.d) * dt = _
    rw [hbot, htop]
    field_simp
    ring
  have hneg : L'.cons.d + L'.dcons.d * dt < 0 := by rw [hm]; linarith
  refine ⟨hbot, hm, ?_, ?_⟩
  · simp only [updateConservedTag, lit0, if_pos hneg]
    split_ifs <;> omega
  · simp only [updateConserved, updateConservedTag, amax, lit0, if_pos hneg]

/-- the time step the code computes for that cell with `ε = 1/4000` (`Hydro::get_timestep` times
the default CFL factor 0.2) is at least `16 ε`: even after the time line has rounded it down to a
power-of-two fraction (at most a factor 2) it is above the `8 ε` of the counterexample -/
theorem code_timestep_allows_it :
    16 * (1 / 4000 : ℝ) ≤ 0.2 * getTimestep (5 / 3) 0 0 0.3183098861837907 (1 / 3)
      (flatCell (1 / 4000)).prim (1 / 4000) := by
  have hcs : cellSoundSpeed (5 / 3 : ℝ) 0 0 (flatCell (1 / 4000)).prim = 1 := by
    simp only [cellSoundSpeed, flatCell, invOverflows, lit0, lit1]
    norm_num
  have hv : ArithFns.sqrt ((flatCell (1 / 4000)).prim.v.norm2 : ℝ) = 1 / 2 := by
    simp only [flatCell, V3.norm2]
    show Real.sqrt _ = _
    rw [show (0 * 0 + 0 * 0 + 1 / 2 * (1 / 2) : ℝ) = (1 / 2) ^ 2 by norm_num,
      Real.sqrt_sq (by norm_num)]
  have hR : (3 / 100 : ℝ) ≤ ArithFns.pow (0.75 * (1 / 4000) * 0.3183098861837907 : ℝ) (1 / 3) := by
    show (3 / 100 : ℝ) ≤ Real.rpow _ _
    have h3 : ((3 / 100 : ℝ) ^ (3 : ℕ)) ^ ((3 : ℕ) : ℝ)⁻¹ = 3 / 100 :=
      Real.pow_rpow_inv_natCast (by norm_num) (by norm_num)
    rw [← h3]
    have : ((3 : ℕ) : ℝ)⁻¹ = (1 / 3 : ℝ) := by norm_num
    rw [this]
    exact Real.rpow_le_rpow (by norm_num) (by norm_num) (by norm_num)
  simp only [getTimestep, hcs, hv]
  generalize ArithFns.pow (0.75 * (1 / 4000) * 0.3183098861837907 : ℝ) (1 / 3) = R at hR ⊢
  have e : (0.2 : ℝ) * (R / (1 + 1 / 2)) = R * (2 / 15) := by norm_num; ring
  rw [e]
  linarith

/-! ## Physical states -/

/-- **nonneg_after_step.**  After the conserved update every mass and energy is ≥ 0, after the
primitive update every density and pressure is ≥ 0 — for every cell state whatsoever (any fluxes,
any `dt`): the state of every cell after `hydroStep`. -/
theorem nonneg_after_step (flux : FluxFn ℝ) (pr : Params ℝ) (limiter : HV ℝ → Grad ℝ)
    (predict : HV ℝ → Q ℝ) (gradOps fluxOps : List Op) (s : Grid (HV ℝ)) (x : Cell) :
    let h := hydroStep flux pr limiter predict gradOps fluxOps s x
    0 ≤ h.cons.d ∧ 0 ≤ h.cons.e ∧ 0 ≤ h.prim.d ∧ 0 ≤ h.prim.e := by
  simp only [hydroStep, mapCells]
  exact ⟨updateConserved_nonneg.1, updateConserved_nonneg.2, setPrimitive_nonneg.1,
    setPrimitive_nonneg.2⟩

/-- non-vacuity of `reflective_no_mass_energy`: a cell at rest with unit density and pressure -/
example : ∃ (L : HV ℝ), 0 < L.prim.d ∧ 0 < L.prim.e ∧
    orientation (1 : ℝ) * V3'.get (reconstruct 0 L.prim (L.grad.along .x)
        (reflectiveRight .x L.prim (L.grad.along .x)).1
        (reflectiveRight .x L.prim (L.grad.along .x)).2 1).vL .x
      < 3 / 2 * C05.sound (5 / 3) L.prim.d L.prim.e := by
  refine ⟨⟨⟨1, ⟨0, 0, 0⟩, 1⟩, Grad.zero, ⟨0, ⟨0, 0, 0⟩, 0⟩, ⟨0, ⟨0, 0, 0⟩, 0⟩, ⟨1, ⟨0, 0, 0⟩, 1⟩,
    ⟨0, ⟨0, 0, 0⟩, 0⟩, ⟨0, 0, 0⟩, 0⟩, by norm_num, by norm_num, ?_⟩
  have hs : 0 < C05.sound (5 / 3) 1 1 := by
    unfold C05.sound
    apply Real.sqrt_pos.mpr
    have := effGamma_gt_one (5 / 3 : ℝ)
    rw [lit1]; norm_num; linarith
  show orientation (1 : ℝ) * V3'.get (reconstruct 0 _ (Grad.zero.along .x) _ _ 1).vL .x < _
  rw [Grad.zero_along, reconstruct_vL_of_zero_grad]
  show orientation (1 : ℝ) * 0 < _
  rw [mul_zero]
  exact mul_pos (by norm_num) hs

end CMacVerif.C04
