import CMacVerif.Lemmas.TimeLine
import Mathlib.Algebra.Order.Field.Rat
/-!
# C19 — the time line never overshoots and ends exactly on time

Model: `CMacVerif/Model/TimeLine.lean`.  The invariant `Inv` of a time line, what one accepted
step guarantees (`Stepped`), what a run guarantees (`run_spec`), and the property theorems read
off them.  `gt : Nat → Bool` is the floating-point comparison "physical size of this integer step
exceeds the request"; `Mono gt` says it is monotone in the step (true for `A * ts > r` with
`A ≥ 0`: `physGt_mono`); a non-negative request has `gt 0 = false` (`physGt_zero`), which no
theorem here needs.
-/
namespace CMacVerif.TimeLine

/-- well-formed time line: what the constructor establishes and `advance` preserves -/
structure Inv (s : TL) : Prop where
  minP : IsPow2 s.minStep
  maxP : IsPow2 s.maxStep
  minLeMax : s.minStep ≤ s.maxStep
  maxLe : s.maxStep ≤ maxT
  curLe : s.cur ≤ maxT

/-- the comparison is monotone in the integer step -/
def Mono (gt : Nat → Bool) : Prop := ∀ a b, a ≤ b → gt a = true → gt b = true

theorem maxT_pow2 : IsPow2 maxT := ⟨63, rfl⟩

theorem max_roundDown_spec (mn : Nat) (hmn : IsPow2 mn) (hle : mn ≤ maxT) (g : Nat → Bool) :
    IsPow2 (max mn (roundDown g maxT)) ∧ mn ≤ max mn (roundDown g maxT)
      ∧ max mn (roundDown g maxT) ≤ maxT := by
  have h := roundDown_spec g maxT (Or.inr maxT_pow2)
  refine ⟨?_, Nat.le_max_left _ _, Nat.max_le.mpr ⟨hle, h.2⟩⟩
  rcases Nat.le_total (roundDown g maxT) mn with hl | hl
  · rw [Nat.max_eq_left hl]; exact hmn
  · rw [Nat.max_eq_right hl]
    exact (h.1 (by have := isPow2_pos hmn; omega)).1

/-- the constructor yields a well-formed time line for every pair of settings -/
theorem mk_inv (minPos maxPos : Bool) (gtMin gtMax : Nat → Bool) :
    Inv (mk minPos gtMin maxPos gtMax) := by
  have one : IsPow2 1 := ⟨0, rfl⟩
  have oneLe : 1 ≤ maxT := by decide
  cases minPos <;> cases maxPos <;> simp only [mk, Bool.false_eq_true, ↓reduceIte]
  · exact ⟨one, maxT_pow2, oneLe, Nat.le_refl _, Nat.zero_le _⟩
  · have := max_roundDown_spec 1 one oneLe gtMax
    exact ⟨one, this.1, this.2.1, this.2.2, Nat.zero_le _⟩
  · have := max_roundDown_spec 1 one oneLe gtMin
    exact ⟨this.1, maxT_pow2, this.2.2, Nat.le_refl _, Nat.zero_le _⟩
  · have h1 := max_roundDown_spec 1 one oneLe gtMin
    have := max_roundDown_spec _ h1.1 h1.2.2 gtMax
    exact ⟨h1.1, this.1, this.2.1, this.2.2, Nat.zero_le _⟩

theorem advance_cases (s : TL) (gt : Nat → Bool) :
    let r := roundDown gt s.maxStep
    let t := fit (maxT - s.cur) r
    (r = 0 ∧ advance s gt = (s, 0, .tooSmall)) ∨
    (r ≠ 0 ∧ t < s.minStep ∧ advance s gt = (s, t, .belowMin)) ∨
    (r ≠ 0 ∧ s.minStep ≤ t ∧
      advance s gt = ({ s with cur := s.cur + t }, t, .stepped (decide (s.cur + t < maxT)))) := by
  dsimp only
  unfold advance
  by_cases h0 : roundDown gt s.maxStep = 0
  · exact Or.inl ⟨h0, by rw [if_pos h0]⟩
  · by_cases hlt : fit (maxT - s.cur) (roundDown gt s.maxStep) < s.minStep
    · exact Or.inr (Or.inl ⟨h0, hlt, by simp only [if_neg h0, if_pos hlt]⟩)
    · exact Or.inr (Or.inr ⟨h0, Nat.le_of_not_lt hlt, by simp only [if_neg h0, if_neg hlt]⟩)

structure Stepped (s : TL) (gt : Nat → Bool) (s' : TL) (ts : Nat) (more : Bool) : Prop where
  /-- a power-of-two fraction of the interval -/
  pow2 : IsPow2 ts
  le_max : ts ≤ s.maxStep
  ge_min : s.minStep ≤ ts
  /-- not larger than requested (see `step_le_request`) -/
  not_gt : gt ts = false
  dvd : ts ∣ (maxT - s.cur)
  eq : s' = { s with cur := s.cur + ts }
  le_end : s.cur + ts ≤ maxT
  /-- "no next step" exactly when the end is reached -/
  last_iff : more = false ↔ s.cur + ts = maxT

/-- Everything `advance` guarantees about one accepted step, taken before the end was reached
(`s.cur < maxT`: the callers stop as soon as `advance` reports no next step). -/
theorem advance_stepped (s : TL) (gt : Nat → Bool) (hm : Mono gt) (hs : Inv s) (hlive : s.cur < maxT)
    (s' : TL) (ts : Nat) (more : Bool)
    (h : advance s gt = (s', ts, .stepped more)) : Stepped s gt s' ts more := by
  rcases advance_cases s gt with ⟨_, e⟩ | ⟨_, _, e⟩ | ⟨h0, hge, e⟩
  · rw [e] at h; cases h
  · rw [e] at h; cases h
  · rw [e] at h; cases h
    obtain ⟨hspec, hr⟩ := roundDown_spec gt s.maxStep (Or.inr hs.maxP)
    obtain ⟨hp, hng⟩ := hspec h0
    have hf := fit_spec (maxT - s.cur) _ hp
    have hpos := isPow2_pos hf.1
    have hle := Nat.le_of_dvd (by omega) hf.2.1
    exact {
      pow2 := hf.1
      le_max := by omega
      ge_min := hge
      not_gt := by
        -- the fitted step is at most the rounded request, where `gt` is false, and `gt` is monotone
        cases hg : gt (fit (maxT - s.cur) (roundDown gt s.maxStep)) with
        | false => rfl
        | true => exact absurd (hm _ _ hf.2.2 hg) (by rw [hng]; decide)
      dvd := hf.2.1
      eq := rfl
      le_end := by omega
      last_iff := by rw [decide_eq_false_iff_not]; omega }

theorem advance_refused (s : TL) (gt : Nat → Bool) (s' : TL) (ts : Nat) (o : Outcome)
    (h : advance s gt = (s', ts, o)) (ho : ∀ m, o ≠ .stepped m) : s' = s := by
  rcases advance_cases s gt with ⟨_, e⟩ | ⟨_, _, e⟩ | ⟨_, _, e⟩
  · rw [e] at h; cases h; rfl
  · rw [e] at h; cases h; rfl
  · rw [e] at h; cases h; exact absurd rfl (ho _)

/-- a request whose power-of-two rounding is below the configured minimum stops the run:
`advance` does not step -/
theorem below_min_stops (s : TL) (gt : Nat → Bool) (hs : Inv s)
    (hsmall : gt s.minStep = true) (hm : Mono gt) :
    ∀ m, (advance s gt).2.2 ≠ .stepped m := by
  intro m
  rcases advance_cases s gt with ⟨_, e⟩ | ⟨_, _, e⟩ | ⟨h0, hge, e⟩ <;> rw [e]
  · nofun
  · nofun
  · obtain ⟨hp, hng⟩ := (roundDown_spec gt s.maxStep (Or.inr hs.maxP)).1 h0
    have hf := fit_spec (maxT - s.cur) _ hp
    have : roundDown gt s.maxStep < s.minStep :=
      Nat.lt_of_not_le fun h => absurd (hm _ _ h hsmall) (by rw [hng]; decide)
    omega

theorem advance_inv (s : TL) (gt : Nat → Bool) (hm : Mono gt) (hs : Inv s) (hlive : s.cur < maxT) :
    Inv (advance s gt).1 := by
  rcases hadv : advance s gt with ⟨s', ts, o⟩
  cases o with
  | stepped m =>
    have h := advance_stepped s gt hm hs hlive s' ts m hadv
    rw [h.eq]
    exact ⟨hs.minP, hs.maxP, hs.minLeMax, hs.maxLe, h.le_end⟩
  | tooSmall | belowMin => rw [advance_refused s gt s' ts _ hadv nofun]; exact hs

/-- the accepted step is the *largest* power-of-two fraction `maxStep / 2^k` that is neither
larger than requested nor fails to divide the time remaining -/
theorem step_is_largest (s : TL) (gt : Nat → Bool) (s' : TL) (ts : Nat) (more : Bool)
    (h : advance s gt = (s', ts, .stepped more)) (k : Nat) (hk : ts < s.maxStep / 2 ^ k) :
    gt (s.maxStep / 2 ^ k) = true ∨ ¬ (s.maxStep / 2 ^ k ∣ maxT - s.cur) := by
  rcases advance_cases s gt with ⟨_, e⟩ | ⟨_, _, e⟩ | ⟨h0, _, e⟩
  · rw [e] at h; cases h
  · rw [e] at h; cases h
  rw [e] at h; cases h
  rcases Nat.lt_or_ge (roundDown gt s.maxStep) (s.maxStep / 2 ^ k) with hlt2 | hge
  · left; exact roundDown_maximal gt s.maxStep k hlt2 (by omega)
  · right
    -- `s.maxStep / 2 ^ k` is a halving of the rounded request, which `fit` skipped
    obtain ⟨j, hj⟩ := roundDown_is_halving gt s.maxStep
    have hjk : j ≤ k := by
      rcases Nat.lt_or_ge k j with hkj | hjk
      · have := div_pow_lt (n := s.maxStep) hkj (by omega); omega
      · exact hjk
    rw [div_pow_sub _ hjk, ← hj] at hk ⊢
    exact fit_maximal _ _ _ hk

theorem run_spec (gs : List (Nat → Bool)) (hm : ∀ g ∈ gs, Mono g) :
    ∀ (s : TL), Inv s → s.cur < maxT →
      (run s gs).1.cur = s.cur + (run s gs).2.sum ∧ (run s gs).1.cur ≤ maxT
      ∧ ∀ t ∈ (run s gs).2, s.minStep ≤ t := by
  induction gs with
  | nil => intro s _ hl; exact ⟨rfl, Nat.le_of_lt hl, nofun⟩
  | cons g gs ih =>
    intro s hs hl
    have hmg := hm g List.mem_cons_self
    rcases hadv : advance s g with ⟨s', ts, o⟩
    cases o with
    | stepped m =>
      have hst := advance_stepped s g hmg hs hl s' ts m hadv
      have hs' : Inv s' := by have := advance_inv s g hmg hs hl; rwa [hadv] at this
      obtain rfl := hst.eq
      cases m with
      | true =>
        have hne : s.cur + ts ≠ maxT := fun e => absurd (hst.last_iff.mpr e) (by decide)
        obtain ⟨h1, h2, h3⟩ := ih (fun g hg => hm g (List.mem_cons_of_mem _ hg)) _ hs'
          (Nat.lt_of_le_of_ne hst.le_end hne)
        simp only [run, hadv]
        refine ⟨by rw [h1, List.sum_cons]; exact Nat.add_assoc _ _ _, h2, fun t ht => ?_⟩
        rcases List.mem_cons.mp ht with rfl | ht
        · exact hst.ge_min
        · exact h3 t ht
      | false =>
        simp only [run, hadv]
        exact ⟨rfl, hst.le_end, fun t ht => List.mem_singleton.mp ht ▸ hst.ge_min⟩
    | tooSmall | belowMin =>
      cases advance_refused s g s' ts _ hadv nofun
      simp only [run, hadv]
      exact ⟨rfl, Nat.le_of_lt hl, nofun⟩

/-- a run that reaches the end has taken steps that sum to the whole remaining interval
(from a fresh time line: to exactly 2^63) -/
theorem steps_sum_total (gs : List (Nat → Bool)) (hm : ∀ g ∈ gs, Mono g) (s : TL) (hs : Inv s)
    (hl : s.cur < maxT) (hend : (run s gs).1.cur = maxT) : (run s gs).2.sum = maxT - s.cur := by
  have := (run_spec gs hm s hs hl).1; omega

/-- every step of a run is strictly positive, so the integer clock is strictly increasing -/
theorem run_steps_pos (gs : List (Nat → Bool)) (hm : ∀ g ∈ gs, Mono g) :
    ∀ (s : TL), Inv s → s.cur < maxT → ∀ t ∈ (run s gs).2, 0 < t :=
  fun s hs hl t ht => Nat.lt_of_lt_of_le (isPow2_pos hs.minP) ((run_spec gs hm s hs hl).2.2 t ht)

/-- **The caller's loop terminates**: however the requests vary, a run accepts at most
`(2^63 - cur) / minStep` steps (each accepted step is at least the minimum step, their sum never
passes the end); with the drivers' default minimum `1e-10 · T` that is about `10^10` steps. -/
theorem run_length_bound (gs : List (Nat → Bool)) (hm : ∀ g ∈ gs, Mono g) (s : TL) (hs : Inv s)
    (hl : s.cur < maxT) : (run s gs).2.length * s.minStep ≤ maxT - s.cur := by
  obtain ⟨hsum, hle, hge⟩ := run_spec gs hm s hs hl
  have := length_mul_le_sum _ _ hge
  omega

/-- a time line saved and restored continues identically -/
theorem restore_dump (s : TL) : restore (dump s) = some s := rfl

theorem advance_after_restore (s : TL) (gt : Nat → Bool) :
    (restore (dump s)).map (fun r => advance r gt) = some (advance s gt) := rfl

/-! ### the physical reading: `gt ts := A * ts > r` over ℚ (exact values of the doubles) -/

def physGt (A r : ℚ) (ts : Nat) : Bool := decide (A * (ts : ℚ) > r)

theorem physGt_mono (A r : ℚ) (hA : 0 ≤ A) : Mono (physGt A r) := by
  intro a b hab h
  simp only [physGt, decide_eq_true_eq] at h ⊢
  have : (a : ℚ) ≤ (b : ℚ) := by exact_mod_cast hab
  exact lt_of_lt_of_le h (mul_le_mul_of_nonneg_left this hA)

theorem physGt_zero (A r : ℚ) (hr : 0 ≤ r) : physGt A r 0 = false := by
  simpa [physGt] using hr

/-- physical statement: the step actually taken is no larger than requested and no larger
than the configured maximum step -/
theorem step_le_request (s : TL) (A r : ℚ) (hA : 0 ≤ A) (hs : Inv s) (hlive : s.cur < maxT)
    (s' : TL) (ts : Nat) (more : Bool)
    (h : advance s (physGt A r) = (s', ts, .stepped more)) :
    A * (ts : ℚ) ≤ r ∧ A * (ts : ℚ) ≤ A * (s.maxStep : ℚ) := by
  have hst := advance_stepped s _ (physGt_mono A r hA) hs hlive s' ts more h
  constructor
  · have hg := hst.not_gt
    simp only [physGt, decide_eq_false_iff_not, not_lt] at hg; exact hg
  · have : (ts : ℚ) ≤ (s.maxStep : ℚ) := by exact_mod_cast hst.le_max
    exact mul_le_mul_of_nonneg_left this hA

/-! ### non-vacuity: a concrete time line meets the hypotheses `Inv` and `cur < maxT` -/
example : Inv (mk true (physGt 1 1024) true (physGt 1 (2^40))) ∧
    (mk true (physGt 1 1024) true (physGt 1 (2^40))).cur < maxT := by
  exact ⟨mk_inv _ _ _ _, by decide⟩

end CMacVerif.TimeLine
