import CMacVerif.Lemmas.Lifecycle
import CMacVerif.Gen.Lifecycle
/-!
# C12 — complete runs end normally without invalid memory use (partial)

What is proved here is the *mechanism* "constructors initialise every owned pointer, destructors
delete conditionally" for the owners of optional components.  Model:
`CMacVerif/Model/Lifecycle.lean`; the ten descriptions (the four owners and the two constructors
of each of three random photon source distributions) are regenerated from /repo's sources on
every run (`CMacVerif/Gen/Lifecycle.lean`).

* `ctor_dtor_safe`, `ctor_initialises`, `no_null_use`, `checkAll_sound`: generic, for EVERY
  description that passes the decidable check (`wf`, `wfInit`, `wfNull`) and EVERY option vector;
* one instantiation per generated description, the check discharged by `decide`;
* two descriptions kept by hand are not safe: `LiveOutputManager` as it was before /repo commit
  4acd754 and the restart constructor of a random source distribution as it was before d5ef870.

Everything else the property C12 speaks about (out-of-bounds, use after free and uninitialised
*data* elsewhere, exit status of whole runs) is NOT proved: it is searched by whole runs of the
real binary (exit status; AddressSanitizer/UBSan in the thorough tier).
-/
namespace CMacVerif.Lifecycle
open CMacVerif.Gen.Lifecycle

def noExempt : Nat → Bool := fun _ => false
def allExempt : Nat → Bool := fun _ => true

theorem rel_final (st : Stmt) (known : Known) (env : Env) (hk : Consistent known env) (f : Nat) :
    Rel f (exec env st St.init) (aexecF known f st AV.init) :=
  sound known env hk f st St.init AV.init (rel_init f)

/-- what `wf` says about the abstract value of one field (any field: one the program does not
mention keeps `AV.init`) -/
theorem wf_field {known : Known} {exempt : Nat → Bool} {st : Stmt}
    (h : wf known exempt st = true) (f : Nat) :
    (aexecF known f st AV.init).bad = false ∧ (exempt f = false →
      (aexecF known f st AV.init).leak = false ∧ (aexecF known f st AV.init).o = false) := by
  have hc : checkField known exempt st f = true := by
    by_cases hf : f < st.bound
    · exact (List.all_eq_true.mp h) f (List.mem_range.mpr hf)
    · simp only [checkField]
      rw [aexecF_unmentioned known f st AV.init (by omega)]
      simp [AV.init]
  simp only [checkField, Bool.and_eq_true, Bool.not_eq_true', Bool.or_eq_true] at hc
  exact ⟨hc.1, fun hex => hc.2.resolve_left (by simp [hex])⟩

/-- **`dtor (ctor opts)` frees only owned pointers, each once, reads no uninitialised field and
leaves nothing owned**: for every program that passes the decidable check `wf` and every option
vector compatible with the assumptions: no double free, no free or test of an uninitialised
pointer, no use after free (`noBad`); no allocation is overwritten while owned and none is still
owned at the end, except through exempted fields (`noLeak`). -/
theorem ctor_dtor_safe (st : Stmt) (known : Known) (exempt : Nat → Bool)
    (h : wf known exempt st = true) (env : Env) (hk : Consistent known env) :
    (exec env st St.init).noBad ∧ (exec env st St.init).noLeak exempt := by
  refine ⟨fun e he => (rel_final st known env hk e.field).bad (wf_field h e.field).1 e he rfl,
    fun e he hex => (rel_final st known env hk e.field).leak ((wf_field h e.field).2 hex).1 e he rfl,
    fun f hex => ?_⟩
  have hk' := (rel_final st known env hk f).kind
  cases hp : (exec env st St.init).ptr f <;>
    simp [hp, PState.kindIn, PState.isOwned, ((wf_field h f).2 hex).2] at hk' ⊢

/-- **the constructor initialises every field**: after a constructor that passes `wfInit`, no
declared pointer field is uninitialised, whatever the options. -/
theorem ctor_initialises (ctor : Stmt) (known : Known) (n : Nat) (h : wfInit known ctor n = true)
    (env : Env) (hk : Consistent known env) :
    ∀ f, f < n → ((exec env ctor St.init).ptr f).isUninit = false := by
  intro f hf
  have hc := (List.all_eq_true.mp h) f (List.mem_range.mpr hf)
  simp only [Bool.and_eq_true, Bool.not_eq_true'] at hc
  have hr := (rel_final ctor known env hk f).kind
  cases hp : (exec env ctor St.init).ptr f <;> simp [hp, PState.kindIn, PState.isUninit, hc.2] at hr ⊢

/-- soundness is per field, so each field may be analysed under assumptions of its own -/
theorem no_null_use_fields (st : Stmt) (kn : Nat → Known)
    (h : ∀ f, f < st.bound → (aexecF (kn f) f st AV.init).nul = false) (env : Env)
    (hk : ∀ f, Consistent (kn f) env) : (exec env st St.init).noNullUse := by
  intro e he
  have hr := rel_final st (kn e.field) env (hk _) e.field
  by_cases hf : e.field < st.bound
  · exact hr.nul (h _ hf) e he rfl
  · rw [aexecF_unmentioned _ _ st AV.init (by omega)] at hr
    exact hr.nul rfl e he rfl

theorem no_null_use (st : Stmt) (known : Known) (h : wfNull known st = true) (env : Env)
    (hk : Consistent known env) : (exec env st St.init).noNullUse :=
  no_null_use_fields st (fun _ => known)
    (fun f hf => (Bool.not_eq_true' _).mp (List.all_eq_true.mp h f (List.mem_range.mpr hf))) env fun _ => hk

/-- the check of `wf`, and no possible null use: each field analysed under `known` and, only where
that leaves a null use possible, again under the stronger assumptions `more`. Two sets of
assumptions because the end results differ in theirs: no invalid free and no leak are claimed under
`known` alone, null-safety only under `more` -/
def checkAll (known more : Known) (exempt : Nat → Bool) (st : Stmt) : Bool :=
  wf known exempt st && (List.range st.bound).all fun f =>
    !(aexecF known f st AV.init).nul || !(aexecF more f st AV.init).nul

theorem checkAll_sound {known more : Known} {exempt : Nat → Bool} {st : Stmt}
    (h : checkAll known more exempt st = true) (env : Env) (hk : Consistent known env) :
    (exec env st St.init).noBad ∧ (exec env st St.init).noLeak exempt ∧
    (Consistent more env → (exec env st St.init).noNullUse) := by
  obtain ⟨hw, hn⟩ := Bool.and_eq_true_iff.mp h
  have hs := ctor_dtor_safe st known exempt hw env hk
  refine ⟨hs.1, hs.2, fun hm => no_null_use_fields st
    (fun f => if (aexecF known f st AV.init).nul then more else known) (fun f hf => ?_) env
    fun f => by split <;> assumption⟩
  have := List.all_eq_true.mp hn f (List.mem_range.mpr hf)
  cases hn : (aexecF known f st AV.init).nul <;> simp_all

/-- **each allocation is freed at most once, only allocations are freed, and in a run without
leak every allocation is freed exactly once** — for every program and every option vector (the
log distinguishes `free` of a live allocation from `dfree`, which `noBad` excludes). -/
theorem frees_exactly_once (st : Stmt) (env : Env) :
    (∀ f k, (exec env st St.init).log.count (Event.free f k) ≤ 1) ∧
    (∀ f k, Event.free f k ∈ (exec env st St.init).log → Event.alloc f k ∈ (exec env st St.init).log) ∧
    ((exec env st St.init).noLeak noExempt →
      ∀ f k, Event.alloc f k ∈ (exec env st St.init).log →
        (exec env st St.init).log.count (Event.free f k) = 1) := by
  have hi := logInv_exec env st St.init logInv_init
  refine ⟨hi.once, hi.freeAlloc, ?_⟩
  intro hl f k hm
  rcases hi.fate f k hm with h1 | h1 | h1
  · have := hl.2 f rfl
    simp [h1, PState.isOwned] at this
  · exact h1
  · have := hl.1 _ h1 rfl
    simp [Event.isLost] at this

theorem consistent_ofList (l : List (Nat × Bool)) (env : Env) (h : ∀ p ∈ l, env p.1 = p.2) :
    Consistent (Known.ofList l) env := by
  intro o b hb
  unfold Known.ofList at hb
  split at hb
  · rename_i p hp
    have hm := List.mem_of_find?_eq_some hp
    have hq := List.find?_some hp
    simp only [beq_iff_eq] at hq
    simp only [Option.some.injEq] at hb
    rw [← hq, ← hb]; exact h p hm
  · simp at hb

theorem consistent_knownNames (d : ClassDesc) (l : List (String × Bool)) (env : Env)
    (h : ∀ p ∈ l, env (idxOf d.opts p.1) = p.2) : Consistent (d.knownNames l) env := by
  apply consistent_ofList
  intro p hp
  obtain ⟨q, hq, rfl⟩ := List.mem_map.mp hp
  exact h q hq

/-! ## LiveOutputManager (src/LiveOutputManager.hpp) -/

/-- for every setting of `enabled` and of the four output switches: the destructor deletes
exactly the calculators the constructor created, tests no uninitialised pointer, leaks nothing -/
theorem liveOutputManager_safe (env : Env) :
    (liveOutputManager.run env).noBad ∧ (liveOutputManager.run env).noLeak noExempt :=
  ctor_dtor_safe _ Known.none noExempt (by decide) env (consistent_none env)

theorem liveOutputManager_initialised (env : Env) :
    ∀ f, f < liveOutputManager.fields.length → ((liveOutputManager.afterCtor env).ptr f).isUninit = false :=
  ctor_initialises _ Known.none _ (by decide) env (consistent_none env)

/-- non-vacuity: with everything switched on, four allocations and four frees, in order -/
example : (liveOutputManager.run (fun _ => true)).log =
    [.alloc 0 0, .alloc 1 1, .alloc 2 2, .alloc 3 3, .free 0 0, .free 1 1, .free 2 2, .free 3 3] := by
  decide
/-- non-vacuity: with the defaults (disabled) nothing is allocated or freed -/
example : (liveOutputManager.run (fun _ => false)).log = [] := by decide

/-- `LiveOutputManager` as it was before /repo commit 4acd754 (kept by hand, independent of the
generated description): the initialiser of `_surface_density_ionized_calculator` (field 1) is
missing.  Options 0..3 = the four output switches, 4 = `enabled`. -/
def liveOutputManagerBefore4acd754 : ClassDesc where
  name := "LiveOutputManager@4acd754^"
  fields := ["_surface_density_calculator", "_surface_density_ionized_calculator",
    "_density_PDF_calculator", "_velocity_PDF_calculator"]
  opts := ["output_surface_density", "output_ionized_surface_density", "output_density_PDF",
    "output_velocity_PDF", "_enabled"]
  ctor := Stmt.ofList [.setNull 0, .setNull 2, .setNull 3,
    .ite (.opt 4) (Stmt.ofList [.ite (.opt 0) (.setNew 0) .skip, .ite (.opt 1) (.setNew 1) .skip,
      .ite (.opt 2) (.setNew 2) .skip, .ite (.opt 3) (.setNew 3) .skip]) .skip]
  dtor := Stmt.ofList [.ite (.nonNull 0) (.del 0) .skip, .ite (.nonNull 1) (.del 1) .skip,
    .ite (.nonNull 2) (.del 2) .skip, .ite (.nonNull 3) (.del 3) .skip]

/-- option vector given by the list of its first values -/
def envOf (l : List Bool) : Env := fun o => l.getD o false

/-- the defect fixed in 4acd754: whenever the ionized surface density output is off (the default:
`enabled` false or the switch itself false) the destructor tests and deletes an uninitialised
pointer — for every value of the other switches -/
theorem liveOutputManager_before_fix_unsafe :
    ∀ b0 b1 b2 b3 b4 : Bool, (b4 = false ∨ b1 = false) →
      Event.wild 1 ∈ (liveOutputManagerBefore4acd754.run (envOf [b0, b1, b2, b3, b4])).log := by
  decide +kernel

/-- and the check `wf` rejects that description, as it rejects the generated one with the
initialiser dropped -/
example : wf Known.none noExempt liveOutputManagerBefore4acd754.prog = false := by decide
example : wf Known.none noExempt
    (Stmt.seq (liveOutputManager.ctor.dropInit 1) liveOutputManager.dtor) = false := by decide

/-! ## TrackerManager (src/TrackerManager.hpp) -/

/-- every tracker created by the constructor is deleted once by the destructor (vector fields
stand for a representative element; `_multi_trackers` has no element between constructor and
destructor — it is filled by `add_trackers`, which is not modelled) -/
theorem trackerManager_safe (env : Env) :
    (trackerManager.run env).noBad ∧ (trackerManager.run env).noLeak noExempt :=
  ctor_dtor_safe _ Known.none noExempt (by decide) env (consistent_none env)

theorem trackerManager_no_null_use (env : Env) : (trackerManager.run env).noNullUse :=
  no_null_use _ Known.none (by decide) env (consistent_none env)

/-- non-vacuity: one tracker created and freed. The description is regenerated from /repo, hence two
alternatives: a destructor that deletes `_trackers` only (second), or one that also deletes the null
representative of `_multi_trackers` (first) -/
example : (trackerManager.run (fun _ => true)).log = [.alloc 0 0, .free 0 0, .delNull 1] ∨
    (trackerManager.run (fun _ => true)).log = [.alloc 0 0, .free 0 0] := by decide

/-! ## TaskBasedIonizationSimulation (src/TaskBasedIonizationSimulation.{hpp,cpp}) -/

/-- the parameter file gives the continuous source a spectrum (not `type: None`) -/
def tbisAssumptions : List (String × Bool) :=
  [("_continuous_photon_source_spectrum:=PhotonSourceSpectrumFactory::generate", true)]

theorem taskBasedIonizationSimulation_analysis :
    checkAll Known.none (taskBasedIonizationSimulation.knownNames tbisAssumptions) noExempt
      taskBasedIonizationSimulation.prog = true := by
  decide +kernel

/-- for every combination of optional components (sources, spectra, diffuse field, trackers,
zero luminosities): constructor + destructor free every allocation exactly once, read no
uninitialised member, leak nothing -/
theorem taskBasedIonizationSimulation_safe (env : Env) :
    (taskBasedIonizationSimulation.run env).noBad ∧
    (taskBasedIonizationSimulation.run env).noLeak noExempt :=
  have h := checkAll_sound taskBasedIonizationSimulation_analysis env (consistent_none env)
  ⟨h.1, h.2.1⟩

theorem taskBasedIonizationSimulation_initialised (env : Env) :
    ∀ f, f < taskBasedIonizationSimulation.fields.length →
      ((taskBasedIonizationSimulation.afterCtor env).ptr f).isUninit = false :=
  ctor_initialises _ Known.none _ (by decide +kernel) env (consistent_none env)

/-- under that assumption constructor and destructor dereference no null pointer -/
theorem taskBasedIonizationSimulation_no_null_use (env : Env)
    (h : ∀ p ∈ tbisAssumptions, env (idxOf taskBasedIonizationSimulation.opts p.1) = p.2) :
    (taskBasedIonizationSimulation.run env).noNullUse :=
  (checkAll_sound taskBasedIonizationSimulation_analysis env (consistent_none env)).2.2
    (consistent_knownNames _ _ env h)

example : ∃ env : Env, ∀ p ∈ tbisAssumptions, env (idxOf taskBasedIonizationSimulation.opts p.1) = p.2 :=
  ⟨fun _ => true, by decide⟩

/-! ## TaskBasedRadiationHydrodynamicsSimulation::do_simulation (pointer locals) -/

def rhdNotDryRun : List (String × Bool) := [("parser.get_value<bool>(\"dry-run\")", false)]
def rhdDryFlag : String := "parser.get_value<bool>(\"dry-run\")"

/-- the parameter file names a density function, a source distribution and a source spectrum
(none of them `type: None`) and the run is not a dry run -/
def rhdAssumptions : List (String × Bool) :=
  [("density_function:=DensityFunctionFactory::generate", true),
   ("sourcedistribution:=PhotonSourceDistributionFactory::generate", true),
   ("spectrum:=PhotonSourceSpectrumFactory::generate", true)]

/-- `b` fixes the run mode: a dry run leaves `do_simulation` early, with most locals still owned, so
with the flag unknown no leak statement passes.  The complete run passes with the `TimeLine`
exempt, which can only end owned; of the dry run only `noBad` and null-safety are asked. -/
theorem rhdSimulation_analysis :
    (∀ b : Bool, checkAll (rhdSimulation.knownNames [(rhdDryFlag, b)])
      (rhdSimulation.knownNames ((rhdDryFlag, b) :: rhdAssumptions))
      (bif b then allExempt else rhdSimulation.exemptNames ["timeline"]) rhdSimulation.prog = true) ∧
    aexecF (rhdSimulation.knownNames rhdNotDryRun) (idxOf rhdSimulation.fields "timeline")
      rhdSimulation.prog AV.init = { AV.init with u := false, o := true } := by
  decide +kernel

theorem rhd_mode (env : Env) : Consistent
    (rhdSimulation.knownNames [(rhdDryFlag, env (idxOf rhdSimulation.opts rhdDryFlag))]) env :=
  consistent_knownNames _ _ env (List.forall_mem_singleton.mpr rfl)

/-- for every run mode (fresh / restart / dry run) and every combination of optional components:
no pointer local is deleted twice, deleted or tested before it is initialised, or used after it
was deleted -/
theorem rhdSimulation_no_invalid_free (env : Env) : (rhdSimulation.run env).noBad :=
  (checkAll_sound (rhdSimulation_analysis.1 _) env (rhd_mode env)).1

/-- a complete (not dry) run deletes everything it allocated exactly once — EXCEPT the `TimeLine`,
which is allocated and never deleted (a leak of one small object at process exit; see
`rhdSimulation_timeline_leaked`).  The dry run returns early and frees nothing. -/
theorem rhdSimulation_no_leak_except_timeline (env : Env)
    (h : ∀ p ∈ rhdNotDryRun, env (idxOf rhdSimulation.opts p.1) = p.2) :
    (rhdSimulation.run env).noLeak (rhdSimulation.exemptNames ["timeline"]) :=
  (checkAll_sound (rhdSimulation_analysis.1 false) env (consistent_knownNames _ _ env h)).2.1

/-- the exemption is needed: in every complete run the `TimeLine` is still owned at the end -/
theorem rhdSimulation_timeline_leaked (env : Env)
    (h : ∀ p ∈ rhdNotDryRun, env (idxOf rhdSimulation.opts p.1) = p.2) :
    ((rhdSimulation.run env).ptr (idxOf rhdSimulation.fields "timeline")).isOwned = true := by
  have hr := (rel_final rhdSimulation.prog _ env (consistent_knownNames _ _ env h)
    (idxOf rhdSimulation.fields "timeline")).kind
  rw [rhdSimulation_analysis.2] at hr
  unfold ClassDesc.run
  cases hp : (exec env rhdSimulation.prog St.init).ptr (idxOf rhdSimulation.fields "timeline") <;>
    simp [hp, PState.kindIn, PState.isOwned, AV.init] at hr ⊢

/-- under these assumptions no null pointer local is dereferenced -/
theorem rhdSimulation_no_null_use (env : Env)
    (h : ∀ p ∈ rhdAssumptions, env (idxOf rhdSimulation.opts p.1) = p.2) :
    (rhdSimulation.run env).noNullUse :=
  (checkAll_sound (rhdSimulation_analysis.1 _) env (rhd_mode env)).2.2
    (consistent_knownNames _ _ env (List.forall_mem_cons.mpr ⟨rfl, h⟩))

example : ∃ env : Env, (∀ p ∈ rhdAssumptions, env (idxOf rhdSimulation.opts p.1) = p.2) ∧
    (∀ p ∈ rhdNotDryRun, env (idxOf rhdSimulation.opts p.1) = p.2) := by
  refine ⟨fun o => o != idxOf rhdSimulation.opts rhdDryFlag, fun p hp => ?_, fun p hp => ?_⟩
  · -- the three names are options and none is the dry-run flag, so their numbers differ from its number
    have hm : p.1 ∈ rhdSimulation.opts ∧ p.1 ≠ rhdDryFlag ∧ p.2 = true := by
      revert p; decide +kernel
    rw [hm.2.2]
    exact bne_iff_ne.mpr fun e => hm.2.1 (idxOf_inj hm.1 e)
  · cases List.mem_singleton.mp hp
    exact bne_self_eq_false _

/-- the assumption on the source distribution is needed: with `PhotonSourceDistribution: type:
None` (a documented value, natural for `do radiation: false`) a fresh run dereferences the null
`sourcedistribution` (`sourcedistribution->get_total_luminosity()` when the
`TemperatureCalculator` is built) — reproduced on the real binary: SIGSEGV. -/
theorem rhdSimulation_null_source_distribution_is_dereferenced :
    ∃ env : Env, Event.nullUse (idxOf rhdSimulation.fields "sourcedistribution") ∈
      (rhdSimulation.run env).log :=
  ⟨fun o => o == idxOf rhdSimulation.opts "density_function:=DensityFunctionFactory::generate", by decide +kernel⟩

/-! ## the random photon source distributions: `std::ofstream *_output_file`, two constructors each
(the normal one and the restart constructor; /repo commit d5ef870 made the restart constructors
initialise the pointer) -/

theorem psd_safe (d : ClassDesc) {exempt : Nat → Bool}
    (h : checkAll Known.none Known.none exempt d.prog = true) (env : Env) :
    (d.run env).noBad ∧ (d.run env).noLeak exempt ∧ (d.run env).noNullUse :=
  have hs := checkAll_sound h env (consistent_none env)
  ⟨hs.1, hs.2.1, hs.2.2 (consistent_none env)⟩

theorem uniformRandomPSD_safe (env : Env) :
    (uniformRandomPSD.run env).noBad ∧ (uniformRandomPSD.run env).noLeak noExempt ∧
    (uniformRandomPSD.run env).noNullUse :=
  psd_safe _ (by decide) env

theorem uniformRandomPSDRestart_safe (env : Env) :
    (uniformRandomPSDRestart.run env).noBad ∧ (uniformRandomPSDRestart.run env).noLeak noExempt ∧
    (uniformRandomPSDRestart.run env).noNullUse :=
  psd_safe _ (by decide) env

theorem caproniPSD_safe (env : Env) :
    (caproniPSD.run env).noBad ∧ (caproniPSD.run env).noLeak noExempt ∧
    (caproniPSD.run env).noNullUse :=
  psd_safe _ (by decide) env

theorem caproniPSDRestart_safe (env : Env) :
    (caproniPSDRestart.run env).noBad ∧ (caproniPSDRestart.run env).noLeak noExempt ∧
    (caproniPSDRestart.run env).noNullUse :=
  psd_safe _ (by decide) env

/-- `DiscPatchPhotonSourceDistribution` has no destructor body: nothing invalid can happen, but
the output stream is never deleted (see `discPatchPSD_output_file_leaked`) -/
theorem discPatchPSD_no_invalid_free (env : Env) :
    (discPatchPSD.run env).noBad ∧ (discPatchPSD.run env).noNullUse ∧
    (discPatchPSDRestart.run env).noBad ∧ (discPatchPSDRestart.run env).noNullUse :=
  have h := psd_safe discPatchPSD (exempt := allExempt) (by decide) env
  have hr := psd_safe discPatchPSDRestart (exempt := allExempt) (by decide) env
  ⟨h.1, h.2.2, hr.1, hr.2.2⟩

/-- with the source output switched on, `DiscPatchPhotonSourceDistribution` leaks its
`std::ofstream` (both constructors): the stream is never closed or deleted -/
theorem discPatchPSD_output_file_leaked :
    (∃ env : Env, ((discPatchPSD.run env).ptr 0).isOwned = true) ∧
    (∃ env : Env, ((discPatchPSDRestart.run env).ptr 0).isOwned = true) :=
  ⟨⟨fun _ => true, by decide⟩, ⟨fun _ => true, by decide⟩⟩

theorem psd_initialised (d : ClassDesc) (h : wfInit Known.none d.ctor 1 = true) (env : Env) :
    ((d.afterCtor env).ptr 0).isUninit = false :=
  ctor_initialises _ Known.none 1 h env (consistent_none env) 0 Nat.one_pos

/-- every constructor of the three classes initialises `_output_file` -/
theorem randomPSD_initialised (env : Env) :
    ((uniformRandomPSD.afterCtor env).ptr 0).isUninit = false ∧
    ((uniformRandomPSDRestart.afterCtor env).ptr 0).isUninit = false ∧
    ((discPatchPSD.afterCtor env).ptr 0).isUninit = false ∧
    ((discPatchPSDRestart.afterCtor env).ptr 0).isUninit = false ∧
    ((caproniPSD.afterCtor env).ptr 0).isUninit = false ∧
    ((caproniPSDRestart.afterCtor env).ptr 0).isUninit = false :=
  ⟨psd_initialised _ (by decide) env, psd_initialised _ (by decide) env, psd_initialised _ (by decide) env,
   psd_initialised _ (by decide) env, psd_initialised _ (by decide) env, psd_initialised _ (by decide) env⟩

/-- the restart constructor as it was before d5ef870 (kept by hand): `_output_file` is only set
when the restart file says there was an output file -/
def randomPSDRestartBeforeD5ef870 : ClassDesc where
  name := "UniformRandomPhotonSourceDistribution(RestartReader&)@d5ef870^"
  fields := ["_output_file"]
  opts := ["has_output"]
  ctor := .ite (.opt 0) (.setNew 0) .skip
  dtor := .ite (.nonNull 0) (.seq (.use 0) (.del 0)) .skip

/-- the defect fixed in d5ef870: restarting a run without source output makes the destructor
test, close and delete an uninitialised pointer -/
theorem randomPSD_restart_before_fix_unsafe :
    Event.wild 0 ∈ (randomPSDRestartBeforeD5ef870.run (envOf [false])).log ∧
    wf Known.none noExempt randomPSDRestartBeforeD5ef870.prog = false ∧
    wfInit Known.none randomPSDRestartBeforeD5ef870.ctor 1 = false := by decide

end CMacVerif.Lifecycle
