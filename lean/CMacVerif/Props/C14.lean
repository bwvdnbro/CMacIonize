import CMacVerif.Lemmas.Rotation
/-!
# C14 — restart dumps are rotated safely and the last good dump is never destroyed

Model: `CMacVerif/Model/Rotation.lean` (file system as a map, the primitive operations of
`RestartManager::get_restart_writer` in code order).  Dumped states are numbered 1, 2, 3, ….
-/
namespace CMacVerif.Rotation

/-- the directory the property asks for after `k` dumps with `n` configured backups:
the newest state in the main file, the `min n (k-1)` previous ones newest-first in the backup
files, and no other file -/
def Good (n k : Nat) (fs : FS) : Prop :=
  fs .dump = (if k = 0 then none else some ⟨k, true⟩) ∧
  ∀ i, fs (.back i) = if i < min n (k - 1) then some ⟨k - 1 - i, true⟩ else none

theorem lt_min_pred {i n k : Nat} : i < min n (k - 1) ↔ i < n ∧ i + 1 < k := by
  rw [Nat.lt_min]; omega

theorem Good.back_lt {n k : Nat} {fs : FS} (h : Good n k fs) {i : Nat} (hn : i < n) (hk : i + 1 < k) :
    fs (.back i) = some ⟨k - 1 - i, true⟩ := by
  rw [h.2 i, if_pos (lt_min_pred.mpr ⟨hn, hk⟩)]

theorem Good.back_ge {n k : Nat} {fs : FS} (h : Good n k fs) {i : Nat} (hi : ¬ (i < n ∧ i + 1 < k)) :
    fs (.back i) = none := by
  rw [h.2 i, if_neg (mt lt_min_pred.mp hi)]

/-- what every reachable directory satisfies: `nb ≤ maxB`, a manager that has not dumped yet has
no backups on its books, the first `nb` backup files exist, and once this process has dumped the
main file is complete -/
def HInv (st : FS × RM) : Prop :=
  st.2.nb ≤ st.2.maxB ∧ (st.2.nr = 0 → st.2.nb = 0) ∧ (∀ j, j < st.2.nb → st.1 (.back j) ≠ none) ∧
  (0 < st.2.nr → ∃ v, st.1 .dump = some ⟨v, true⟩)

theorem hInv_mk (fs : FS) (rm : RM) :
    HInv (fs, rm) ↔ rm.nb ≤ rm.maxB ∧ (rm.nr = 0 → rm.nb = 0) ∧ (∀ j, j < rm.nb → fs (.back j) ≠ none) ∧
      (0 < rm.nr → ∃ v, fs .dump = some ⟨v, true⟩) := Iff.rfl

theorem Good.hinv {n k : Nat} {fs : FS} (h : Good n k fs) : HInv (fs, ⟨n, min n (k - 1), k⟩) := by
  refine (hInv_mk _ _).mpr ⟨Nat.min_le_left _ _, ?_, ?_, ?_⟩
  · rintro rfl; exact Nat.min_zero n
  · intro j hj
    obtain ⟨hn, hk⟩ := lt_min_pred.mp hj
    rw [h.back_lt hn hk]; exact Option.some_ne_none _
  · exact fun (hk : 0 < k) => ⟨k, by rw [h.1, if_neg (by omega)]⟩

theorem HInv.renamed_exist {fs : FS} {rm : RM} (h : HInv (fs, rm)) :
    (∀ j, j < startFixed rm.maxB rm.nb → fs (.back j) ≠ none) ∧
    (0 < rm.maxB → 0 < rm.nr → fs .dump ≠ none) := by
  obtain ⟨_, _, hb, hd⟩ := (hInv_mk fs rm).mp h
  refine ⟨fun j hj => hb j ?_, fun _ hr => ?_⟩
  · unfold startFixed at hj; omega
  · obtain ⟨u, hu⟩ := hd hr
    rw [hu]; exact Option.some_ne_none _

theorem lt_startFixed_iff {j n k : Nat} : j < startFixed n (min n (k - 1)) ↔ j + 1 < n ∧ j + 1 < k := by
  rw [startFixed, Nat.lt_min, lt_min_pred]; omega

theorem Good.dumped {n k : Nat} {fs : FS} (h : Good n k fs) :
    Good n (k + 1) (dumped fs ⟨n, min n (k - 1), k⟩ (k + 1)) := by
  refine ⟨by rw [dumped_dump, if_neg (Nat.succ_ne_zero k)], fun i => ?_⟩
  rw [Nat.add_sub_cancel]
  match i with
  | 0 =>
    rw [dumped_back_zero]
    by_cases hnk : 0 < n ∧ 0 < k
    · rw [if_pos hnk, h.1, if_neg (by omega), if_pos (Nat.lt_min.mpr hnk)]; rfl
    · have h0 : startFixed n (min n (k - 1)) = 0 :=
        Nat.eq_zero_of_not_pos (mt lt_startFixed_iff.mp (by omega))
      rw [if_neg hnk, shifted, if_pos h0, h.back_ge (by omega), if_neg (mt Nat.lt_min.mp hnk)]
  | j + 1 =>
    rw [dumped_back_succ]
    by_cases hj : j + 1 < n ∧ j + 1 < k
    · rw [if_pos (lt_startFixed_iff.mpr hj), h.back_lt (by omega) (by omega), if_pos (Nat.lt_min.mpr hj)]
      congr 2; omega
    · rw [if_neg (mt lt_startFixed_iff.mp hj), h.back_ge (by omega), if_neg (mt Nat.lt_min.mp hj)]

theorem dumps_succ {start : Nat → Nat → Nat} {maxB k : Nat} {fs : FS} {rm : RM}
    (h : dumps start maxB k = some (fs, rm)) :
    dumps start maxB (k + 1) =
      (execAll fs (dumpOps start rm (k + 1)).1).map fun fs' => (fs', (dumpOps start rm (k + 1)).2) := by
  rw [dumps, h]

/-- **Taking a new dump never fails and leaves the right files**, for every number of
configured backups and every number of dumps. -/
theorem after_k_dumps (n k : Nat) :
    ∃ fs, dumps startFixed n k = some (fs, ⟨n, min n (k - 1), k⟩) ∧ Good n k fs := by
  induction k with
  | zero =>
    refine ⟨FS.empty, ?_, rfl, fun i => ?_⟩
    · rw [Nat.zero_sub, Nat.min_zero]; rfl
    · rw [if_neg (by omega)]; rfl
  | succ k ih =>
    obtain ⟨fs, hd, hg⟩ := ih
    obtain ⟨hb, hm⟩ := hg.hinv.renamed_exist
    refine ⟨_, ?_, hg.dumped⟩
    rw [dumps_succ hd, dump_exec fs _ _ hb hm, Option.map_some]
    simp only [dumpOps]
    have e : (if n > 0 ∧ k > 0 ∧ min n (k - 1) < n then min n (k - 1) + 1 else min n (k - 1))
        = min n (k + 1 - 1) := by
      rcases Nat.lt_or_ge (k - 1) n with h | h
      · rw [Nat.min_eq_right (Nat.le_of_lt h), Nat.min_eq_right (by omega)]; split <;> omega
      · rw [Nat.min_eq_left h, Nat.min_eq_left (by omega), if_neg (by omega)]
    rw [e]

/-- corollary in words: after `k ≥ 1` dumps the main file holds the newest state, complete -/
theorem newest_in_dump (n k : Nat) (hk : 0 < k) :
    ∃ fs rm, dumps startFixed n k = some (fs, rm) ∧ fs .dump = some ⟨k, true⟩ := by
  obtain ⟨fs, h, hd, _⟩ := after_k_dumps n k
  exact ⟨fs, _, h, by rw [hd, if_neg (by omega)]⟩

/-! ## Histories with restarts (the process is stopped and started again with `--restart`) -/

theorem HInv.dumped {fs : FS} {rm : RM} (h : HInv (fs, rm)) (v : Nat) :
    HInv (dumped fs rm v, (dumpOps startFixed rm v).2) := by
  obtain ⟨hle, h0, hb, hd⟩ := (hInv_mk fs rm).mp h
  simp only [dumpOps]
  refine (hInv_mk _ _).mpr ⟨?_, ?_, fun j hj => ?_, fun _ => ⟨v, dumped_dump fs rm v⟩⟩
  · dsimp only
    split <;> omega
  · intro h; cases h
  · dsimp only at hj
    match j with
    | 0 =>
      rw [dumped_back_zero]
      by_cases c : 0 < rm.maxB ∧ 0 < rm.nr
      · obtain ⟨u, hu⟩ := hd c.2
        rw [if_pos c, hu]; exact Option.some_ne_none _
      · rw [if_neg (fun x => c ⟨x.1, x.2.1⟩)] at hj
        omega
    | j + 1 =>
      rw [dumped_back_succ]
      split
      · rename_i hlt
        unfold startFixed at hlt
        exact hb j (by omega)
      · rename_i hge
        unfold startFixed at hge
        refine hb (j + 1) ?_
        split at hj <;> omega

/-- **A dump started from any directory that satisfies `HInv` never aborts**; see `dumped_dump`
and `HInv.dumped` for the main file and the invariant afterwards. -/
theorem hstep_dump {fs : FS} {rm : RM} (h : HInv (fs, rm)) (v : Nat) :
    hstep (fs, rm) (.dump v) = some (dumped fs rm v, (dumpOps startFixed rm v).2) := by
  obtain ⟨hb, hm⟩ := h.renamed_exist
  exact congrArg (Option.map fun fs' => (fs', (dumpOps startFixed rm v).2)) (dump_exec fs rm v hb hm)

/-- `HInv` holds initially, and a restart keeps it (fresh manager, same files) -/
theorem hInv_fresh (fs : FS) (n : Nat) : HInv (fs, RM.fresh n) :=
  ⟨Nat.zero_le n, fun _ => rfl, fun _ hj => absurd hj (Nat.not_lt_zero _),
    fun h => absurd h (Nat.lt_irrefl 0)⟩

theorem hrun_inv (hist : List HOp) (st : FS × RM) (h : HInv st) :
    ∃ st', hrun st hist = some st' ∧ HInv st' := by
  induction hist generalizing st with
  | nil => exact ⟨st, rfl, h⟩
  | cons o os ih =>
    obtain ⟨fs, rm⟩ := st
    cases o with
    | dump v => rw [hrun, hstep_dump h]; exact ih _ (h.dumped v)
    | reboot => exact ih _ (hInv_fresh fs rm.maxB)

/-- **Every history of dumps and restarts runs to its end** (no dump ever aborts on a failed
rename), for every number of configured backups. -/
theorem history_never_aborts (n : Nat) (hist : List HOp) :
    ∃ st, hrun (FS.empty, RM.fresh n) hist = some st ∧ HInv st :=
  hrun_inv hist _ (hInv_fresh _ n)

/-- **After any history that ends with a dump the newest state is in the main dump file,
complete** -/
theorem history_newest_in_dump (n : Nat) (hist : List HOp) (v : Nat) :
    ∃ st, hrun (FS.empty, RM.fresh n) (hist ++ [.dump v]) = some st ∧ st.1 .dump = some ⟨v, true⟩ := by
  obtain ⟨⟨fs, rm⟩, hs, hi⟩ := history_never_aborts n hist
  refine ⟨(dumped fs rm v, (dumpOps startFixed rm v).2), ?_, dumped_dump fs rm v⟩
  rw [hrun_append, hs, Option.bind_some, hrun, hstep_dump hi]
  rfl

/-- **Crash safety in every history**: in ANY reachable directory (any mix of dumps and
restarts before), if at least one backup is configured and THIS process has dumped before
(`nr > 0`), then whatever prefix of the next dump's operations was executed when the process
died, the complete previous dump `u` is still on disk (main file or first backup). -/
theorem crash_safe_history (st : FS × RM) (h : HInv st) (hn : 0 < st.2.maxB) (hr : 0 < st.2.nr)
    (u : Nat) (hu : st.1 .dump = some ⟨u, true⟩) (v : Nat) :
    ∀ fs' ∈ prefixes st.1 (dumpOps startFixed st.2 v).1,
      fs' .dump = some ⟨u, true⟩ ∨ fs' (.back 0) = some ⟨u, true⟩ := by
  obtain ⟨fs, rm⟩ := st
  intro fs' hfs'
  simp only [dumpOps, if_pos hn, if_pos hr, List.append_assoc] at hfs'
  rcases mem_prefixes_append (execAll_shiftOps _ fs h.renamed_exist.1) hfs' with hp | hp
  · left; rw [prefixes_shiftOps_dump _ _ _ hp]; exact hu
  · exact prefixes_moveWrite ((shifted_dump fs _).trans hu) v fs' hp

/-- **Crash safety.**  With at least one backup configured, whatever prefix of the
operations of dump `k+1` was executed when the process died, a complete dump of the previous
state `k` is on disk (in the main file or in the first backup). -/
theorem crash_safe (n k : Nat) (hn : 0 < n) (hk : 0 < k) (fs : FS) (h : Good n k fs) :
    ∀ fs' ∈ prefixes fs (dumpOps startFixed ⟨n, min n (k - 1), k⟩ (k + 1)).1,
      fs' .dump = some ⟨k, true⟩ ∨ fs' (.back 0) = some ⟨k, true⟩ :=
  crash_safe_history (fs, ⟨n, min n (k - 1), k⟩) h.hinv hn hk k (h.1.trans (if_neg (by omega))) (k + 1)

/-- without any backup the truncating open destroys the only copy: the hypothesis
"at least one backup is configured" of the property is needed -/
theorem no_backup_not_crash_safe :
    ∃ fs' ∈ prefixes (fun nm => if nm = .dump then some ⟨1, true⟩ else none)
        (dumpOps startFixed ⟨0, 0, 1⟩ 2).1,
      ∀ nm, fs' nm ≠ some ⟨1, true⟩ := by
  refine ⟨FS.set (fun nm => if nm = .dump then some ⟨1, true⟩ else none) .dump (some ⟨0, false⟩), ?_, ?_⟩
  · simp [dumpOps, prefixes, exec]
  · intro nm; simp only [FS.set]; split <;> simp

/-- for every number `n ≥ 2` of configured backups: `nb - 1` wraps around at `nb = 0`, so the
shifting loop starts at `n - 1 ≥ 1` and renames a backup file that does not exist -/
theorem old_code_first_dump_aborts (n : Nat) (hn : 2 ≤ n) : dumps startOld n 1 = none := by
  obtain ⟨m, hm⟩ : ∃ m, startOld n 0 = m + 1 := ⟨startOld n 0 - 1, by unfold startOld; omega⟩
  have hpos : n > 0 := by omega
  -- `shiftOps (m + 1)` starts with a rename of a backup file that `FS.empty` does not have
  simp [dumps, dumpOps, RM.fresh, hm, hpos, shiftOps, execAll, exec, FS.empty]

/-- the code before the fix (`min(max-1, nb-1)` on unsigned integers) aborts on the very first
dump as soon as two backups are configured -/
theorem old_code_first_dump_fails : (dumps startOld 2 1).isNone = true := by
  rw [old_code_first_dump_aborts 2 (Nat.le_refl 2)]; rfl

/-- non-vacuity: three dumps with two backups -/
example : ∃ fs, dumps startFixed 2 3 = some (fs, ⟨2, 2, 3⟩) ∧ fs .dump = some ⟨3, true⟩
    ∧ fs (.back 0) = some ⟨2, true⟩ ∧ fs (.back 1) = some ⟨1, true⟩ ∧ fs (.back 2) = none := by
  obtain ⟨fs, h, hd, hb⟩ := after_k_dumps 2 3
  exact ⟨fs, h, by simpa using hd, by simpa using hb 0, by simpa using hb 1, by simpa using hb 2⟩

/-- the FIRST dump of a restarted process is different (recorded finding
`rotation:previous-dump-lost-in-crash-of-restarted-process`): the fresh manager does not move
the dump file it was restarted from out of the way, so after `dump 1; dump 2; restart` a crash
right after the truncating open of dump 3 leaves no complete copy of state 2 — only the older
backup of state 1 survives. -/
theorem restarted_first_dump_not_crash_safe (st : FS × RM)
    (hs : hrun (FS.empty, RM.fresh 1) [.dump 1, .dump 2, .reboot] = some st) :
    st.1 .dump = some ⟨2, true⟩ ∧
      ∃ fs' ∈ prefixes st.1 (dumpOps startFixed st.2 3).1,
        (∀ nm, fs' nm ≠ some ⟨2, true⟩) ∧ fs' (.back 0) = some ⟨1, true⟩ := by
  have h1 := (hInv_fresh FS.empty 1).dumped 1
  -- the directory after `dump 1; dump 2`, taken over by the fresh manager of the restart
  have e : hrun (FS.empty, RM.fresh 1) [.dump 1, .dump 2, .reboot] =
      some (dumped (dumped FS.empty (RM.fresh 1) 1) ⟨1, 0, 1⟩ 2, RM.fresh 1) := by
    rw [hrun, hstep_dump (hInv_fresh _ 1)]
    dsimp only
    rw [hrun, hstep_dump h1]
    rfl
  obtain rfl := Option.some.inj (hs.symm.trans e)
  dsimp only
  have hb0 : dumped (dumped FS.empty (RM.fresh 1) 1) ⟨1, 0, 1⟩ 2 (.back 0) = some ⟨1, true⟩ := by
    rw [dumped_back_zero, if_pos ⟨Nat.one_pos, Nat.one_pos⟩, dumped_dump]
  refine ⟨dumped_dump _ _ _, _, List.mem_cons_of_mem _ List.mem_cons_self, fun nm => ?_, ?_⟩
  · match nm with
    | .dump => rw [FS.set_same]; exact fun h => nomatch h
    | .back 0 => rw [FS.set_other _ _ (by simp), hb0]; exact fun h => nomatch h
    | .back (j + 1) =>
      have h0 : ¬ j < startFixed (RM.mk 1 0 1).maxB (RM.mk 1 0 1).nb := Nat.not_lt_zero j
      rw [FS.set_other _ _ (by simp), dumped_back_succ, if_neg h0, dumped_back_succ]
      split <;> exact fun h => nomatch h
  · rw [FS.set_other _ _ (by simp), hb0]

/-- non-vacuity of `crash_safe_history`: the directory after `dump 1; restart; dump 2` with one
backup satisfies all its hypotheses -/
example : ∃ st, hrun (FS.empty, RM.fresh 1) [.dump 1, .reboot, .dump 2] = some st ∧ HInv st ∧
    0 < st.2.maxB ∧ 0 < st.2.nr ∧ st.1 .dump = some ⟨2, true⟩ := by
  obtain ⟨st, hs, hi⟩ := history_never_aborts 1 [.dump 1, .reboot, .dump 2]
  refine ⟨st, hs, hi, ?_⟩
  simp only [hrun, hstep, dumpOps, startFixed, RM.fresh, Option.map] at hs
  cases hs
  simp [FS.set]

end CMacVerif.Rotation
