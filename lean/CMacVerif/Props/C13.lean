import CMacVerif.Lemmas.RanluxStream
import CMacVerif.Lemmas.RanluxSeed
import CMacVerif.Lemmas.RanluxLcg
import CMacVerif.Lemmas.RanluxSplit
import CMacVerif.Lemmas.RanluxUse
import CMacVerif.Lemmas.RanluxCtx
import CMacVerif.Props.C01
/-!
# C13 — the random stream is RANLUX (ranlxd2); same seed, same stream

Property theorems only.  Model: `CMacVerif/Model/Ranlux.lean` (every `double` of
`RandomGenerator` as the integer `k` of `k * 2^-48`; `R` = rounding of a double operation,
`exact` = none).  Lemmas: `Lemmas/Ranlux*.lean`.

Vocabulary: `Inv s` — twelve entries in `[0, 2^48)`, carry 0 or 1, indices in range,
`jr = ir_old + 7 (mod 12)`, luxury 397;  `RExact R` — `R v = v` for `|v| < 2^49`;
`swb x0 n` — textbook subtract-with-borrow sequence;  `ranluxSpec` — every 397 values the
first 12 are delivered;  `effSeed` — `0 ↦ 1`, then the low 31 bits;  `pre i n k` — the `k` bits
generated from position `n` on for seed `i`, as a number;  `X`, `C` — value and borrow of `swb`;
`Zf` — the residue of a window of `swb` modulo `MM = B^12 − B^5 + 1` (`B = 2^48`).
-/
namespace CMacVerif.Ranlux

/-! ## the unrolled refill is 397 single steps -/

/-- the unrolled block of `increment_state` is twelve steps of the recurrence (positions
0,…,11 with partner 7,…,6), for every rounding that is exact below 2^49 -/
theorem block_is_twelve_steps (R : Rnd) (hR : RExact R) (x : Array Int) (c : Int) (o p : Nat)
    (hx : Bnd x) (hc : Cok c) :
    (⟨(block R x c).1, (block R x c).2, 0, 7, o, p⟩ : State)
      = iter singleStep 12 ⟨x, c, 0, 7, o, p⟩ := by
  have h0 : 0 < 12 := by decide
  have h7 : 7 < 12 := by decide
  have h := block_eq R hR ⟨x, c, 0, 7, o, p⟩ ⟨hx, hc, h0, h7⟩ rfl rfl
  have e := iter_eta 12 ⟨x, c, 0, 7, o, p⟩ h0 h7
  dsimp only [Nat.reduceAdd, Nat.reduceMod] at h e
  rw [h]
  dsimp only
  exact e.symm

/-- `increment_state()` (three loops, unrolled block) = `_pr` single steps of the textbook
recurrence, for every luxury value `_pr ≥ 11` and every read position -/
theorem unrolled_refines_single_any_luxury (R : Rnd) (hR : RExact R) (s : State)
    (hx : Bnd s.x) (hc : Cok s.carry) (hi : s.ir < 12) (hj : s.jr = (s.ir + 7) % 12)
    (hp : 11 ≤ s.pr) :
    incrementState R s = { iter singleStep s.pr s with irOld := (iter singleStep s.pr s).ir } :=
  incrementState_eq R hR s ⟨hx, hc, hi, hj ▸ Nat.mod_lt _ (by decide)⟩ hj hp

/-- in every state in which the generator calls it, `increment_state()` is 397 single steps -/
theorem unrolled_refines_single (R : Rnd) (hR : RExact R) (s : State) (h : Inv s)
    (e : s.ir = s.irOld) :
    incrementState R s = { iter singleStep 397 s with irOld := (iter singleStep 397 s).ir } := by
  have := refill_eq R hR s h e
  rwa [h.pr] at this

/-- fuel of the model loops is never exhausted: the first loop stops because `ir` reached 0 -/
theorem loop1_fuel (R : Rnd) (hR : RExact R) (s : State) (h : Inv s) :
    (loop1 R 12 s.x s.carry s.ir s.jr 0).2.2.1 = 0 := by
  rw [loop1_spec R hR 12 s 0 _ h.good rfl (Nat.mod_lt _ (by decide)).le]
  dsimp only
  rw [iter_ir _ _ h.good, Nat.add_mod_mod, Nat.add_sub_cancel' h.ir.le, Nat.mod_self]

/-! ## every reachable state is bounded; every output is in [0, 1) -/

theorem seed_pos (seed : Int) : SeedPos (seedState exact seed) :=
  ⟨seedState_bnd seed, rfl, rfl, rfl, rfl, rfl⟩

/-- `set_seed` establishes the invariant, for every seed value -/
theorem seed_inv (seed : Int) : Inv (seedState exact seed) := (seed_pos seed).inv

/-- every state reachable from any seed by any number of draws has all entries in `[0, 2^48)`
and carry 0 or 1 -/
theorem state_bounded (seed : Int) (n : Nat) : Inv (after exact (seedState exact seed) n) :=
  after_inv _ (seed_inv seed) n

/-- every output `k * 2^-48` of every stream has `0 ≤ k < 2^48` -/
theorem next_lt_one (seed : Int) (n : Nat) : 0 ≤ stream seed n ∧ stream seed n < B :=
  next_val _ (state_bounded seed n)

/-- … i.e. the returned double lies in `[0, 1)`, and `< 1` by at least `2^-48` -/
theorem output_in_unit_interval (seed : Int) (n : Nat) :
    (0 : ℚ) ≤ (stream seed n : ℚ) / 2 ^ 48 ∧ (stream seed n : ℚ) / 2 ^ 48 ≤ 1 - 1 / 2 ^ 48 := by
  obtain ⟨h0, h1⟩ := next_lt_one seed n
  rw [B_val] at h1
  have h2 : stream seed n + 1 ≤ 2 ^ 48 := by omega
  constructor
  · exact div_nonneg (Int.cast_nonneg h0) (by positivity)
  · rw [le_sub_iff_add_le, ← add_div, div_le_one (by positivity)]
    exact_mod_cast h2

/-- Exactly 0 is NOT excluded by the invariant that bounds the outputs: there is a well-formed
state (all entries 0) whose every later output is 0.  Whether a seeded stream ever returns
exactly 0 (`-log(u) = +∞`) is not decided here; it can never return a negative value or 1. -/
theorem zero_not_excluded_by_invariant :
    ∃ s : State, Inv s ∧ ∀ n, draw exact s n = 0 := by
  have hz : SeedPos ⟨Array.replicate 12 0, 0, 11, 7, 0, 397⟩ := ⟨bnd_zeros, rfl, rfl, rfl, rfl, rfl⟩
  refine ⟨_, hz.inv, fun n => ?_⟩
  rw [draw_spec _ hz n, ranluxSpec]
  have hs : ∀ m, swb (fun i => rd (Array.replicate 12 (0 : Int)) i) m = (0, 0) := by
    intro m
    induction m using Nat.strong_induction_on with
    | _ m ih =>
      by_cases h : m < 12
      · rw [swb_lt _ _ h, rd_zeros]
      · obtain ⟨t, rfl⟩ : ∃ t, m = t + 12 := ⟨m - 12, by omega⟩
        rw [swb_add, ih (t + 7) (by omega), ih t (by omega), ih (t + 11) (by omega)]
        rfl
  rw [hs]

/-! ## the double arithmetic is exact (justifies the integer model) -/

/-- Every double operation of seeding, refill and draw produces an integer multiple of 2^-48
of magnitude below 2^49 · 2^-48: whatever the rounding `R` does outside that range, as long as
it is exact inside it (IEEE binary64 is exact up to 2^53), the generator started with `R` is in
the same state after every number of draws and returns the same values as the unrounded one. -/
theorem doubles_exact (R : Rnd) (hR : RExact R) (seed : Int) (n : Nat) :
    after R (seedState R seed) n = after exact (seedState exact seed) n
    ∧ draw R (seedState R seed) n = stream seed n := by
  have hs := seedState_R R hR seed
  have ha := after_R R hR _ (seed_inv seed) n
  refine ⟨by rw [hs, ha], ?_⟩
  unfold stream draw
  rw [hs, ha, next_R R hR _ (state_bounded seed n)]

/-- the same for a single refill from any well-formed state -/
theorem doubles_exact_refill (R : Rnd) (hR : RExact R) (s : State) (h : Inv s) :
    next R s = next exact s := next_R R hR s h

/-! ## seeding -/

/-- seed 0 is seed 1 -/
theorem seed_zero_is_one (R : Rnd) : seedState R 0 = seedState R 1 := rfl

theorem seed_zero_stream (n : Nat) : stream 0 n = stream 1 n := rfl

/-- only the low 31 bits of the (non-zero) seed matter -/
theorem seed_mod (a b : Int) (h : effSeed a = effSeed b) : seedState exact a = seedState exact b := by
  rw [seedState_eq exact exact_RExact a, seedState_eq exact exact_RExact b, h]

/-- the twelve state words after seeding are consecutive 48 bit groups of the complemented
output of the shift register `b(n) = b(n-31) xor b(n-13)` started from the seed bits -/
theorem seed_words (seed : Int) (p : Nat) (hp : p < 12) :
    rd (seedState exact seed).x p = pre (effSeed seed) (48 * p) 48 :=
  seedState_rd seed p hp

/-- seeding is injective on `[1, 2^31)`: already the first state word determines the seed (its
leading 31 bits are the complemented seed bits, least significant first) -/
theorem seed_injective (a b : Int) (ha : 1 ≤ a) (ha' : a < 2147483648) (hb : 1 ≤ b)
    (hb' : b < 2147483648)
    (h : rd (seedState exact a).x 0 = rd (seedState exact b).x 0) : a = b := by
  rw [seedState_rd a 0 (by omega), seedState_rd b 0 (by omega)] at h
  have := word0_inj _ _ (effSeed_lt a) (effSeed_lt b) h
  rw [effSeed_of_range a ha ha', effSeed_of_range b hb hb'] at this
  omega

theorem seed_injective_state (a b : Int) (ha : 1 ≤ a) (ha' : a < 2147483648) (hb : 1 ≤ b)
    (hb' : b < 2147483648) (h : seedState exact a = seedState exact b) : a = b :=
  seed_injective a b ha ha' hb hb' (by rw [h])

/-! ## restart -/

/-- the value at position `a + b` of a stream is what a consumer sees as its `b`-th draw from
the generator left behind by `a` earlier draws -/
theorem draw_after (s : State) (a b : Nat) : draw exact (after exact s a) b = draw exact s (a + b) := by
  unfold draw; rw [after_add]

/-- a generator written to a restart file and read back is the same generator -/
theorem restore_dump (s : State) (h : s.x.size = 12) : restore (dump s) = some s := by
  obtain ⟨x, c, ir, jr, o, p⟩ := s
  have hx : x = ((List.range 12).map (rd x)).toArray := by
    apply Array.ext (by simp [h])
    intro i h1 h2
    simp [rd, Array.getD, h1]
  show some (⟨((List.range 12).map (rd x)).toArray, c, ir, jr, o, p⟩ : State) = _
  rw [← hx]

/-- … in every reachable state, and the stream continues identically -/
theorem stream_after_restore (seed : Int) (n m : Nat) :
    (restore (dump (after exact (seedState exact seed) n))).map (fun r => draw exact r m)
      = some (stream seed (n + m)) := by
  rw [restore_dump _ (state_bounded seed n).bnd.size, Option.map_some, draw_after]
  rfl

/-! ## the stream is RANLUX -/

/-- for every seed and every position: the `n`-th returned value is the textbook
subtract-with-borrow sequence (base 2^48, lags 12 and 5, started from the seed words, no
borrow) at index `397 * (n / 12 + 1) + n % 12`: luxury level 397, twelve values delivered per
397, the first 397 skipped -/
theorem stream_is_spec (seed : Int) (n : Nat) :
    stream seed n = ranluxSpec (fun p => rd (seedState exact seed).x p) n :=
  draw_spec _ (seed_pos seed) n

/-- same seed ⇒ same stream, by construction (the model is a function); stated for
completeness: equal effective seeds give equal streams -/
theorem same_seed_same_stream (a b : Int) (h : effSeed a = effSeed b) (n : Nat) :
    stream a n = stream b n := by
  unfold stream; rw [seed_mod a b h]

/-! ## injectivity of the step; different seeds give different streams -/

/-- The single step is NOT injective on raw states: an entry and the incoming carry are only
seen through their sum, so two well-formed states that differ in (entry, carry) merge. -/
theorem singleStep_not_injective :
    ∃ s s' : State, Inv s ∧ Inv s' ∧ s ≠ s' ∧ singleStep s = singleStep s' := by
  have hb : ∀ v : Int, 0 ≤ v → v < B → Bnd (wr (Array.replicate 12 (0 : Int)) 0 v) :=
    fun v => bnd_wr _ 0 v bnd_zeros
  refine ⟨⟨wr (Array.replicate 12 0) 0 5, 0, 0, 7, 0, 397⟩,
          ⟨wr (Array.replicate 12 0) 0 4, 1, 0, 7, 0, 397⟩,
          ⟨hb 5 (by omega) (by rw [B_val]; omega), Or.inl rfl, by decide, by decide, rfl, rfl⟩,
          ⟨hb 4 (by omega) (by rw [B_val]; omega), Or.inr rfl, by decide, by decide, rfl, rfl⟩,
          by decide, by decide⟩

/-- It is injective as soon as the incoming carry is known (the step loses exactly the
information "entry + carry" ↦ (entry, carry)). -/
theorem singleStep_injective_same_carry (s s' : State)
    (hs : s.x.size = 12) (hs' : s'.x.size = 12) (hi : s.ir < 12) (hi' : s'.ir < 12)
    (hj : s.jr = (s.ir + 7) % 12) (hj' : s'.jr = (s'.ir + 7) % 12)
    (hc : s.carry = s'.carry) (h : singleStep s = singleStep s') : s = s' := by
  obtain ⟨x, c, ir, jr, o, p⟩ := s
  obtain ⟨x', c', ir', jr', o', p'⟩ := s'
  dsimp only at hs hs' hi hi' hj hj' hc
  subst hc
  have e1 : (ir + 1) % 12 = (ir' + 1) % 12 := congrArg State.ir h
  have e2 : o = o' := congrArg State.irOld h
  have e3 : p = p' := congrArg State.pr h
  have ei : ir = ir' := (Nat.ModEq.add_right_cancel' 1 e1).eq_of_lt_of_lt hi hi'
  subst ei e2 e3
  have ej : jr = jr' := hj.trans hj'.symm
  subst ej
  have hx : (sb exact x c ir jr).1 = (sb exact x' c ir jr).1 := congrArg State.x h
  have hcc : (sb exact x c ir jr).2 = (sb exact x' c ir jr).2 := congrArg State.carry h
  rw [sb_exact, sb_exact] at hx hcc
  -- other positions are untouched; at `ir` value and borrow give back the difference
  have other : ∀ q, q ≠ ir → rd x q = rd x' q := fun q hq => by
    have := congrArg (fun a => rd a q) hx
    simpa only [rd_wr_ne _ _ _ _ (Ne.symm hq)] using this
  have hv := congrArg (fun a => rd a ir) hx
  simp only [rd_wr_eq _ _ _ (show ir < x.size by omega),
    rd_wr_eq _ _ _ (show ir < x'.size by omega)] at hv
  have hd := borrow_inj _ _ (Prod.ext hv hcc)
  have hjr := other jr (by omega)
  have : x = x' := arr_ext x x' hs hs' fun q _ => by
    by_cases hq : q = ir
    · subst hq; omega
    · exact other q hq
  subst this
  rfl

/-- What replaces injectivity: the recurrence is a linear congruential generator.  The residue
`Zf` of a window and its borrow satisfies `Zf t = b^n · Zf (t+n)  (mod b^12 − b^5 + 1)` — `n`
steps multiply the residue by the (invertible) `b^-n`, so no information modulo `MM` is lost;
states with the same residue merge (`singleStep_not_injective`). -/
theorem swb_is_lcg (x0 : Nat → Int) (t n : Nat) :
    ∃ q : Int, Zf x0 t = B ^ n * Zf x0 (t + n) + MM * q := Zf_iter x0 t n

/-- Different seeds give different streams: for any two seeds whose effective 31 bit seeds differ the
streams differ within the first 24 draws.  (Proof: equal first two delivered windows force
equal borrows because `b^397 ≢ ±1 (mod MM)`; then the seed arrays have the same residue, both
lie in `[0, MM)`, the only other array with that residue would need a zero first word, which
the shift register cannot produce; so the first words agree and `word0_inj` applies.) -/
theorem streams_differ_eff (a b : Int) (hab : effSeed a ≠ effSeed b) :
    ∃ n, n < 24 ∧ stream a n ≠ stream b n := by
  by_contra heq
  push_neg at heq
  apply hab
  apply word0_inj _ _ (effSeed_lt a) (effSeed_lt b)
  rw [← seedState_rd a 0 (by omega), ← seedState_rd b 0 (by omega)]
  have nz : ∀ s : Int, rd (seedState exact s).x 0 ≠ 0 := by
    intro s; rw [seedState_rd s 0 (by omega)]; exact pre48_ne_zero _ _
  have win : ∀ q, q < 2 → ∀ j, j < 12 →
      X (fun p => rd (seedState exact a).x p) (397 * (q + 1) + j) =
        X (fun p => rd (seedState exact b).x p) (397 * (q + 1) + j) := fun q hq j hj => by
    have := heq (12 * q + j) (by omega)
    rwa [stream, stream, draw_window _ (seed_pos a) q j hj, draw_window _ (seed_pos b) q j hj] at this
  exact first_word_eq _ _ 397 MM_not_dvd_plus MM_not_dvd_minus (seedState_bnd a).2 (seedState_bnd b).2
    (nz a) (nz b) (win 0 (by decide)) (win 1 (by decide))

/-- … in particular for any two different seeds in `[1, 2^31)` -/
theorem streams_differ (a b : Int) (ha : 1 ≤ a) (ha' : a < 2147483648) (hb : 1 ≤ b)
    (hb' : b < 2147483648) (hab : a ≠ b) : ∃ n, n < 24 ∧ stream a n ≠ stream b n := by
  apply streams_differ_eff
  rw [effSeed_of_range a ha ha', effSeed_of_range b hb hb']
  omega

/-! ## the consumer of a locally constructed generator: the photon packet split -/

/-- the split of `DistributedPhotonSource` hands out exactly `N` packets (quotas `q ≤ N` in
total, every source over `c ≥ 1` copies, leftovers to valid source indices) … -/
theorem split_sum (N : Nat) (src : List (Nat × Nat)) (idx : Nat → Nat)
    (hc : ∀ p ∈ src, 0 < p.2) (hq : (src.map Prod.fst).sum ≤ N) (hi : ∀ i, idx i < src.length) :
    (split N src idx).sum = N ∧ (split N src idx).length = (src.map Prod.snd).sum := by
  rw [split_eq]
  refine ⟨Photon.split_total N src _ (fun h => by have := hi 0; rw [h] at this; cases this) hc hq
    (by rw [List.length_map, List.length_range']; rfl), ?_⟩
  rw [Photon.splitTotals, Photon.applyPicks_length, Photon.splitLoop_length, List.length_nil,
    Nat.zero_add]

/-- … and is a function of `(N, quotas, copies)` and of the stream of a generator seeded with the
constant default seed inside the constructor: the leftover `i` goes to the source computed from
draw number `i` of `stream 42`, counted from 0 in EVERY construction.  Two constructions from
the same inputs give the same split (there is no hidden state; a `static` generator would make
`idx` depend on the number of earlier constructions — the harness constructs twice and
compares). -/
theorem split_fresh_generator (N : Nat) (src : List (Nat × Nat)) (toIdx : Int → Nat) (k : Nat) :
    split N src (fun i => toIdx (stream defaultSeed i))
      = split N src (fun i => toIdx (draw exact (seedState exact 42) (0 + i))) ∧
    -- a generator that has already been used `k` times would read the stream from position k
    (fun i => draw exact (after exact (seedState exact 42) k) i)
      = (fun i => stream defaultSeed (k + i)) := by
  refine ⟨by simp only [Nat.zero_add]; rfl, ?_⟩
  funext i
  exact draw_after _ k i

example : (split 10 [(1, 1), (2, 2), (5, 1)] (fun i => i % 3)).sum = 10 := by decide

/-! ## consumers at run level: integers, per-thread seeds, emission -/

/-- `get_random_integer()` from EVERY well-formed state (not only sampled ones) returns the
leading 31 bits of the draw: a value in `[0, 2^31)` (the header comment says `[0, 2^31]`) -/
theorem random_integer_range (s : State) (h : Inv s) :
    0 ≤ (nextInt exact s).1 ∧ (nextInt exact s).1 < 2147483648
    ∧ (nextInt exact s).1 = (next exact s).1 / 131072 := by
  obtain ⟨h0, h1⟩ := next_val s h
  unfold nextInt
  dsimp only
  rw [B_val]
  rw [B_val] at h1
  omega

/-- the seed a restarted RHD run continues with (`get_random_integer()` of a generator seeded
with the previous seed) is again a seed of the domain `[0, 2^31)` of the theorems above -/
theorem restart_seed_in_domain (seed : Int) (n : Nat) :
    0 ≤ (nextInt exact (after exact (seedState exact seed) n)).1
    ∧ (nextInt exact (after exact (seedState exact seed) n)).1 < 2147483648 :=
  let h := random_integer_range _ (state_bounded seed n); ⟨h.1, h.2.1⟩

/-- threads of one run: with a seed `≥ 1` (and `seed + n ≤ 2^31`) any two threads have streams
that differ within their first 24 draws -/
theorem thread_streams_differ (seed : Int) (n i j : Nat) (hs : 1 ≤ seed)
    (hn : seed + n ≤ 2147483648) (hi : i < n) (hj : j < n) (hij : i ≠ j) :
    ∃ m, m < 24 ∧ stream (threadSeed seed i) m ≠ stream (threadSeed seed j) m := by
  unfold threadSeed
  apply streams_differ <;> omega

/-- in general two threads share a stream exactly when their effective seeds coincide … -/
theorem thread_streams_equal_iff (seed : Int) (i j : Nat) :
    (∀ m, stream (threadSeed seed i) m = stream (threadSeed seed j) m)
      ↔ effSeed (threadSeed seed i) = effSeed (threadSeed seed j) := by
  constructor
  · intro h
    by_contra hne
    obtain ⟨m, _, hm⟩ := streams_differ_eff _ _ hne
    exact hm (h m)
  · intro h m; exact same_seed_same_stream _ _ h m

/-- … which DOES happen inside the documented seed domain: with `random seed: 0` threads 0 and 1
get seeds 0 and 1, and seed 0 is an alias of seed 1 — both threads draw the same stream. -/
theorem thread_seed_collision (m : Nat) :
    stream (threadSeed 0 0) m = stream (threadSeed 0 1) m := rfl

/-- the only collisions among fewer than 2^31 - 1 consecutive thread seeds are of this kind: some
thread gets seed 0 and the next one seed 1 -/
theorem thread_collision_only_at_zero (seed : Int) (i j : Nat) (hij : i < j)
    (hj : (j : Int) < 2147483647)
    (h : effSeed (threadSeed seed i) = effSeed (threadSeed seed j)) :
    threadSeed seed i = 0 ∧ j = i + 1 := by
  have e : (effSeed (threadSeed seed i) : Int) = effSeed (threadSeed seed j) := by rw [h]
  rw [effSeed_cast, effSeed_cast] at e
  unfold threadSeed at e ⊢
  split at e <;> split at e <;> omega

/-- emission, over the reals, for every value `u ∈ [0,1)` a generator can return:
the `z` component is in `[-1, 1)` and the direction is a unit vector -/
theorem emit_direction_unit (u1 u2 : ℝ) (h0 : 0 ≤ u1) (h1 : u1 < 1) :
    let d := emitDirection u1 u2
    d.1 * d.1 + d.2.1 * d.2.1 + d.2.2 * d.2.2 = 1 ∧ -1 ≤ d.2.2 ∧ d.2.2 < 1 := by
  rw [emitDirection_real]
  dsimp only
  have hnn : 0 ≤ 1 - (2 * u1 - 1) * (2 * u1 - 1) := by
    rw [show 1 - (2 * u1 - 1) * (2 * u1 - 1) = 4 * u1 * (1 - u1) by ring]
    exact mul_nonneg (mul_nonneg (by norm_num) h0) (by linarith)
  rw [max_eq_left hnn]
  have hs := Real.mul_self_sqrt hnn
  have ht := Real.cos_sq_add_sin_sq (2 * Real.pi * u2)
  refine ⟨?_, by linarith, by linarith⟩
  linear_combination
    Real.sqrt (1 - (2 * u1 - 1) * (2 * u1 - 1)) * Real.sqrt (1 - (2 * u1 - 1) * (2 * u1 - 1)) * ht + hs

/-- the target optical depth `-log(u)` is strictly positive for every `u ∈ (0,1)`; at `u = 0`
(not excluded, see `zero_not_excluded_by_invariant`) the C++ gives `+∞`, never `≤ 0`
(evaluated on the real code by the harness) -/
theorem emit_tau_pos (u : ℝ) (h0 : 0 < u) (h1 : u < 1) : 0 < emitTau u := by
  rw [emitTau_real]; linarith [Real.log_neg h0 h1]

/-- … in particular for every non-zero value of every stream -/
theorem stream_tau_pos (seed : Int) (n : Nat) (hz : stream seed n ≠ 0) :
    0 < emitTau ((stream seed n : ℝ) / 2 ^ 48) := by
  obtain ⟨h0, h1⟩ := next_lt_one seed n
  rw [B_val] at h1
  have hp : 0 < stream seed n := by omega
  have h2 : stream seed n < 2 ^ 48 := by omega
  apply emit_tau_pos
  · exact div_pos (Int.cast_pos.mpr hp) (by positivity)
  · rw [div_lt_one (by positivity)]
    exact_mod_cast h2

-- the hypotheses of `thread_streams_differ` and of `emit_direction_unit` can be met
example : ∃ seed : Int, ∃ n : Nat, 1 ≤ seed ∧ seed + n ≤ 2147483648 ∧ 2 ≤ n := ⟨42, 8, by decide, by decide, by decide⟩
example : (0 : ℝ) ≤ 0.25 ∧ (0.25 : ℝ) < 1 := by norm_num

/-! ## ownership of the streams: positions are handed out once -/

/-- In the driver loop (one vector of generators owned by the driver, every task draws from the
generator of the thread that executes it, by reference) every thread receives the CONTIGUOUS
positions `p t, p t + 1, …` of its own stream, in order: a second task / context / iteration
continues where the first stopped — whatever the tasks, their order, their contexts, and however
many draws each takes depending on the values it sees. -/
theorem positions_contiguous (ops : List Op) (g : Nat → State) (p : Nat → Nat) (t : Nat) :
    ((runOps ops g p).filter (fun q => q.1 = t)).map Prod.snd
      = List.range' (p t) (usedBy t ops g) := by
  induction ops generalizing g p with
  | nil => rfl
  | cons o rest ih =>
    rw [runOps, usedBy, List.filter_append, List.map_append, ih, List.filter_map, List.map_map]
    by_cases e : o.thread = t
    · subst e
      simp only [Function.comp_def, decide_true, List.filter_true, upd, if_true,
        ← List.range'_eq_map_range, List.range'_append_1]
    · simp only [Function.comp_def, e, decide_false, List.filter_false, List.map_nil,
        List.nil_append, upd, if_neg (Ne.symm e), if_false, Nat.zero_add]

/-- … so no (thread, stream position) pair is handed out twice. -/
theorem positions_handed_out_once (ops : List Op) (g : Nat → State) (p : Nat → Nat) :
    (runOps ops g p).Nodup :=
  nodup_of_fibres fun t => by rw [positions_contiguous]; exact List.nodup_range'

/-- the two modelled consumers leave the caller's generator exactly as many draws further as
`runOps` books for them: `(3 + extra) * n` for a source task of `n` packets, one per packet plus
three per re-emitted packet for a re-emission task -/
theorem consumers_advance_exactly (extra n m : Nat) (thr : Int) (s : State) :
    (sourceLoop extra n s).2 = after exact s ((sourceOp 0 extra n).draws s)
    ∧ (reemitLoop thr m s).2.2 = after exact s ((reemitOp 0 thr m).draws s)
    ∧ (reemitOp 0 thr m).draws s = m + 3 * (reemitLoop thr m s).2.1.length :=
  ⟨sourceLoop_state extra n s, (reemitLoop_state thr m s).1, (reemitLoop_state thr m s).2⟩

example : runOps [sourceOp 0 1 2, reemitOp 1 5 3, sourceOp 0 1 1] (fun _ => seedState exact 42)
    (fun _ => 0) ≠ [] := by
  simp [runOps, sourceOp]

/-! ## non-vacuity -/

example : RExact exact := exact_RExact
example : ∃ s, Inv s ∧ s.ir = s.irOld :=
  ⟨{ seedState exact 42 with ir := 0 }, ⟨(seed_inv 42).bnd, (seed_inv 42).cok, by decide,
    by decide, rfl, rfl⟩, rfl⟩
example : ∃ a b : Int, 1 ≤ a ∧ a < 2147483648 ∧ 1 ≤ b ∧ b < 2147483648 ∧ a ≠ b :=
  ⟨1, 2, by decide, by decide, by decide, by decide, by decide⟩

end CMacVerif.Ranlux
