import CMacVerif.Lemmas.PhotonStart
import CMacVerif.Lemmas.PhotonProgress
import CMacVerif.Lemmas.PhotonSplit
import Mathlib.Logic.ExistsUnique
/-!
# C01 — every photon packet launched in a task-based photoionization iteration terminates exactly
once; nothing is left behind

Model: `CMacVerif/Model/PhotonProtocol.lean` (`Photon.step`: one label per committed task action,
physics outcome universally quantified; `Photon.lstep`: the worker loop of the threads).
All statements are about EVERY execution: an arbitrary list of labels (any interleaving, any number
of simultaneously running tasks / threads, any subgrid layout `cfg.ngb`, any source mix, re-emission
on or off, any packet number), started from the state at the beginning of an iteration.
-/
namespace CMacVerif.Photon
open CMacVerif.Worker (sumOver sumOver_congr sumOver_le)

/-! ## DistributedPhotonSource: the split of the requested number is exact -/

/-- `split_total`: after the constructor the per-copy totals add up to the requested number N, for
every list of sources (⌊N·wᵢ⌋, number of subgrid copies ≥ 1) with Σ⌊N·wᵢ⌋ ≤ N and whatever the
random overhead indices are -/
theorem split_total (N : Nat) (srcs : List (Nat × Nat)) (picks : List Nat) (hne : srcs ≠ [])
    (hcopies : ∀ p ∈ srcs, 0 < p.2) (hsum : sumFst srcs ≤ N) (hpicks : picks.length = N - sumFst srcs) :
    (splitTotals srcs picks).sum = N := by
  obtain ⟨hsum', hovh, hlen⟩ := splitLoop_spec srcs [] [] hcopies (by intro o ho; cases ho)
  have hpos : 0 < (splitLoop srcs ([], [])).1.length :=
    Nat.lt_of_lt_of_le (List.length_pos_iff.mpr hne) (by simpa using hlen)
  unfold splitTotals
  rw [applyPicks_sum _ picks _ hpos hovh, hsum', hpicks, List.sum_nil, Nat.zero_add]
  omega

/-- `batches_total`: the batches `get_photon_batch(i, PHOTONBUFFER_SIZE)` hands out for a source copy
add up to its total and each has between 1 and PHOTONBUFFER_SIZE packets -/
theorem batches_total (total : Nat) :
    (batches BUFSZ (total + 1) total).sum = total ∧ ∀ b ∈ batches BUFSZ (total + 1) total, 1 ≤ b ∧ b ≤ BUFSZ :=
  batches_spec BUFSZ (by decide) (total + 1) total (by omega)

/-! ## Conservation -/

/-- `conservation`: in every reachable state the requested number equals terminated packets + packets
not yet handed out by the sources + packets of queued/running source tasks + packets in the photon
buffers in use + packets in the thread-local continuous-source buffers -/
theorem conservation {cfg : Cfg} {srcIds : Nat → List Nat} {contIds : List Nat} (h0 : Start cfg srcIds contIds)
    {ls : List Label} {s : State} (hrun : run cfg (init srcIds contIds) ls = some s) :
    cfg.N = s.done.length
      + sumOver (List.range cfg.nsrc) (fun i => (s.srcLeft i).length) + s.contPool.length
      + sumOver (List.range cfg.taskCap) (fun t => taskPackets (s.tasks t))
      + sumOver (List.range cfg.bufCap) (fun b => bufLen s.pool b)
      + sumOver (pairsU cfg) (fun k => (s.cont k).length) := by
  have hr := reachable h0 hrun
  have := hr.wt (fun _ => 1)
  rw [start_total h0, weight_one] at this
  have e : sumOver (List.range cfg.taskCap) (fun t => taskW (fun _ => 1) (s.tasks t))
      = sumOver (List.range cfg.taskCap) (fun t => taskPackets (s.tasks t)) :=
    sumOver_congr (fun t _ => taskW_one _)
  rw [e] at this
  exact this.symm

/-- the done counter never exceeds the requested number -/
theorem done_le_requested {cfg : Cfg} {srcIds : Nat → List Nat} {contIds : List Nat} (h0 : Start cfg srcIds contIds)
    {ls : List Label} {s : State} (hrun : run cfg (init srcIds contIds) ls = some s) : s.done.length ≤ cfg.N := by
  have := conservation h0 hrun; omega

/-! ## Ownership -/

/-- `ownership`: every buffer in use is referenced by exactly one task or is the active buffer of
exactly one (subgrid, direction) -- never both, never two; references only point to buffers in use; a
buffer that a task refers to holds between 1 and PHOTONBUFFER_SIZE packets, an active buffer between 1
and PHOTONBUFFER_SIZE − 1 and belongs to a direction that has a neighbour -/
theorem ownership {cfg : Cfg} {srcIds : Nat → List Nat} {contIds : List Nat} (h0 : Start cfg srcIds contIds)
    {ls : List Label} {s : State} (hrun : run cfg (init srcIds contIds) ls = some s) :
    (∀ b buf, s.pool b = some buf → b < cfg.bufCap ∧ ∃! r, refBuf s r = some b) ∧
    (∀ t b, refBuf s (.task t) = some b →
        ∃ buf, s.pool b = some buf ∧ 1 ≤ buf.ids.length ∧ buf.ids.length ≤ BUFSZ) ∧
    (∀ g i b, s.active g i = some b →
        ∃ buf, s.pool b = some buf ∧ 1 ≤ buf.ids.length ∧ buf.ids.length < BUFSZ ∧ (cfg.ngb g i).isSome = true) := by
  have ho := (reachable h0 hrun).inv.own
  refine ⟨?_, ?_, ?_⟩
  · intro b buf hb
    obtain ⟨hc, r, hr⟩ := ho.owned b buf hb
    exact ⟨hc, r, hr, fun r' hr' => ho.uniq r' r b hr' hr⟩
  · intro t b hr
    obtain ⟨buf, hb, hok⟩ := ho.live _ _ hr
    exact ⟨buf, hb, List.length_pos_iff.mpr hok.1, hok.2⟩
  · intro g i b hr
    obtain ⟨buf, hb, hok⟩ := ho.live (.act g i) b hr
    exact ⟨buf, hb, List.length_pos_iff.mpr hok.1, hok.2.1, hok.2.2⟩

/-! ## Exactly once -/

/-- `exactly_once`: no packet is ever terminated twice, and once as many packets are terminated as
were requested every requested packet is terminated exactly once (and nothing else is) -/
theorem exactly_once {cfg : Cfg} {srcIds : Nat → List Nat} {contIds : List Nat} (h0 : Start cfg srcIds contIds)
    {ls : List Label} {s : State} (hrun : run cfg (init srcIds contIds) ls = some s) :
    (∀ p, s.done.count p ≤ 1) ∧
    (s.done.length = cfg.N → ∀ p, s.done.count p = if p < cfg.N then 1 else 0) :=
  done_count h0 (reachable h0 hrun)

/-! ## Termination detection is sound -/

/-- `termination_sound`: when the run flag is cleared all requested packets are terminated, no photon
buffer is in use, no subgrid has an active buffer, the sources and the continuous-source buffers are
empty and the only tasks that can still exist carry no packets (flush tasks and a continuous source
task between its last packet and its counter update -- see `nothing_left_behind` for those) -/
theorem termination_sound {cfg : Cfg} {srcIds : Nat → List Nat} {contIds : List Nat} (h0 : Start cfg srcIds contIds)
    {ls : List Label} {s : State} (hrun : run cfg (init srcIds contIds) ls = some s) (hflag : s.run = false) :
    s.done.length = cfg.N ∧ AllDone cfg s :=
  (reachable h0 hrun).terminated h0 hflag

/-- once all requested packets are terminated (in particular after the flag was cleared) no task that
carries packets or refers to a buffer exists: only flush tasks and finishing continuous source tasks.
Without a continuous source (`contIds = []`, the radiation-hydrodynamics loop) there is no such task,
so a thread can never obtain a task after the flag was cleared. -/
theorem after_termination_only_packet_free_tasks {cfg : Cfg} {srcIds : Nat → List Nat} {contIds : List Nat}
    (h0 : Start cfg srcIds contIds) {ls : List Label} {s : State} (hrun : run cfg (init srcIds contIds) ls = some s)
    (hd : s.done.length = cfg.N) :
    ∀ t tk, s.tasks t = some tk → (∃ c, tk.kind = .flush c) ∨ (∃ c n, tk.kind = .contSource c n [] ∧ tk.st = .running) :=
  (reach_allDone (reachable h0 hrun) (by rw [start_total h0]; exact hd)).tasks

/-! ## The cached largest buffer; no stuck state -/

/-- `premature_safe`: the cached (index, size) of the largest active buffer of a subgrid always
describes a real active buffer of that size, and no active buffer of the subgrid is larger; so a
premature launch never reads a missing buffer (`_buffers[NEIGHBOUR_OUTSIDE]`) and every subgrid that
has an active buffer has a non-zero cached size (it will be launched prematurely) -/
theorem premature_safe {cfg : Cfg} {srcIds : Nat → List Nat} {contIds : List Nat} (h0 : Start cfg srcIds contIds)
    {ls : List Label} {s : State} (hrun : run cfg (init srcIds contIds) ls = some s) (g : Nat) :
    ((s.largest g).1 ≠ NDIR → ∃ a buf, s.active g (s.largest g).1 = some a ∧ s.pool a = some buf ∧
        buf.ids.length = (s.largest g).2 ∧ 0 < (s.largest g).2) ∧
    (∀ d a, s.active g d = some a → (s.largest g).1 ≠ NDIR ∧ bufLen s.pool a ≤ (s.largest g).2) := by
  have hi := (reachable h0 hrun).inv
  have hcache := (reachable_invs hrun).2.1
  have hc := hcache.ok g
  refine ⟨?_, ?_⟩
  · intro hne
    obtain ⟨-, a, ha, hl⟩ := hc.attained hne
    obtain ⟨buf, hb, hok⟩ := hi.own.live (.act g _) a ha
    simp only [bufLen, hb] at hl
    exact ⟨a, buf, ha, hb, hl, by rw [← hl]; exact List.length_pos_iff.mpr hok.1⟩
  · intro d a ha
    have hb := hc.bound d a (hcache.range g d a ha) ha
    obtain ⟨buf, hp, hok⟩ := hi.own.live (.act g d) a ha
    have : 1 ≤ bufLen s.pool a := by simp only [bufLen, hp]; exact List.length_pos_iff.mpr hok.1
    refine ⟨?_, hb⟩
    intro e; have := hc.empty e; omega

/-- `no_stuck`: as long as not all requested packets are terminated some label is enabled (a task can
be taken or committed, a source batch launched, or a premature launch is possible), provided the buffer
pool and the task table are not exhausted (two free buffers, `nblocks + 1` free task slots) and the grid
has at least one subgrid / one continuous block. Termination itself (with re-emission: with probability
one) is not claimed. -/
theorem no_stuck {cfg : Cfg} {srcIds : Nat → List Nat} {contIds : List Nat} (h0 : Start cfg srcIds contIds)
    {ls : List Label} {s : State} (hrun : run cfg (init srcIds contIds) ls = some s)
    (hcap : FreeCap cfg s) (hnorig : 0 < cfg.norig) (hnb : 0 < cfg.nblocks) (hlt : s.done.length < cfg.N) :
    ∃ l, (step cfg s l).isSome = true := by
  obtain ⟨hi, hcache, hcont⟩ := reachable_invs hrun
  apply no_stuck_of hi hcache hcont hcap hnorig hnb
  have := (reachable h0 hrun).split
  rw [start_total h0] at this
  omega

/-- the continuous-source counter is exact, the buffers are flushed only when it is zero, and once
nothing will be sourced any more every non-empty thread-local buffer has a flush task -/
theorem continuous_bookkeeping {cfg : Cfg} {srcIds : Nat → List Nat} {contIds : List Nat}
    {ls : List Label} {s : State} (hrun : run cfg (init srcIds contIds) ls = some s) : ContInv cfg s :=
  (reachable_invs hrun).2.2

/-! ## The worker loop: nothing is left behind -/

/-- a task that was taken from a queue is held by exactly one thread, which executes it or is about to;
conversely a thread only holds running tasks.  Holds for the fixed loop condition
`while (global_run_flag || current_index != NO_TASK)` with any sources, and for the old condition
`while (global_run_flag)` (radiation-hydrodynamics loop) without a continuous source -/
theorem running_task_has_live_holder {cfg : Cfg} {srcIds : Nat → List Nat} {contIds : List Nat}
    (h0 : Start cfg srcIds contIds) (hloop : cfg.loopFixed = true ∨ contIds = [])
    {ls : List LLabel} {s : LState} (hrun : lrun cfg (linit srcIds contIds) ls = some s) :
    (∀ t k, s.p.tasks t = some ⟨k, .running⟩ → ∃ i, s.th i = .exec t ∨ s.th i = .top (some t)) ∧
    (∀ i t, s.th i = .exec t ∨ s.th i = .top (some t) →
      (∃ k, s.p.tasks t = some ⟨k, .running⟩) ∧ ∀ j, s.th j = .exec t ∨ s.th j = .top (some t) → j = i) := by
  obtain ⟨hi, ho⟩ := loop_reachable h0 hloop hrun
  refine ⟨hi.holder, fun i t hit => ?_⟩
  obtain ⟨h1, h2⟩ := ho.ok i t (held_eq_some.mpr hit)
  exact ⟨h1, fun j hj => h2 j (held_eq_some.mpr hj)⟩

/-- `termination_two_reads_sound`: the termination test of the worker loop reads `_buffers->is_empty()`
and `num_photon_done` at two different moments (labels `checkEmpty`, `checkYes`; other threads act in
between).  Whenever the flag is cleared nevertheless all requested packets are terminated and no buffer,
active buffer, source or continuous-buffer content exists (the stale first read cannot do harm) -/
theorem termination_two_reads_sound {cfg : Cfg} {srcIds : Nat → List Nat} {contIds : List Nat}
    (h0 : Start cfg srcIds contIds) (hloop : cfg.loopFixed = true ∨ contIds = [])
    {ls : List LLabel} {s : LState} (hrun : lrun cfg (linit srcIds contIds) ls = some s) (hflag : s.p.run = false) :
    s.p.done.length = cfg.N ∧ AllDone cfg s.p :=
  (loop_reachable h0 hloop hrun).1.reach.terminated h0 hflag

/-- `no_exit_with_task`: a thread never leaves the loop holding a task -- for the fixed loop by the loop
condition itself, for the old condition `while (global_run_flag)` because without a continuous source no
task exists any more once the flag is cleared -/
theorem no_exit_with_task {cfg : Cfg} {srcIds : Nat → List Nat} {contIds : List Nat}
    (h0 : Start cfg srcIds contIds) (hloop : cfg.loopFixed = true ∨ contIds = [])
    {ls : List LLabel} {s s' : LState} (hrun : lrun cfg (linit srcIds contIds) ls = some s)
    {i : Nat} (hstep : lstep cfg s (.topExit i) = some s') : s.th i = .top none := by
  obtain ⟨hi, ho⟩ := loop_reachable h0 hloop hrun
  obtain ⟨-, hr, h | ⟨t, hth, hf⟩⟩ := lstep_topExit hstep
  · exact h
  · exact (no_held_task_after_flag hi ho hf hr (by rw [hth]; rfl)).elim

/-- `nothing_left_behind`: when every thread has left the loop (thread ids are all of `Nat`:
every thread is `exited` or still at `start`, and at least one has exited), all requested packets are terminated exactly once and NOTHING is left for the next
iteration: no task in the task table (so no queue entry and no held lock either), no photon buffer in
use, no active buffer, nothing in the sources or in the continuous-source buffers -/
theorem nothing_left_behind {cfg : Cfg} {srcIds : Nat → List Nat} {contIds : List Nat} (h0 : Start cfg srcIds contIds)
    (hloop : cfg.loopFixed = true ∨ contIds = [])
    {ls : List LLabel} {s : LState} (hrun : lrun cfg (linit srcIds contIds) ls = some s)
    (hall : ∀ i, s.th i = .exited ∨ s.th i = .start) (hex : ∃ i, s.th i = .exited) :
    s.p.done.length = cfg.N ∧ (∀ p, s.p.done.count p = if p < cfg.N then 1 else 0) ∧
    (∀ t, s.p.tasks t = none) ∧ (∀ b, s.p.pool b = none) ∧ (∀ g i, s.p.active g i = none) ∧
    (∀ k, s.p.cont k = []) ∧ (∀ i, i < cfg.nsrc → s.p.srcLeft i = []) ∧ s.p.contPool = [] := by
  have hi := (loop_reachable h0 hloop hrun).1
  obtain ⟨i0, hi0⟩ := hex
  obtain ⟨hdN, had⟩ := hi.reach.terminated h0 (hi.exitFlag i0 hi0)
  have hno : ∀ j, ¬ Obliged (s.th j) := fun j => not_obliged_of_idle (hall j)
  refine ⟨hdN, (done_count h0 hi.reach).2 hdN, fun t => ?_, had.pool, had.active, had.cont, had.src, had.contPool⟩
  · cases ht : s.p.tasks t with
    | none => rfl
    | some tk =>
      exfalso
      cases tk with
      | mk k st =>
        cases st with
        | running =>
          obtain ⟨j, hj⟩ := hi.holder t k ht
          exact hno j (obliged_of_held (held_eq_some.mpr hj))
        | pending =>
          obtain ⟨j, hj, _⟩ := hi.owner t k ht
          exact hno j (Or.inr (Or.inl hj))
        | queued =>
          rcases had.tasks t _ ht with ⟨c, hc⟩ | ⟨c, n, _, hst⟩
          · simp only at hc; subst hc
            obtain ⟨j, hj⟩ := hi.oblig t c ht
            exact hno j hj
          · cases hst

/-! ## The task space at the start of the next iteration (with and without `--task-plot`) -/

/-- `next_iteration_starts_clean`: after the task reset `_tasks->clear()` no slot of the task space is in
use, in both life-cycle modes (tasks released when executed / `--task-plot`: nothing released during the
iteration), whatever the photon loop left -/
theorem next_iteration_starts_clean (plot : Bool) (executed : Nat → Bool) (s : State) (t : Nat) :
    spaceClear (lockedAtLoopEnd plot executed s) t = false := rfl

/-- without `--task-plot` the worker loop itself leaves no slot locked (so even the cheaper
`clear_fast` would do) ... -/
theorem loop_end_clean_without_plot {cfg : Cfg} {srcIds : Nat → List Nat} {contIds : List Nat} (h0 : Start cfg srcIds contIds)
    (hloop : cfg.loopFixed = true ∨ contIds = []) {ls : List LLabel} {s : LState} (hrun : lrun cfg (linit srcIds contIds) ls = some s)
    (hall : ∀ i, s.th i = .exited ∨ s.th i = .start) (hex : ∃ i, s.th i = .exited) (executed : Nat → Bool) (t : Nat) :
    spaceClearFast (lockedAtLoopEnd false executed s.p) t = false := by
  obtain ⟨-, -, hno, -⟩ := nothing_left_behind h0 hloop hrun hall hex
  simp [spaceClearFast, lockedAtLoopEnd, hno t]

/-- ... but with `--task-plot` `clear_fast` leaves every executed task locked for the next iteration:
the full reset is necessary there -/
theorem clear_fast_leaks_with_plot (executed : Nat → Bool) (s : State) (t : Nat) (ht : executed t = true) :
    spaceClearFast (lockedAtLoopEnd true executed s) t = true := by
  simp [spaceClearFast, lockedAtLoopEnd, ht]

/-! ## The old loop condition with a continuous source loses a task (the defect fixed by f78e960) -/

/-- one subgrid, no neighbours, a continuous source with one packet, two blocks, loop `while (global_run_flag)` -/
def oldCfg : Cfg :=
  { N := 1, nsrc := 0, srcSub := fun _ => 0, norig := 1, nblocks := 2, ngb := fun _ _ => none, o2i := fun i => i,
    reemission := false, bufCap := 2, taskCap := 5, loopFixed := false }

/-- thread 0 executes everything; thread 1 takes the (packet-free) flush task of block 1 in the else branch
of the termination test, then finds the flag cleared at the loop test -/
def oldRun : List LLabel :=
  [.main (.launchCont 0), .startPoll 0 (some 0), .topGo 0, .startPoll 1 none, .topPoll 1 none,
   .work 0 (.contGen 0 0 1), .work 0 (.contFinish 0 [1, 2]), .innerPoll 0 (some 1), .work 0 (.flushOne 1 0 0 3),
   .checkNo 1 (some 2), .work 0 (.flushFinish 1), .innerPoll 0 (some 3), .work 0 (.execTraverse 3 [1] []),
   .innerPoll 0 none, .checkEmpty 0, .checkYes 0, .topExit 0, .topExit 1]

/-- `old_loop_loses_flush_task`: with the old loop condition and a continuous source there is an execution
in which both threads have left the loop, all packets are terminated, and the flush task of block 1 is
still locked by a thread that is gone (never executed, its lock never released) -/
theorem old_loop_loses_flush_task :
    ((lrun oldCfg (linit (fun _ => []) [0]) oldRun).map fun s => (s.th 0, s.th 1, s.p.done, s.p.tasks 2))
      = some (.exited, .exited, [0], some ⟨.flush 1, .running⟩) := by decide +kernel

/-- the same schedule is impossible with the fixed loop condition: thread 1 cannot leave -/
example : lrun { oldCfg with loopFixed := true } (linit (fun _ => []) [0]) oldRun = none := by decide +kernel

/-! ## Non-vacuity: a complete small iteration (re-emission and a premature launch included) -/

/-- one subgrid without neighbours (direction INSIDE only), one source with 3 packets, re-emission on -/
def exCfg : Cfg :=
  { N := 3, nsrc := 1, srcSub := fun _ => 0, norig := 1, nblocks := 1,
    ngb := fun g i => if g = 0 ∧ i = 0 then some 0 else none, o2i := fun i => i, reemission := true,
    bufCap := 4, taskCap := 6 }

def exRun : List Label :=
  [.launchBatch 0 0, .acquire 0, .execSource 0 0 1, .enqueue 1, .acquire 1,
   -- packets 0 and 1 are absorbed (direction INSIDE, kept for re-emission), packet 2 leaves the box
   .execTraverse 1 [0, 0, 1] [⟨1, 2, 2⟩],
   -- the half-filled internal buffer is launched prematurely as a re-emission task
   .premature 0 2, .acquire 2,
   -- packet 0 is re-emitted, packet 1 is not
   .execReemit 2 [true, false] 3, .enqueue 3, .acquire 3,
   .execTraverse 3 [1] [], .checkTermination]

example : Start exCfg (fun _ => [0, 1, 2]) [] := by
  show ([0, 1, 2] ++ [] : List Nat).Perm [0, 1, 2]
  exact List.Perm.refl _

example : (run exCfg (init (fun _ => [0, 1, 2]) []) exRun).isSome = true := by decide +kernel

example : ((run exCfg (init (fun _ => [0, 1, 2]) []) exRun).map fun s => (s.done, s.run)) = some ([2, 1, 0], false) := by
  decide +kernel

/-- the same iteration executed by two threads that both run through the worker loop and leave it -/
def exLoopRun : List LLabel :=
  [.main (.launchBatch 0 0), .startPoll 0 (some 0), .startPoll 1 none, .topGo 0, .work 0 (.execSource 0 0 1), .enq 0 1,
   .innerPoll 0 (some 1), .work 0 (.execTraverse 1 [0, 0, 1] [⟨1, 2, 2⟩]), .innerPoll 0 none,
   .prem 1 0 2, .topPoll 1 (some 2), .work 1 (.execReemit 2 [true, false] 3), .enq 1 3, .innerPoll 1 (some 3),
   .work 1 (.execTraverse 3 [1] []), .innerPoll 1 none, .checkEmpty 1, .checkYes 1, .topExit 1, .checkEmpty 0, .checkYes 0, .topExit 0]

example : ((lrun exCfg (linit (fun _ => [0, 1, 2]) []) exLoopRun).map fun s => (s.th 0, s.th 1, s.p.done, s.p.run))
    = some (.exited, .exited, [2, 1, 0], false) := by decide +kernel

/-- thread 1 reads `is_empty()` (true) before anything has started and reads the done counter only after
thread 0 has processed the whole iteration: the flag is cleared on a stale first read -/
def exStaleRun : List LLabel :=
  [.main (.launchBatch 0 0), .startPoll 1 none, .topPoll 1 none, .checkEmpty 1,
   .startPoll 0 (some 0), .topGo 0, .work 0 (.execSource 0 0 1), .enq 0 1, .innerPoll 0 (some 1),
   .work 0 (.execTraverse 1 [0, 0, 1] [⟨1, 2, 2⟩]), .innerPoll 0 none, .checkNo 0 none, .prem 0 0 2, .topPoll 0 (some 2),
   .work 0 (.execReemit 2 [true, false] 3), .enq 0 3, .innerPoll 0 (some 3), .work 0 (.execTraverse 3 [1] []),
   .innerPoll 0 none, .checkYes 1, .topExit 1, .checkEmpty 0, .checkYes 0, .topExit 0]

example : ((lrun exCfg (linit (fun _ => [0, 1, 2]) []) exStaleRun).map fun s => (s.th 0, s.th 1, s.p.done, s.p.run))
    = some (.exited, .exited, [2, 1, 0], false) := by decide +kernel

/-- the capacity hypothesis of `no_stuck` is satisfiable (start of the example iteration) -/
example : FreeCap exCfg (init (fun _ => [0, 1, 2]) []) :=
  ⟨⟨0, 1, by decide, by decide, rfl, by decide, rfl⟩,
   ⟨[0, 1], rfl, by decide, fun t ht => ⟨by simp at ht; rcases ht with e | e <;> (subst e; decide), rfl⟩⟩⟩

end CMacVerif.Photon
