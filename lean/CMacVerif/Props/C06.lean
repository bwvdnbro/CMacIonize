import CMacVerif.Lemmas.IonBalance
import Mathlib.Tactic.FieldSimp
/-!
# C06 — ionization and thermal balance return a physical state

Property theorems about `Model/IonBalance.lean` instantiated at `ℝ` (exact arithmetic;
`x / 0 = 0` and `√x = 0` for `x < 0` in Lean: where a theorem has a hypothesis that keeps a divisor
or a radicand positive, that is why, and the check evaluates the real code at the excluded points;
the range theorems without one, `h0_range` and `hHe_solve_range_checked` at `alphaH = 0`, are about
the model at `ℝ` there).

Convergence of the H/He fixed point within 20 iterations (no `cmac_error`) is NOT a theorem: it
is searched on the implementation by the correspondence run.
-/
namespace CMacVerif.IonBalance
open CMacVerif

/-- For every input — including zero or negative rates, where the C++ produces `inf`/`-0` —
the returned neutral fraction lies between the floor and 1. -/
theorem h0_range (alphaH jH nH : ℝ) :
    1e-14 ≤ h0Hydrogen alphaH jH nH ∧ h0Hydrogen alphaH jH nH ≤ 1 := by
  by_cases h : 0 < jH ∧ 0 < nH
  · rw [h0Hydrogen_of_pos alphaH jH nH h.1 h.2]
    exact h0Core_range _
  · rw [h0Hydrogen_neutral alphaH jH nH h]; norm_num

/-- In the square-root branch (`bb ≥ 1e-10`, i.e. `C = jH/(nH alphaH) ≤ 4e10`) the result is
above the floor and solves the balance equation of the code's comment,
`x² − (2 + C) x + 1 = 0`, exactly. -/
theorem h0_solves_balance (alphaH jH nH : ℝ) (ha : 0 < alphaH) (hj : 0 < jH) (hn : 0 < nH)
    (hC : jH / (nH * alphaH) ≤ 4e10) :
    1e-14 < h0Hydrogen alphaH jH nH ∧
    h0Hydrogen alphaH jH nH ^ 2 - (2 + jH / (nH * alphaH)) * h0Hydrogen alphaH jH nH + 1 = 0 := by
  have hC0 : 0 < jH / (nH * alphaH) := div_pos hj (mul_pos hn ha)
  obtain ⟨e, hx⟩ := h0Core_small hC0 hC
  rw [h0Hydrogen_of_pos alphaH jH nH hj hn, e]
  exact ⟨hx, (xOf_isRoot hC0).eq⟩

/-- In the Taylor branch (`C > 4e10`) the result is `max(1e-14, 1/C)`; above the floor the
balance equation holds up to `2/C < 0.5e-10` (the equation's constant term is 1). -/
theorem h0_taylor_residual (alphaH jH nH : ℝ) (hj : 0 < jH) (hn : 0 < nH)
    (hC : 4e10 < jH / (nH * alphaH)) :
    h0Hydrogen alphaH jH nH = max 1e-14 (1 / (jH / (nH * alphaH))) ∧
    (1e-14 < h0Hydrogen alphaH jH nH →
      |h0Hydrogen alphaH jH nH ^ 2 - (2 + jH / (nH * alphaH)) * h0Hydrogen alphaH jH nH + 1|
        ≤ 0.5e-10) := by
  rw [h0Hydrogen_of_pos alphaH jH nH hj hn, h0Core_large hC]
  refine ⟨rfl, fun hfl => ?_⟩
  rw [max_eq_right ((lt_max_iff.mp hfl).resolve_left (lt_irrefl _)).le]
  refine le_trans (taylor_residual (le_trans (by norm_num) hC.le)) ?_
  rw [show (0.5e-10:ℝ) = 2 / 4e10 by norm_num]
  exact div_le_div_of_nonneg_left zero_le_two (by norm_num) hC.le

/-- The neutral fraction decreases with the radiation field: for EVERY pair `jH ≤ jH'`
(including `jH = 0`) up to the relative jump `0.5e-10` that the code's switch to the Taylor
expansion at `C = 4e10` introduces (see `h0_switch_not_antitone`). -/
theorem h0_antitone_J (alphaH nH jH jH' : ℝ) (ha : 0 < alphaH) (hj : 0 ≤ jH) (hjj : jH ≤ jH') :
    h0Hydrogen alphaH jH' nH ≤ (1 + 0.5e-10) * h0Hydrogen alphaH jH nH := by
  by_cases hn : 0 < nH
  · rcases eq_or_lt_of_le hj with h0 | hpos
    · rw [h0Hydrogen_neutral alphaH jH nH (by rw [← h0]; simp)]
      linarith [(h0_range alphaH jH' nH).2]
    · rw [h0Hydrogen_of_pos alphaH jH nH hpos hn,
        h0Hydrogen_of_pos alphaH jH' nH (lt_of_lt_of_le hpos hjj) hn]
      exact h0Core_antitone (div_pos hpos (mul_pos hn ha))
        (div_le_div_of_nonneg_right hjj (mul_pos hn ha).le)
  · rw [h0Hydrogen_neutral alphaH jH nH (fun h => hn h.2),
      h0Hydrogen_neutral alphaH jH' nH (fun h => hn h.2)]
    norm_num

/-- Strict antitonicity in `J`; the extra hypothesis excludes only pairs that straddle the
Taylor switch with `C' < C + 2` (`C = jH/(nH alphaH)`). -/
theorem h0_antitone_J_strict_partial (alphaH nH jH jH' : ℝ) (ha : 0 < alphaH) (hn : 0 < nH)
    (hj : 0 < jH) (hjj : jH ≤ jH')
    (hs : 4e10 < jH' / (nH * alphaH) →
      4e10 < jH / (nH * alphaH) ∨ jH / (nH * alphaH) + 2 ≤ jH' / (nH * alphaH)) :
    h0Hydrogen alphaH jH' nH ≤ h0Hydrogen alphaH jH nH := by
  rw [h0Hydrogen_of_pos alphaH jH nH hj hn,
    h0Hydrogen_of_pos alphaH jH' nH (lt_of_lt_of_le hj hjj) hn]
  exact h0Core_antitone_exact (div_pos hj (mul_pos hn ha))
    (div_le_div_of_nonneg_right hjj (mul_pos hn ha).le) hs

/-- Strict monotonicity across the Taylor switch is FALSE for the code as written: with
`n α = 1`, going from `J = 4e10` (square-root branch) to `J = 4e10 + 1` (Taylor branch)
increases the neutral fraction (by a relative 5e-11). -/
theorem h0_switch_not_antitone :
    h0Hydrogen (1:ℝ) 4e10 1 < h0Hydrogen (1:ℝ) (4e10 + 1) 1 := by
  rw [(h0_taylor_residual 1 (4e10 + 1) 1 (by norm_num) one_pos (by norm_num)).1,
    h0Hydrogen_of_pos 1 4e10 1 (by norm_num) one_pos, mul_one, div_one, div_one,
    (h0Core_small (by norm_num) le_rfl).1]
  exact lt_of_lt_of_le ((xOf_isRoot (by norm_num)).lt_inv_succ (by norm_num))
    (le_max_right _ _)

/-- The neutral fraction increases with density × recombination rate (same caveat). -/
theorem h0_monotone_nalpha (alphaH nH alphaH' nH' jH : ℝ) (ha : 0 < alphaH) (hn : 0 < nH)
    (ha' : 0 < alphaH') (hn' : 0 < nH') (hle : nH * alphaH ≤ nH' * alphaH') :
    h0Hydrogen alphaH jH nH ≤ (1 + 0.5e-10) * h0Hydrogen alphaH' jH nH' := by
  by_cases hj : 0 < jH
  · rw [h0Hydrogen_of_pos alphaH jH nH hj hn, h0Hydrogen_of_pos alphaH' jH nH' hj hn']
    exact h0Core_antitone (div_pos hj (mul_pos hn' ha'))
      (div_le_div_of_nonneg_left hj.le (mul_pos hn ha) hle)
  · rw [h0Hydrogen_neutral alphaH jH nH (fun h => hj h.1),
      h0Hydrogen_neutral alphaH' jH nH' (fun h => hj h.1)]
    norm_num

/-- strict form, away from the Taylor switch -/
theorem h0_monotone_nalpha_strict_partial (alphaH nH alphaH' nH' jH : ℝ) (ha : 0 < alphaH)
    (hn : 0 < nH) (ha' : 0 < alphaH') (hn' : 0 < nH') (hj : 0 < jH)
    (hle : nH * alphaH ≤ nH' * alphaH')
    (hs : 4e10 < jH / (nH * alphaH) →
      4e10 < jH / (nH' * alphaH') ∨ jH / (nH' * alphaH') + 2 ≤ jH / (nH * alphaH)) :
    h0Hydrogen alphaH jH nH ≤ h0Hydrogen alphaH' jH nH' := by
  rw [h0Hydrogen_of_pos alphaH jH nH hj hn, h0Hydrogen_of_pos alphaH' jH nH' hj hn']
  exact h0Core_antitone_exact (div_pos hj (mul_pos hn' ha'))
    (div_le_div_of_nonneg_left hj.le (mul_pos hn ha) hle) hs

/-- non-vacuity: the hypotheses of `h0_solves_balance` are satisfiable (typical H II region) -/
example : ∃ a j n : ℝ, 0 < a ∧ 0 < j ∧ 0 < n ∧ j / (n * a) ≤ 4e10 :=
  ⟨4e-19, 1e-8, 1e8, by norm_num, by norm_num, by norm_num, by norm_num⟩

/-- every hypothesis of `metals_range`: non-negative numerators and positive denominators of
the twelve stage ratios (where Lean's `x/0 = 0` and IEEE's `x/0 = inf/NaN` agree) -/
structure MetalHyp (m : MetalIn ℝ) : Prop where
  jCp1 : 0 ≤ m.jCp1
  jCp2 : 0 ≤ m.jCp2
  jNn : 0 ≤ m.jNn
  jNp1 : 0 ≤ m.jNp1
  jNp2 : 0 ≤ m.jNp2
  jOn : 0 ≤ m.jOn
  jOp1 : 0 ≤ m.jOp1
  jNen : 0 ≤ m.jNen
  jNep1 : 0 ≤ m.jNep1
  jSp1 : 0 ≤ m.jSp1
  jSp2 : 0 ≤ m.jSp2
  jSp3 : 0 ≤ m.jSp3
  nhp : 0 ≤ m.nhp
  iNnH : 0 ≤ m.iNnH
  iOnH : 0 ≤ m.iOnH
  dC21 : 0 < m.ne * m.aCp1
  dC32 : 0 < m.ne * m.aCp2 + m.nh0 * m.rCp2H + m.nhe0 * m.rCp2He
  dN21 : 0 < m.ne * m.aNn + m.nh0 * m.rNnH
  dN32 : 0 < m.ne * m.aNp1 + m.nh0 * m.rNp1H + m.nhe0 * m.rNp1He
  dN43 : 0 < m.ne * m.aNp2 + m.nh0 * m.rNp2H + m.nhe0 * m.rNp2He
  dO21 : 0 < m.ne * m.aOn + m.nh0 * m.rOnH
  dO32 : 0 < m.ne * m.aOp1 + m.nh0 * m.rOp1H + m.nhe0 * m.rOp1He
  dNe21 : 0 < m.ne * m.aNen
  dNe32 : 0 < m.ne * m.aNep1 + m.nh0 * m.rNep1H + m.nhe0 * m.rNep1He
  dS21 : 0 < m.ne * m.aSp1 + m.nh0 * m.rSp1H
  dS32 : 0 < m.ne * m.aSp2 + m.nh0 * m.rSp2H + m.nhe0 * m.rSp2He
  dS43 : 0 < m.ne * m.aSp3 + m.nh0 * m.rSp3H + m.nhe0 * m.rSp3He

/-- Given non-negative intensities / charge-transfer ionization and positive denominators,
every ionic fraction computed by `compute_ionization_states_metals` lies in `[0,1]` and the
tracked stages of each element sum to at most 1. -/
theorem metals_range (m : MetalIn ℝ) (h : MetalHyp m) : (metalFractions m).ok :=
  ⟨chain2_ok (div_nonneg h.jCp1 h.dC21.le) (div_nonneg h.jCp2 h.dC32.le),
    chain3_ok (div_nonneg (add_nonneg h.jNn (mul_nonneg h.nhp h.iNnH)) h.dN21.le)
      (div_nonneg h.jNp1 h.dN32.le) (div_nonneg h.jNp2 h.dN43.le),
    chain2_ok (div_nonneg (add_nonneg h.jOn (mul_nonneg h.nhp h.iOnH)) h.dO21.le)
      (div_nonneg h.jOp1 h.dO32.le),
    chain2_ok (div_nonneg h.jNen h.dNe21.le) (div_nonneg h.jNep1 h.dNe32.le),
    chain3_ok (div_nonneg h.jSp1 h.dS21.le) (div_nonneg h.jSp2 h.dS32.le)
      (div_nonneg h.jSp3 h.dS43.le)⟩

/-- what the callers supply: non-negative intensities, densities and charge-transfer rates,
free electrons (`ne > 0`) and positive radiative recombination rates -/
structure RatesHyp (m : MetalIn ℝ) : Prop where
  j : 0 ≤ m.jCp1 ∧ 0 ≤ m.jCp2 ∧ 0 ≤ m.jNn ∧ 0 ≤ m.jNp1 ∧ 0 ≤ m.jNp2 ∧ 0 ≤ m.jOn ∧ 0 ≤ m.jOp1 ∧
    0 ≤ m.jNen ∧ 0 ≤ m.jNep1 ∧ 0 ≤ m.jSp1 ∧ 0 ≤ m.jSp2 ∧ 0 ≤ m.jSp3
  a : 0 < m.aCp1 ∧ 0 < m.aCp2 ∧ 0 < m.aNn ∧ 0 < m.aNp1 ∧ 0 < m.aNp2 ∧ 0 < m.aOn ∧ 0 < m.aOp1 ∧
    0 < m.aNen ∧ 0 < m.aNep1 ∧ 0 < m.aSp1 ∧ 0 < m.aSp2 ∧ 0 < m.aSp3
  ct : 0 ≤ m.rCp2H ∧ 0 ≤ m.rCp2He ∧ 0 ≤ m.iNnH ∧ 0 ≤ m.rNnH ∧ 0 ≤ m.rNp1H ∧ 0 ≤ m.rNp1He ∧
    0 ≤ m.rNp2H ∧ 0 ≤ m.rNp2He ∧ 0 ≤ m.iOnH ∧ 0 ≤ m.rOnH ∧ 0 ≤ m.rOp1H ∧ 0 ≤ m.rOp1He ∧
    0 ≤ m.rNep1H ∧ 0 ≤ m.rNep1He ∧ 0 ≤ m.rSp1H ∧ 0 ≤ m.rSp2H ∧ 0 ≤ m.rSp2He ∧ 0 ≤ m.rSp3H ∧
    0 ≤ m.rSp3He

theorem metalHyp_of_rates (m : MetalIn ℝ) (h : RatesHyp m) (hne : 0 < m.ne) (hnh0 : 0 ≤ m.nh0)
    (hnhe0 : 0 ≤ m.nhe0) (hnhp : 0 ≤ m.nhp) : MetalHyp m := by
  obtain ⟨j1, j2, j3, j4, j5, j6, j7, j8, j9, j10, j11, j12⟩ := h.j
  obtain ⟨a1, a2, a3, a4, a5, a6, a7, a8, a9, a10, a11, a12⟩ := h.a
  obtain ⟨c1, c2, c3, c4, c5, c6, c7, c8, c9, c10, c11, c12, c13, c14, c15, c16, c17, c18, c19⟩ :=
    h.ct
  exact
    { jCp1 := j1, jCp2 := j2, jNn := j3, jNp1 := j4, jNp2 := j5, jOn := j6, jOp1 := j7, jNen := j8,
      jNep1 := j9, jSp1 := j10, jSp2 := j11, jSp3 := j12, nhp := hnhp, iNnH := c3, iOnH := c9,
      dC21 := mul_pos hne a1, dC32 := den3_pos hne a2 hnh0 c1 hnhe0 c2,
      dN21 := den2_pos hne a3 hnh0 c4, dN32 := den3_pos hne a4 hnh0 c5 hnhe0 c6,
      dN43 := den3_pos hne a5 hnh0 c7 hnhe0 c8, dO21 := den2_pos hne a6 hnh0 c10,
      dO32 := den3_pos hne a7 hnh0 c11 hnhe0 c12, dNe21 := mul_pos hne a8,
      dNe32 := den3_pos hne a9 hnh0 c13 hnhe0 c14, dS21 := den2_pos hne a10 hnh0 c15,
      dS32 := den3_pos hne a11 hnh0 c16 hnhe0 c17, dS43 := den3_pos hne a12 hnh0 c18 hnhe0 c19 }

/-- with the densities filled in (IonizationStateCalculator.cpp 132-137, 177-182) -/
theorem metals_withDensities_ok (m : MetalIn ℝ) (h : RatesHyp m) (ntot aHe h0 he0 : ℝ)
    (hn : 0 ≤ ntot) (hA : 0 ≤ aHe) (hh0 : 0 ≤ h0 ∧ h0 ≤ 1) (hhe0 : 0 ≤ he0)
    (hne : 0 < (withDensities m ntot aHe h0 he0).ne) :
    (metalFractions (withDensities m ntot aHe h0 he0)).ok := by
  -- `withDensities` leaves the intensities and rates of `m` untouched
  refine metals_range _ (metalHyp_of_rates _ ⟨h.j, h.a, h.ct⟩ hne (mul_nonneg hn hh0.1)
    (mul_nonneg (mul_nonneg hn hhe0) hA) ?_)
  show 0 ≤ ntot * (1.0 - h0)
  rw [lit1]
  exact mul_nonneg hn (sub_nonneg.2 hh0.2)

/-- The metals of one cell of `calculate_ionization_state` (with the `ne > 0` guard): for
neutral fractions in `[0,1]`, non-negative density and He abundance and physical rates the
result is physical — no hypothesis on the electron density is left. -/
theorem cell_metals_range (m : MetalIn ℝ) (h : RatesHyp m) (ntot aHe h0 he0 : ℝ)
    (hn : 0 ≤ ntot) (hA : 0 ≤ aHe) (hh0 : 0 ≤ h0 ∧ h0 ≤ 1) (hhe0 : 0 ≤ he0 ∧ he0 ≤ 1) :
    (cellMetals m ntot aHe h0 he0).ok := by
  unfold cellMetals
  dsimp only
  split_ifs with hne
  · exact metals_withDensities_ok m h ntot aHe h0 he0 hn hA hh0 hhe0.1 (by rwa [lit0] at hne)
  · unfold MetalOut.ok constMetals Frac2.ok Frac3.ok
    norm_num

/-- non-vacuity of `MetalHyp` -/
example : ∃ m : MetalIn ℝ, MetalHyp m := by
  refine ⟨⟨1, 1, 1, 1, 1, 1, 1, 1, 1, 1, 1, 1, 1, 1, 1, 1, 1, 1, 1, 1, 1, 1, 1, 1, 1, 1, 1, 1, 1, 1,
    1, 1, 1, 1, 1, 1, 1, 1, 1, 1, 1, 1, 1, 1, 1, 1, 1⟩, ?_⟩
  constructor <;> norm_num

/-- If the previous iterates satisfy `0 < h0 < 1`, `he0 ≤ 1`, the coefficients are non-negative
and the effective hydrogen coefficient `ch` of this body (line 741) is non-negative, then
the new iterates lie in `[0,1]`, with or without the averaging applied after 10 iterations.

PARTIAL: nothing is proved about `ch ≥ 0` for the shipped tables, about convergence within 20
iterations, or therefore about the absence of the `cmac_error`; these are searched. -/
theorem hHe_iterate_range_partial (c : HHeCoef ℝ) (niter : Nat) (s : HHeState ℝ)
    (hche : 0 ≤ c.che) (hA : 0 ≤ c.aHe) (hh : 0 < s.h0 ∧ s.h0 < 1) (hhe : s.he0 ≤ 1)
    (hch : 0 ≤ chIter c s) :
    (0 ≤ (hHeIterate c niter s).h0 ∧ (hHeIterate c niter s).h0 ≤ 1) ∧
    (0 ≤ (hHeIterate c niter s).he0 ∧ (hHeIterate c niter s).he0 ≤ 1) := by
  have he := heNew_range c.che c.aHe s.h0 hche hA hh.2.le
  have hh' := hNew_range (chIter c s) c.aHe (heNew c.che c.aHe s.h0) hch hA he.2
  have hold : 0 ≤ he0oldOf s.he0 ∧ he0oldOf s.he0 ≤ 1 := by
    unfold he0oldOf
    rw [lit0]
    split_ifs with h
    · exact ⟨h.le, hhe⟩
    · exact ⟨le_refl 0, zero_le_one⟩
  unfold hHeIterate
  split_ifs with hn
  · exact ⟨half_sum_range hh' ⟨hh.1.le, hh.2.le⟩, half_sum_range he hold⟩
  · exact ⟨hh', he⟩

/-- if no executed body left the premise, every iterate — hence the result, converged or
not — lies in `[0,1]²` -/
theorem hHeLoop_range (c : HHeCoef ℝ) (hche : 0 ≤ c.che) (hA : 0 ≤ c.aHe) :
    ∀ (fuel niter : Nat) (cn : Bool) (s : HHeState ℝ),
      (0 ≤ s.h0 ∧ s.h0 ≤ 1) → (0 ≤ s.he0 ∧ s.he0 ≤ 1) →
      (hHeLoop c fuel niter cn s).offDom = false →
      (0 ≤ (hHeLoop c fuel niter cn s).h0 ∧ (hHeLoop c fuel niter cn s).h0 ≤ 1) ∧
      (0 ≤ (hHeLoop c fuel niter cn s).he0 ∧ (hHeLoop c fuel niter cn s).he0 ≤ 1) := by
  intro fuel
  induction fuel with
  | zero =>
    intro niter cn s h1 h2 _
    unfold hHeLoop
    split_ifs <;> exact ⟨h1, h2⟩
  | succ f ih =>
    intro niter cn s h1 h2 hoff
    unfold hHeLoop at hoff ⊢
    split_ifs at hoff ⊢ with hc
    · have p := (Bool.or_eq_false_iff.mp (hHeLoop_offDom_false c _ _ _ _ hoff)).2
      simp only [bodyOff, Bool.not_eq_false', decide_eq_true_eq, lit0, lit1] at p
      have hr := hHe_iterate_range_partial c (niter + 1) s hche hA ⟨p.1, p.2.1⟩ h2.2 p.2.2
      exact ih (niter + 1) _ _ hr.1 hr.2 hoff
    · exact ⟨h1, h2⟩

/-- The whole solve under a CHECKED premise.  `offDom` is computed by the model itself (and so by
the bit-identical `Float` run on every generated case): it is `false` iff every executed loop body
started with `0 < h0old < 1` and `ch ≥ 0`, the hypotheses of `hHe_iterate_range_partial`.  Whenever
the flag is `false` the result of `compute_ionization_states_hydrogen_helium` — converged or not —
lies in `[0,1]²`, for all non-negative rates, density and abundance and every temperature.

PARTIAL in what it leaves open: that the flag stays `false` for the shipped tables on the whole
domain, and that the loop exits before the 21st body, remain searched. -/
theorem hHe_solve_range_checked (alphaH alphaHe jH jHe nH aHe T : ℝ) (h1 : 0 ≤ alphaH)
    (h2 : 0 ≤ alphaHe) (h3 : 0 ≤ nH) (h4 : 0 ≤ aHe)
    (hoff : (hHeSolve alphaH alphaHe jH jHe nH aHe T).offDom = false) :
    (0 ≤ (hHeSolve alphaH alphaHe jH jHe nH aHe T).h0 ∧
      (hHeSolve alphaH alphaHe jH jHe nH aHe T).h0 ≤ 1) ∧
    (0 ≤ (hHeSolve alphaH alphaHe jH jHe nH aHe T).he0 ∧
      (hHeSolve alphaH alphaHe jH jHe nH aHe T).he0 ≤ 1) := by
  unfold hHeSolve at hoff ⊢
  split_ifs at hoff ⊢ with hj
  · norm_num
  · have hj0 : 0 ≤ jH := le_trans (by norm_num) (not_lt.mp hj)
    have hche : 0 ≤ (hHeCoef alphaH alphaHe jH jHe nH aHe T).che := by
      show 0 ≤ (if (0.0:ℝ) < jHe then alphaHe * nH / jHe else 0.0)
      rw [lit0]
      split_ifs with h
      · exact div_nonneg (mul_nonneg h2 h3) h.le
      · exact le_rfl
    have hi := hHeInit_range (hHeCoef alphaH alphaHe jH jHe nH aHe T)
      (div_nonneg (mul_nonneg h1 h3) hj0)
    exact hHeLoop_range _ hche h4 20 0 false _ hi.1 hi.2 hoff

/-- non-vacuity: the shortcut `jH < 1e-20` never raises the flag -/
example : (hHeSolve (1:ℝ) 1 0 0 1 0.1 8000).offDom = false := by
  unfold hHeSolve; norm_num

/-- non-vacuity: a state and coefficients satisfying every hypothesis (`ch2 = 0`) -/
example : ∃ (c : HHeCoef ℝ) (s : HHeState ℝ), 0 ≤ c.che ∧ 0 ≤ c.aHe ∧ (0 < s.h0 ∧ s.h0 < 1) ∧
    s.he0 ≤ 1 ∧ 0 ≤ chIter c s := by
  refine ⟨⟨1, 0, 1, 0.1, 10000⟩, ⟨0.5, 0.5, 0.6, 0.6⟩, by norm_num, by norm_num, by norm_num,
    by norm_num, ?_⟩
  simp only [chIter, chOf, zero_mul, zero_div, sub_zero]
  exact zero_le_one

/-- For EVERY balance function `bal` (heating, cooling and H/He fractions as arbitrary functions
of the temperature), every convergence tolerance and every iteration limit, a call of
`calculate_temperature` that returns leaves the cell at 500 K or between
`min(T_min_ionized, initial guess)` and 30000 K (initial guess = stored temperature if above
4000 K, else 8000 K; it only matters when no loop body runs), and at or above `T_min_ionized`
as soon as one loop body ran. -/
theorem temperature_range {M : Type} (bal : ℝ → ℝ → Bal ℝ M) (i : TempIn ℝ M)
    (htmin : i.tmin ≤ 30000) (hna : (temperatureCell bal i).abort = false) :
    (temperatureCell bal i).T = 500 ∨
    (min i.tmin (tempInit i.Told) ≤ (temperatureCell bal i).T ∧
      (temperatureCell bal i).T ≤ 30000) ∧
    ((temperatureCell bal i).niter ≥ 1 → i.tmin ≤ (temperatureCell bal i).T) := by
  rcases temperatureCell_cases bal i hna with ⟨tag, h⟩ | h
  · left; rw [h i.met0]; norm_num
  · rw [h i.met0]
    exact tempMain_range _ i htmin

/-- as soon as one loop body has been executed: 500 K or `[T_min_ionized, 30000 K]` -/
theorem temperature_range_iterated {M : Type} (bal : ℝ → ℝ → Bal ℝ M) (i : TempIn ℝ M)
    (htmin : i.tmin ≤ 30000) (hna : (temperatureCell bal i).abort = false)
    (hit : (temperatureCell bal i).niter ≥ 1) :
    (temperatureCell bal i).T = 500 ∨
    (i.tmin ≤ (temperatureCell bal i).T ∧ (temperatureCell bal i).T ≤ 30000) := by
  rcases temperature_range bal i htmin hna with h | ⟨⟨_, h2⟩, h3⟩
  · exact Or.inl h
  · exact Or.inr ⟨h3 hit, h2⟩

/-- with a minimum ionized temperature of at most 4000 K (the default is 4000 K) the documented
bounds hold for every call, iterated or not -/
theorem temperature_range_default {M : Type} (bal : ℝ → ℝ → Bal ℝ M) (i : TempIn ℝ M)
    (htmin : i.tmin ≤ 4000) (hna : (temperatureCell bal i).abort = false) :
    (temperatureCell bal i).T = 500 ∨
    (i.tmin ≤ (temperatureCell bal i).T ∧ (temperatureCell bal i).T ≤ 30000) := by
  rcases temperature_range bal i (by linarith) hna with h | ⟨⟨h1, h2⟩, _⟩
  · exact Or.inl h
  · refine Or.inr ⟨?_, h2⟩
    have := tempInit_gt i.Told
    rwa [min_eq_left (by linarith)] at h1

/-- non-vacuity: a call that does not abort exists (no cosmic rays, so no H/He pre-solve) -/
example : ∃ (i : TempIn ℝ Unit), i.tmin ≤ 4000 ∧
    (temperatureCell (fun _ T => ⟨0.5, 0.5, T, 1, ()⟩) i).abort = false := by
  refine ⟨⟨1, 1, 1, 1, 8000, 0.1, 0, -1, 0.75, 0.001, 4000, 3, 1, 1, ()⟩, by norm_num, ?_⟩
  unfold temperatureCell
  dsimp only
  have hcr : ¬ ((0.0:ℝ) < crfacEff (0:ℝ) (-1)) := by unfold crfacEff; norm_num
  simp only [crPre, hcr, if_false, false_and]
  split_ifs
  · rfl
  · exact absurd ‹False› id
  · rfl

/-- `std::max(loss, 0.)`, `std::max(gain, 0.)`: for EVERY input (also NaN-free garbage: zero or
negative densities, rates, any line cooling function) heating and cooling are non-negative. -/
theorem balance_nonneg (p : BalParams ℝ) (r : BalRates ℝ) (L : ℝ → ℝ → Abund ℝ → ℝ) (T : ℝ) :
    0 ≤ (balModel p r L T).bal.gain ∧ 0 ≤ (balModel p r L T).bal.loss := by
  unfold balModel
  simp only [amax_real, lit0]
  exact ⟨le_max_right _ _, le_max_right _ _⟩

/-- the abundances handed to the line cooling routine are non-negative and at most the element
abundance whenever the coolant fractions are physical -/
theorem abund_range (p : BalParams ℝ) (f : MetalOut ℝ) (hf : f.ok)
    (hC : 0 ≤ p.aC) (hN : 0 ≤ p.aN) (hO : 0 ≤ p.aO) (hNe : 0 ≤ p.aNe) (hS : 0 ≤ p.aS) :
    let a := abundOf p f
    (0 ≤ a.cII ∧ a.cII ≤ p.aC) ∧ (0 ≤ a.cIII ∧ a.cIII ≤ p.aC) ∧ (0 ≤ a.nI ∧ a.nI ≤ p.aN) ∧
    (0 ≤ a.nII ∧ a.nII ≤ p.aN) ∧ (0 ≤ a.nIII ∧ a.nIII ≤ p.aN) ∧ (0 ≤ a.oI ∧ a.oI ≤ p.aO) ∧
    (0 ≤ a.oII ∧ a.oII ≤ p.aO) ∧ (0 ≤ a.oIII ∧ a.oIII ≤ p.aO) ∧ (0 ≤ a.neII ∧ a.neII ≤ p.aNe) ∧
    (0 ≤ a.neIII ∧ a.neIII ≤ p.aNe) ∧ (0 ≤ a.sII ∧ a.sII ≤ p.aS) ∧ (0 ≤ a.sIII ∧ a.sIII ≤ p.aS) ∧
    (0 ≤ a.sIV ∧ a.sIV ≤ p.aS) := by
  obtain ⟨hc, hn, ho, hne, hs⟩ := hf
  exact ⟨scaled_range hC hc.rest, scaled_range hC hc.f1, scaled_range hN hn.rest,
    scaled_range hN hn.f1, scaled_range hN hn.f2, scaled_range hO ho.rest, scaled_range hO ho.f1,
    scaled_range hO ho.f2, scaled_range hNe hne.f1, scaled_range hNe hne.f2,
    scaled_range hS hs.rest, scaled_range hS hs.f1, scaled_range hS hs.f2⟩

/-- The balance function returns a physical state whenever its H/He solve does: if the neutral
fractions returned by `compute_ionization_states_hydrogen_helium` at this temperature lie in
`[0,1]` (searched, not proved: see `hHe_iterate_range_partial`), the density is positive, the He
abundance non-negative and the rates physical, then either hydrogen is entirely neutral or all
coolant fractions are in `[0,1]` with stage sums ≤ 1 (the electron density is then positive,
which is what the unguarded call of the metal balance at lines 343-345 needs). -/
theorem balModel_ok (p : BalParams ℝ) (r : BalRates ℝ) (L : ℝ → ℝ → Abund ℝ → ℝ) (T : ℝ)
    (hn : 0 < p.n) (hA : 0 ≤ p.aHe) (hr : RatesHyp r.m)
    (hh : 0 ≤ (hHeSolve r.alphaH r.alphaHe p.jH p.jHe p.n p.aHe T).h0 ∧
      (hHeSolve r.alphaH r.alphaHe p.jH p.jHe p.n p.aHe T).h0 ≤ 1)
    (hhe : 0 ≤ (hHeSolve r.alphaH r.alphaHe p.jH p.jHe p.n p.aHe T).he0 ∧
      (hHeSolve r.alphaH r.alphaHe p.jH p.jHe p.n p.aHe T).he0 ≤ 1) :
    BalOK (balModel p r L T).bal := by
  refine ⟨hh, hhe, ?_⟩
  rcases eq_or_lt_of_le hh.2 with h1 | h1
  · exact Or.inl h1
  · refine Or.inr (metals_withDensities_ok r.m hr p.n p.aHe _ _ hn.le hA hh hhe.1 ?_)
    show 0 < p.n * (1.0 - _ + p.aHe * (1.0 - _))
    rw [lit1]
    exact mul_pos hn (add_pos_of_pos_of_nonneg (sub_pos.2 h1) (mul_nonneg hA (sub_nonneg.2 hhe.2)))

/-- the physical cell state after `calculate_temperature` -/
def OutOK (r : TempOut ℝ (MetalOut ℝ)) : Prop :=
  (0 ≤ r.h0 ∧ r.h0 ≤ 1) ∧ (0 ≤ r.he0 ∧ r.he0 ≤ 1) ∧ (r.metZero = false → r.met.ok)

/-- the resets of lines 833-917 turn the loop invariant into the physical cell state -/
theorem tempFinish_ok (i : TempIn ℝ (MetalOut ℝ)) (s : TState ℝ (MetalOut ℝ)) (k : Nat)
    (h : StateOK s) : OutOK (tempFinish i s k) := by
  obtain ⟨a1, a2, a3⟩ := h
  refine ⟨ite_one_range a1, ite_one_range a2, fun hz => ?_⟩
  simp only [tempFinish, Bool.or_eq_false_iff, decide_eq_false_iff_not, feq_real] at hz
  obtain ⟨z1, z2⟩ := hz
  split_ifs at z1 z2 with hm
  · exact absurd rfl z1
  · rcases a3 with h | h | h
    · exact absurd (h.trans lit1.symm) z1
    · exact absurd (le_of_le_of_eq h (by norm_num)) z2
    · exact h

/-- For EVERY balance function whose evaluations are physical (`BalOK`: fractions in `[0,1]`,
coolants physical unless hydrogen is entirely neutral), every tolerance, iteration limit and
previous cell content, a call of `calculate_temperature` that returns leaves H and He neutral
fractions in `[0,1]` and coolant fractions that are either reset to zero or physical (each in
`[0,1]`, stage sums ≤ 1) — through every special case, clamp and reset of lines 578-917. -/
theorem temperature_state_physical (bal : ℝ → ℝ → Bal ℝ (MetalOut ℝ))
    (hb : ∀ c T, BalOK (bal c T)) (i : TempIn ℝ (MetalOut ℝ))
    (hna : (temperatureCell bal i).abort = false) : OutOK (temperatureCell bal i) := by
  rcases temperatureCell_cases bal i hna with ⟨tag, h⟩ | h
  · rw [h i.met0]; unfold OutOK; norm_num
  · rw [h i.met0, tempMain_eq]
    refine tempFinish_ok i _ _ ?_
    rcases tempLoop_of_step _ i.eps i.tmin StateOK (tempStep_ok _ (hb _) i.tmin) i.maxit 0
      (tempStart i.Told i.met0) with e | h
    · rw [e]; unfold StateOK tempStart; norm_num
    · exact h

/-- The same for the MODELLED balance function (`balModel`: H/He solve, heating terms, metal
balance, abundances, free-free and recombination cooling; the line cooling routine `L` and the
rate tables `rates T` arbitrary): the only hypothesis left about the physics is that every H/He
solve the iteration performs returns fractions in `[0,1]` (`hsolve`; searched on the
implementation, not proved — the H/He fixed point has no convergence theorem). -/
theorem temperature_model_state_physical (p : BalParams ℝ) (rates : ℝ → BalRates ℝ)
    (L : ℝ → ℝ → Abund ℝ → ℝ) (i : TempIn ℝ (MetalOut ℝ))
    (hn : 0 < p.n) (hA : 0 ≤ p.aHe) (hr : ∀ T, RatesHyp (rates T).m)
    (hsolve : ∀ T, (0 ≤ (hHeSolve (rates T).alphaH (rates T).alphaHe p.jH p.jHe p.n p.aHe T).h0 ∧
        (hHeSolve (rates T).alphaH (rates T).alphaHe p.jH p.jHe p.n p.aHe T).h0 ≤ 1) ∧
      (0 ≤ (hHeSolve (rates T).alphaH (rates T).alphaHe p.jH p.jHe p.n p.aHe T).he0 ∧
        (hHeSolve (rates T).alphaH (rates T).alphaHe p.jH p.jHe p.n p.aHe T).he0 ≤ 1))
    (hna : (temperatureCell (fun c T => (balModel { p with crfac := c } (rates T) L T).bal) i).abort
      = false) :
    OutOK (temperatureCell (fun c T => (balModel { p with crfac := c } (rates T) L T).bal) i) := by
  apply temperature_state_physical _ _ i hna
  intro c T
  exact balModel_ok { p with crfac := c } (rates T) L T hn hA (hr T) (hsolve T).1 (hsolve T).2

/-- `temperature_model_state_physical` with the hypothesis on the H/He solves replaced by the
CHECKED premise: if none of the H/He solves the iteration can perform raises `offDom` (evaluated
by the `Float` run on every generated balance evaluation) and the recombination rates are
non-negative, the cell state after `calculate_temperature` is physical. -/
theorem temperature_model_state_checked (p : BalParams ℝ) (rates : ℝ → BalRates ℝ)
    (L : ℝ → ℝ → Abund ℝ → ℝ) (i : TempIn ℝ (MetalOut ℝ))
    (hn : 0 < p.n) (hA : 0 ≤ p.aHe) (hr : ∀ T, RatesHyp (rates T).m)
    (ha : ∀ T, 0 ≤ (rates T).alphaH ∧ 0 ≤ (rates T).alphaHe)
    (hoff : ∀ T, (hHeSolve (rates T).alphaH (rates T).alphaHe p.jH p.jHe p.n p.aHe T).offDom = false)
    (hna : (temperatureCell (fun c T => (balModel { p with crfac := c } (rates T) L T).bal) i).abort
      = false) :
    OutOK (temperatureCell (fun c T => (balModel { p with crfac := c } (rates T) L T).bal) i) :=
  temperature_model_state_physical p rates L i hn hA hr
    (fun T => hHe_solve_range_checked _ _ _ _ _ _ _ (ha T).1 (ha T).2 hn.le hA (hoff T)) hna

/-- non-vacuity of `BalOK` / `temperature_state_physical`: a physical balance function exists -/
example : ∃ bal : ℝ → ℝ → Bal ℝ (MetalOut ℝ), ∀ c T, BalOK (bal c T) :=
  ⟨fun _ _ => ⟨1, 1, 0, 0, constMetals 0 0 0 0 0⟩, fun _ _ => by unfold BalOK; norm_num⟩

/-- A counter that received no photon stays exactly zero for EVERY abundance — including the
legal abundance 0 (and negative or tiny ones): the guarded division never produces `0/0`.
(With the unguarded `J * (1/A)` the IEEE value is `0 * inf = NaN`; Lean's `x/0 = 0` would hide
that, which is why the guard — and not the quotient — carries the statement.) -/
theorem normalise_zero_counter (A : ℝ) : normalise (0:ℝ) A = 0 := by
  unfold normalise; split_ifs <;> simp

/-- the division is only executed with a positive divisor, where IEEE and `ℝ` agree; the
normalised counter is non-negative for a non-negative counter -/
theorem normalise_nonneg (J A : ℝ) (hJ : 0 ≤ J) : 0 ≤ normalise J A ∧
    (¬ (0 < A) → normalise J A = J) := by
  rw [normalise, lit0]
  refine ⟨?_, fun h => if_neg h⟩
  split_ifs with h
  · exact div_nonneg hJ h.le
  · exact hJ

/-- the cells of a subgrid fill its box: `nx ny nz` cells of volume `cellVolume` -/
theorem cellVolume_fill (sx sy sz nx ny nz : ℝ) (hx : nx ≠ 0) (hy : ny ≠ 0) (hz : nz ≠ 0) :
    nx * ny * nz * cellVolume sx sy sz nx ny nz = sx * sy * sz := by
  unfold cellVolume; field_simp

/-- The value handed to the kernel is `jfac · counter = L · counter / (totweight · V)`: the
photoionization rate per unit volume of THIS cell for the CURRENT luminosity. -/
theorem wrapper_rate (L tw V J : ℝ) (htw : tw ≠ 0) (hV : V ≠ 0) :
    jfacCell L tw V * J = L * J / (tw * V) ∧
    hfacCell L tw V = jfacCell L tw V * 6.626070040e-34 := by
  unfold jfacCell hfacCell hfacOf jfacOf
  constructor <;> field_simp

/-- After `update_luminosity(L)` both branches of `calculate_temperature(loop, totweight,
subgrid)` — the temperature branch and the ionization-only branch through the embedded
`IonizationStateCalculator` — normalise with the NEW luminosity, whatever was stored before. -/
theorem update_luminosity_sync (L : ℝ) (l : Lums ℝ) (doTemp : Bool) (loop minIter : Nat) :
    lumUsed doTemp loop minIter (updateLuminosity L l) = L := by
  unfold lumUsed updateLuminosity; split_ifs <;> rfl

/-- Hydrogen-only gas through the wrapper: the neutral fraction stored in a cell of volume
`V = cellVolume …` solves the balance equation for the rate `L J / (totweight V)` of the current
luminosity (square-root branch, `C ≤ 4e10`). -/
theorem wrapper_h0_balance (alphaH n L tw J sx sy sz nx ny nz : ℝ) (ha : 0 < alphaH) (hn : 0 < n)
    (hL : 0 < L) (htw : 0 < tw) (hJ : 0 < J) (hs : 0 < sx ∧ 0 < sy ∧ 0 < sz)
    (hc : 0 < nx ∧ 0 < ny ∧ 0 < nz)
    (hC : L * J / (tw * cellVolume sx sy sz nx ny nz) / (n * alphaH) ≤ 4e10) :
    let x := h0Hydrogen alphaH (jfacCell L tw (cellVolume sx sy sz nx ny nz) * J) n
    x ^ 2 - (2 + L * J / (tw * cellVolume sx sy sz nx ny nz) / (n * alphaH)) * x + 1 = 0 := by
  have hV : 0 < cellVolume sx sy sz nx ny nz :=
    mul_pos (mul_pos (div_pos hs.1 hc.1) (div_pos hs.2.1 hc.2.1)) (div_pos hs.2.2 hc.2.2)
  generalize cellVolume sx sy sz nx ny nz = V at *
  have e := (wrapper_rate L tw V J htw.ne' hV.ne').1
  have := (h0_solves_balance alphaH (jfacCell L tw V * J) n ha (by rw [e]; positivity) hn
    (by rw [e]; exact hC)).2
  rwa [e] at this ⊢

/-- non-vacuity of `wrapper_h0_balance` (non-cubic cells) -/
example : ∃ alphaH n L tw J sx sy sz nx ny nz : ℝ, 0 < alphaH ∧ 0 < n ∧ 0 < L ∧ 0 < tw ∧ 0 < J ∧
    (0 < sx ∧ 0 < sy ∧ 0 < sz) ∧ (0 < nx ∧ 0 < ny ∧ 0 < nz) ∧
    L * J / (tw * cellVolume sx sy sz nx ny nz) / (n * alphaH) ≤ 4e10 :=
  ⟨1, 1, 1, 1, 1, 1, 2, 3, 1, 1, 1, by norm_num, by norm_num, by norm_num, by norm_num, by norm_num,
    by norm_num, by norm_num, by unfold cellVolume; norm_num⟩

/-- The model represents the coolant fractions stored in the cell before the call as the input
`met0` of `calculate_temperature`.  For every balance function and every pair of calls that
differ ONLY in these stored fractions, a call that returns produces the same temperature, the
same H/He fractions and the same coolant fractions (either reset to zero on both sides, or
the payload of the last balance evaluation on both sides): no branch leaves a stored fraction
behind.

For `calculate_ionization_state` (`ionCell`) the statement is trivial in the model — it is a
function of the inputs that constructs all 14 fractions on every branch and has no previous
state argument; that the C++ assigns every fraction on every branch rests on the
correspondence run (re-used cell vs fresh sentinel-filled cell, `…:depends-on-previous-state`). -/
theorem cell_output_independent_of_previous_state {M : Type} (bal : ℝ → ℝ → Bal ℝ M)
    (i : TempIn ℝ M) (m' : M) (hna : (temperatureCell bal i).abort = false) :
    let r := temperatureCell bal i
    let r' := temperatureCell bal { i with met0 := m' }
    r'.abort = false ∧ r.T = r'.T ∧ r.h0 = r'.h0 ∧ r.he0 = r'.he0 ∧ r.metZero = r'.metZero ∧
      (r.metZero = false → r.met = r'.met) := by
  rcases temperatureCell_cases bal i hna with ⟨tag, h⟩ | h
  · rw [h i.met0, h m']
    exact ⟨rfl, rfl, rfl, rfl, rfl, fun hz => Bool.noConfusion hz⟩
  · rw [h i.met0, h m']
    -- either no body ran and the coolants are reset, or the results are identical
    rcases tempLoop_congr (bal (crfacEff i.crfac i.crcell)) i.eps i.tmin i.maxit 0
      (tempStart i.Told i.met0) (tempStart i.Told m') rfl rfl rfl with ⟨e, e'⟩ | e
    · have z := tempFinish_zero_h0 i (tempStart i.Told i.met0) 0 rfl
      have z' := tempFinish_zero_h0 { i with met0 := m' } (tempStart i.Told m') 0 rfl
      simp only [tempMain_eq, e, e']
      exact ⟨rfl, rfl, rfl, rfl, z.trans z'.symm, fun hz => absurd (hz.symm.trans z) (by decide)⟩
    · simp only [tempMain_eq, e]
      exact ⟨rfl, rfl, rfl, rfl, rfl, fun _ => rfl⟩

end CMacVerif.IonBalance
