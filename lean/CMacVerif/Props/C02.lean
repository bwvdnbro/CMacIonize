import CMacVerif.Lemmas.RayMarch
import Mathlib.Algebra.Order.Field.Rat
/-!
# C02 — a packet crossing a subgrid deposits exactly its geometric path

Model: `CMacVerif/Model/RayMarch.lean` (`interact` = statement-by-statement mirror of
`DensitySubGrid::interact`).  All theorems are over an arbitrary linear ordered field `K`
(exact arithmetic; IEEE rounding is the named gap, see the evidence file) and quantify over
every block shape, cell content, packet and entry classification that satisfies `Hyp`:

* `Valid`: cell sizes > 0, at least one cell per axis, direction ≠ 0, opacities
  `κ = n (σ_H x_H + σ_He x_He) ≥ 0`, target optical depth > 0, and the `DBL_MAX` sentinel the
  code uses for axes with direction component 0 really is larger than every wall distance
  (`cell_size < DBL_MAX·|d_a|` on the moving axes);
* `Start`: a classification `0..26`, `inv_cell_size · cell_size = 1`, and on every axis whose
  index is *computed from the position* the position lies in the closed block
  (`0 ≤ x ≤ n·cell_size`; a position on the upper boundary belongs to the last cell since the
  index is clamped, `std::min(index, n - 1)`).  Nothing is assumed about the compatibility of the
  entry classification with the direction: an incompatible entry simply leaves at once with
  zero path.  What the code did with a start on the upper boundary before the clamp existed is
  kept as `old_code_upper_boundary_index_outside`.
-/
-- most statements use only part of the one `variable` line
set_option linter.unusedSectionVars false

namespace CMacVerif.RayMarch
variable {K : Type} [Field K] [LinearOrder K] [IsStrictOrderedRing K]

theorem kappa_nonneg_of (c : Cell K) (ph : Photon K) (h1 : 0 ≤ c.n) (h2 : 0 ≤ c.xH) (h3 : 0 ≤ c.xHe)
    (h4 : 0 ≤ ph.sigH) (h5 : 0 ≤ ph.sigHe) : 0 ≤ kappa c ph :=
  mul_nonneg h1 (add_nonneg (mul_nonneg h4 h2) (mul_nonneg h5 h3))

theorem mkBlock_cs (anchor side : V3 K) (n : V3 Nat) (a : Ax) :
    (mkBlock anchor side n).cs.get a = side.get a / (n.get a : K) := by
  simp only [mkBlock, V3.get_of, ofNat_eq]

theorem mkBlock_inv (anchor side : V3 K) (n : V3 Nat) (a : Ax) :
    (mkBlock anchor side n).inv.get a = (n.get a : K) / side.get a := by
  simp only [mkBlock, V3.get_of, ofNat_eq]

/-- the constructor `DensitySubGrid(box, ncell)` establishes the block part of the hypotheses -/
theorem mkBlock_ok (anchor side : V3 K) (n : V3 Nat) (hs : ∀ a, 0 < side.get a) (hn : ∀ a, 0 < n.get a) :
    (∀ a, 0 < (mkBlock anchor side n).cs.get a) ∧
    (∀ a, (mkBlock anchor side n).inv.get a * (mkBlock anchor side n).cs.get a = 1) ∧
    (∀ a, top (mkBlock anchor side n) a = side.get a) := by
  have hnK : ∀ a, (0 : K) < (n.get a : K) := fun a => by exact_mod_cast hn a
  refine ⟨fun a => ?_, fun a => ?_, fun a => ?_⟩
  · rw [mkBlock_cs]; exact div_pos (hs a) (hnK a)
  · rw [mkBlock_inv, mkBlock_cs, div_mul_div_comm, mul_comm,
      div_self (mul_ne_zero (hs a).ne' (hnK a).ne')]
  · rw [top_eq, mkBlock_cs, mul_comm]; exact div_mul_cancel₀ _ (hnK a).ne'

section main
variable (b : Block K) (cells : Nat → Cell K) (ph : Photon K) (inDir : Nat)

/-- **Termination is a theorem**: the loop of `interact` ends by its own condition within
`nx + ny + nz + 1` evaluations of that condition (every pass that does not end the loop moves
at least one index one step in its direction of travel). -/
theorem fuel_sufficient (h : Hyp b cells ph inDir) :
    (interact b cells ph inDir).finished = true :=
  trav_fuel_sufficient b cells ph _ h.valid (entry_interact b cells ph inDir h)

/-- the loop ended by its own condition: target reached or index outside -/
theorem last_done (h : Hyp b cells ph inDir) :
    ¬ ((interact b cells ph inDir).last.tauDone < ph.tau ∧
        InRange b.n (interact b cells ph inDir).last.idx) :=
  trav_last_done b cells ph _ h.valid (entry_interact b cells ph inDir h)

/-- **Path sum**: the final position is the (pinned) start position plus `Σ path · direction`,
per coordinate; in absolute coordinates as well. -/
theorem path_sum (h : Hyp b cells ph inDir) (a : Ax) :
    (interact b cells ph inDir).last.pos.get a =
        (initSt b ph inDir).pos.get a + pathSum (interact b cells ph inDir).visits * ph.dir.get a
    ∧ (interact b cells ph inDir).pos.get a =
        ((initSt b ph inDir).pos.get a + b.anchor.get a)
          + pathSum (interact b cells ph inDir).visits * ph.dir.get a :=
  trav_path_sum b cells ph _ h.valid (entry_interact b cells ph inDir h) a

/-- every credited path length is non-negative -/
theorem path_nonneg (h : Hyp b cells ph inDir) : ∀ v ∈ (interact b cells ph inDir).visits, 0 ≤ v.path :=
  trav_path_nonneg b cells ph _ h.valid (entry_interact b cells ph inDir h)

/-- hence **Σ path = straight-line distance** for a unit direction (sqrt-free form:
`Σ path ≥ 0` and `(Σ path)² = |final − start|²`) -/
theorem path_sum_is_distance (h : Hyp b cells ph inDir)
    (hunit : ph.dir.x ^ 2 + ph.dir.y ^ 2 + ph.dir.z ^ 2 = 1) :
    0 ≤ pathSum (interact b cells ph inDir).visits ∧
    pathSum (interact b cells ph inDir).visits ^ 2 =
      ((interact b cells ph inDir).last.pos.x - (initSt b ph inDir).pos.x) ^ 2
      + ((interact b cells ph inDir).last.pos.y - (initSt b ph inDir).pos.y) ^ 2
      + ((interact b cells ph inDir).last.pos.z - (initSt b ph inDir).pos.z) ^ 2 :=
  trav_path_sum_is_distance b cells ph _ h.valid (entry_interact b cells ph inDir h) hunit

/-- **Every visited cell contains its segment**: in order of traversal, with `S` the path
travelled before the visit, the visited cell is a real cell of the block (`InRange`, one-index
= `get_one_index`), and both end points `start + S·d` and `start + (S + path)·d` lie in the
closed cell — the cell is convex, so the whole segment does. -/
theorem segments_in_cells (h : Hyp b cells ph inDir) :
    SegsFwd b ph (initSt b ph inDir).pos 0 (interact b cells ph inDir).visits :=
  trav_segments_in_cells b cells ph _ h.valid (entry_interact b cells ph inDir h)

/-- the exit classification of a packet that leaves is one of `1..26` -/
theorem outputDirection_valid (h : Hyp b cells ph inDir)
    (hout : ¬ InRange b.n (interact b cells ph inDir).last.idx) :
    1 ≤ outputDirection b.n (interact b cells ph inDir).last.idx ∧
    outputDirection b.n (interact b cells ph inDir).last.idx < 27 ∧
    ∀ a, pinKind (outputDirection b.n (interact b cells ph inDir).last.idx).toNat a
      = zone (b.n.get a) ((interact b cells ph inDir).last.idx.get a) :=
  trav_outputDirection_valid b cells ph _ h.valid (entry_interact b cells ph inDir h) hout

/-- the packet is reported INSIDE exactly when the loop ended because the target was reached -/
theorem outDir_zero_iff (h : Hyp b cells ph inDir) :
    (interact b cells ph inDir).outDir = 0 ↔ ph.tau ≤ (interact b cells ph inDir).last.tauDone :=
  trav_outDir_zero_iff b cells ph _ h.valid (entry_interact b cells ph inDir h)

/-- **Optical depth accounting.**  A packet that leaves has used up `Σ κ·path` and keeps
`τ_target − Σ κ·path > 0`; a packet that stops inside has deposited *exactly* `τ_target`
(the surplus correction), and what the code stores as remaining optical depth is the
non-positive surplus of the last cell. -/
theorem tau_account (h : Hyp b cells ph inDir) :
    ((interact b cells ph inDir).outDir ≠ 0 →
      (interact b cells ph inDir).tauLeft = ph.tau - tauSum cells ph (interact b cells ph inDir).visits
      ∧ 0 < (interact b cells ph inDir).tauLeft) ∧
    ((interact b cells ph inDir).outDir = 0 →
      tauSum cells ph (interact b cells ph inDir).visits = ph.tau
      ∧ (interact b cells ph inDir).tauLeft ≤ 0) :=
  trav_tau_account b cells ph _ h.valid (entry_interact b cells ph inDir h)

/-- **Estimators**: each visit adds `path·σ·w` to the mean-intensity counter of every ion and
`path·σ·w·(ν − ν₀)` to the heating counters (ν₀ = 3.288e15 Hz for H, 5.948e15 Hz for He). -/
theorem estimators (h : Hyp b cells ph inDir) :
    ∀ v ∈ (interact b cells ph inDir).visits, EstOK ph v :=
  trav_estimators b cells ph _ h.valid (entry_interact b cells ph inDir h)

/-- optical depth of the whole line from the (pinned) start to the block boundary: what the loop of
`compute_optical_depth` accumulates from the loop-entry state of `interact` -/
def fullTau (b : Block K) (cells : Nat → Cell K) (ph : Photon K) (inDir : Nat) : K :=
  fullTauFrom b cells ph (initSt b ph inDir)

/-- `fullTau` really is the sum over the whole line: the free march ends outside the block
within the fuel, its visits satisfy the segment property, it is on the line, its optical depth
is `Σ κ·path` over its visits, and it ends on the block faces it crossed. -/
theorem fullTau_is_line_sum (h : Hyp b cells ph inDir) :
    let r := marchFree b cells ph (fuel b.n) (initSt b ph inDir)
    r.2 = true ∧ ¬ InRange b.n r.1.idx ∧ fullTau b cells ph inDir = tauSum cells ph r.1.out.reverse
      ∧ SegsFwd b ph (initSt b ph inDir).pos 0 r.1.out.reverse
      ∧ (∀ a, r.1.pos.get a = (initSt b ph inDir).pos.get a + pathSum r.1.out.reverse * ph.dir.get a)
      ∧ OutFaces b ph r.1 :=
  trav_fullTau_is_line_sum b cells ph _ h.valid (entry_interact b cells ph inDir h)

/-- **The packet stops inside the block exactly when its target optical depth is reached on
the line through the block.** -/
theorem stops_inside_iff (h : Hyp b cells ph inDir) :
    (interact b cells ph inDir).outDir = 0 ↔ ph.tau ≤ fullTau b cells ph inDir :=
  trav_stops_inside_iff b cells ph _ h.valid (entry_interact b cells ph inDir h)

/-- **Exit geometry.**  A packet that leaves gets a classification `1..26`; reading the
classification the way `update_photon_position` does (`pinKind`: 1 = lower face, 2 = upper face,
0 = free), the final position lies on exactly the faces it names and is crossing them outwards;
on the axes it does not name the position is inside the block and is not on a face the packet
is travelling towards; the classification passes `is_compatible_output_direction`. -/
theorem exit_geometric (h : Hyp b cells ph inDir) (hout : (interact b cells ph inDir).outDir ≠ 0) :
    1 ≤ (interact b cells ph inDir).outDir ∧ (interact b cells ph inDir).outDir < 27 ∧
    (∀ a,
      (pinKind (interact b cells ph inDir).outDir.toNat a = 1 →
        (interact b cells ph inDir).last.pos.get a = 0 ∧ ph.dir.get a < 0) ∧
      (pinKind (interact b cells ph inDir).outDir.toNat a = 2 →
        (interact b cells ph inDir).last.pos.get a = top b a ∧ 0 < ph.dir.get a) ∧
      (pinKind (interact b cells ph inDir).outDir.toNat a = 0 →
        0 ≤ (interact b cells ph inDir).last.pos.get a ∧
        (interact b cells ph inDir).last.pos.get a ≤ top b a ∧
        (0 < ph.dir.get a → (interact b cells ph inDir).last.pos.get a < top b a) ∧
        (ph.dir.get a < 0 → 0 < (interact b cells ph inDir).last.pos.get a))) ∧
    compatOut (interact b cells ph inDir).outDir.toNat (sgnOf ph.dir.x) (sgnOf ph.dir.y) (sgnOf ph.dir.z)
      = true :=
  trav_exit_geometric b cells ph _ h.valid (entry_interact b cells ph inDir h) hout

/-- corollary: a block without opacity on the line is always crossed -/
theorem transparent_block_is_crossed (h : Hyp b cells ph inDir) (h0 : ∀ c, kappa (cells c) ph = 0) :
    (interact b cells ph inDir).outDir ≠ 0 :=
  trav_transparent_block_is_crossed b cells ph _ h.valid (entry_interact b cells ph inDir h) h0

/-- sum of the increments `f` of the visits made to cell `c` -/
def incSum (f : Visit K → K) (vs : List (Visit K)) (c : Nat) : K :=
  ((vs.filter (fun v => v.cell.toNat = c)).map f).sum

theorem deposit_cons (ctr : Nat → Counters K) (v : Visit K) (rest : List (Visit K)) :
    deposit ctr (v :: rest) =
      deposit (fun c => if c = v.cell.toNat then (ctr c).add v else ctr c) rest := rfl

/-- any component `fc` of the counters to which `Counters.add` adds `fv v` -/
theorem deposit_field (fc : Counters K → K) (fv : Visit K → K)
    (hadd : ∀ c v, fc (c.add v) = fc c + fv v) (ctr : Nat → Counters K) (vs : List (Visit K)) (c : Nat) :
    fc (deposit ctr vs c) = fc (ctr c) + incSum fv vs c := by
  induction vs generalizing ctr with
  | nil => simp [deposit, incSum]
  | cons v rest ih =>
    rw [deposit_cons, ih]
    unfold incSum
    by_cases hc : c = v.cell.toNat
    · rw [if_pos hc, hadd, List.filter_cons_of_pos (by simpa using hc.symm), List.map_cons,
        List.sum_cons, add_assoc]
    · rw [if_neg hc, List.filter_cons_of_neg (by simpa using fun h => hc h.symm)]

theorem incSum_congr {f g : Visit K → K} {vs : List (Visit K)} (h : ∀ v ∈ vs, f v = g v) (c : Nat) :
    incSum f vs c = incSum g vs c := by
  unfold incSum
  exact congrArg List.sum (List.map_congr_left fun v hv => h v (List.mem_of_mem_filter hv))

/-- **Counters accumulate**: after the visits `vs` every counter of every cell is its old value
plus the sum of the increments of the visits made to that cell (`+=` on whatever was there). -/
theorem deposit_spec (ctr : Nat → Counters K) (vs : List (Visit K)) (c : Nat) :
    (deposit ctr vs c).jH = (ctr c).jH + incSum (·.jH) vs c ∧
    (deposit ctr vs c).jHe = (ctr c).jHe + incSum (·.jHe) vs c ∧
    (deposit ctr vs c).jX = (ctr c).jX + incSum (·.jX) vs c ∧
    (deposit ctr vs c).hH = (ctr c).hH + incSum (·.hH) vs c ∧
    (deposit ctr vs c).hHe = (ctr c).hHe + incSum (·.hHe) vs c :=
  ⟨deposit_field (·.jH) _ (fun _ _ => rfl) ctr vs c, deposit_field (·.jHe) _ (fun _ _ => rfl) ctr vs c,
    deposit_field (·.jX) _ (fun _ _ => rfl) ctr vs c, deposit_field (·.hH) _ (fun _ _ => rfl) ctr vs c,
    deposit_field (·.hHe) _ (fun _ _ => rfl) ctr vs c⟩

/-- a cell the traversal did not visit keeps its counters -/
theorem deposit_unvisited (ctr : Nat → Counters K) (vs : List (Visit K)) (c : Nat)
    (hc : ∀ v ∈ vs, v.cell.toNat ≠ c) : deposit ctr vs c = ctr c := by
  induction vs generalizing ctr with
  | nil => rfl
  | cons v rest ih =>
    rw [deposit_cons, ih _ (fun u hu => hc u (List.mem_cons_of_mem _ hu))]
    have : c ≠ v.cell.toNat := fun h => hc v (List.mem_cons_self) h.symm
    simp [this]

/-- **Estimators after `interact`**: every counter of every cell has grown by exactly
`weight × cross-section × (path lengths credited to that cell)` — times the excess photon
energy for the heating terms — on top of what earlier packets left there. -/
theorem counters_after_interact (h : Hyp b cells ph inDir) (ctr : Nat → Counters K) (c : Nat) :
    (deposit ctr (interact b cells ph inDir).visits c).jH
      = (ctr c).jH + incSum (fun v => v.path * ph.sigH * ph.w) (interact b cells ph inDir).visits c ∧
    (deposit ctr (interact b cells ph inDir).visits c).jHe
      = (ctr c).jHe + incSum (fun v => v.path * ph.sigHe * ph.w) (interact b cells ph inDir).visits c ∧
    (deposit ctr (interact b cells ph inDir).visits c).jX
      = (ctr c).jX + incSum (fun v => v.path * ph.sigX * ph.w) (interact b cells ph inDir).visits c ∧
    (deposit ctr (interact b cells ph inDir).visits c).hH
      = (ctr c).hH + incSum (fun v => v.path * ph.sigH * ph.w * (ph.nu - 3.288e15))
          (interact b cells ph inDir).visits c ∧
    (deposit ctr (interact b cells ph inDir).visits c).hHe
      = (ctr c).hHe + incSum (fun v => v.path * ph.sigHe * ph.w * (ph.nu - 5.948e15))
          (interact b cells ph inDir).visits c := by
  have he := estimators b cells ph inDir h
  obtain ⟨d1, d2, d3, d4, d5⟩ := deposit_spec ctr (interact b cells ph inDir).visits c
  refine ⟨?_, ?_, ?_, ?_, ?_⟩
  · rw [d1, incSum_congr (fun v hv => (he v hv).jH)]
  · rw [d2, incSum_congr (fun v hv => (he v hv).jHe)]
  · rw [d3, incSum_congr (fun v hv => (he v hv).jX)]
  · rw [d4, incSum_congr (fun v hv => (he v hv).hH)]
  · rw [d5, incSum_congr (fun v hv => (he v hv).hHe)]

/-! #### `propagate`: the same traversal without pinning and without counters -/

/-- `propagate` terminates (same bound) -/
theorem propagate_fuel_sufficient (h : HypNoPin b cells ph inDir) :
    (propagate b cells ph inDir).finished = true :=
  trav_fuel_sufficient b cells ph _ h.valid (entry_noPin b cells ph inDir h)

/-- path sum of `propagate`: final = handed-over position + `Σ path · direction`
(`visits` = ghost record of the passes), relative and absolute -/
theorem propagate_path_sum (h : HypNoPin b cells ph inDir) (a : Ax) :
    (propagate b cells ph inDir).last.pos.get a =
        (initStNoPin b ph inDir).pos.get a + pathSum (propagate b cells ph inDir).visits * ph.dir.get a
    ∧ (propagate b cells ph inDir).pos.get a =
        ((initStNoPin b ph inDir).pos.get a + b.anchor.get a)
          + pathSum (propagate b cells ph inDir).visits * ph.dir.get a :=
  trav_path_sum b cells ph _ h.valid (entry_noPin b cells ph inDir h) a

/-- every cell `propagate` passes contains its segment (as `segments_in_cells`) -/
theorem propagate_segments_in_cells (h : HypNoPin b cells ph inDir) :
    SegsFwd b ph (initStNoPin b ph inDir).pos 0 (propagate b cells ph inDir).visits :=
  trav_segments_in_cells b cells ph _ h.valid (entry_noPin b cells ph inDir h)

/-- optical depth accounting of `propagate` (as `tau_account`) -/
theorem propagate_tau_account (h : HypNoPin b cells ph inDir) :
    ((propagate b cells ph inDir).outDir ≠ 0 →
      (propagate b cells ph inDir).tauLeft = ph.tau - tauSum cells ph (propagate b cells ph inDir).visits
      ∧ 0 < (propagate b cells ph inDir).tauLeft) ∧
    ((propagate b cells ph inDir).outDir = 0 →
      tauSum cells ph (propagate b cells ph inDir).visits = ph.tau
      ∧ (propagate b cells ph inDir).tauLeft ≤ 0) :=
  trav_tau_account b cells ph _ h.valid (entry_noPin b cells ph inDir h)

/-- `propagate` stops inside iff the target is reached on the line through the block -/
theorem propagate_stops_inside_iff (h : HypNoPin b cells ph inDir) :
    (propagate b cells ph inDir).outDir = 0 ↔
      ph.tau ≤ fullTauFrom b cells ph (initStNoPin b ph inDir) :=
  trav_stops_inside_iff b cells ph _ h.valid (entry_noPin b cells ph inDir h)

/-- exit geometry of `propagate` (as `exit_geometric`) -/
theorem propagate_exit_geometric (h : HypNoPin b cells ph inDir)
    (hout : (propagate b cells ph inDir).outDir ≠ 0) :
    1 ≤ (propagate b cells ph inDir).outDir ∧ (propagate b cells ph inDir).outDir < 27 ∧
    (∀ a,
      (pinKind (propagate b cells ph inDir).outDir.toNat a = 1 →
        (propagate b cells ph inDir).last.pos.get a = 0 ∧ ph.dir.get a < 0) ∧
      (pinKind (propagate b cells ph inDir).outDir.toNat a = 2 →
        (propagate b cells ph inDir).last.pos.get a = top b a ∧ 0 < ph.dir.get a) ∧
      (pinKind (propagate b cells ph inDir).outDir.toNat a = 0 →
        0 ≤ (propagate b cells ph inDir).last.pos.get a ∧
        (propagate b cells ph inDir).last.pos.get a ≤ top b a ∧
        (0 < ph.dir.get a → (propagate b cells ph inDir).last.pos.get a < top b a) ∧
        (ph.dir.get a < 0 → 0 < (propagate b cells ph inDir).last.pos.get a))) ∧
    compatOut (propagate b cells ph inDir).outDir.toNat (sgnOf ph.dir.x) (sgnOf ph.dir.y) (sgnOf ph.dir.z)
      = true :=
  trav_exit_geometric b cells ph _ h.valid (entry_noPin b cells ph inDir h) hout

/-- **`propagate` is `interact` without the counters**: when the position handed over already
sits where `update_photon_position` would put it, both return the same direction, position,
remaining optical depth, and walk through the same cells with the same paths. -/
theorem propagate_eq_interact (hpin : pinPos b inDir (relPos b ph.pos) = relPos b ph.pos) :
    propagate b cells ph inDir = interact b cells ph inDir := by
  rw [interact_eq_traverse, initSt_eq_noPin b ph inDir hpin]
  rfl

/-! #### `compute_optical_depth`: the whole line -/

/-- **`compute_optical_depth` measures the whole line through the block.**  Its loop ends outside
the block within the same bound; what it adds to the packet's optical depth is exactly
`Σ κ·path` over its passes; the passes tile the line from the handed-over position to the final
position cell by cell (`SegsFwd`); the final position is `start + (Σ path)·d`; the returned
classification is one of `1..26`, the final position lies exactly on the faces it names,
crossing them outwards, strictly inside on the other axes it moves along, and the classification
passes `is_compatible_output_direction`. -/
theorem cod_spec (h : HypNoPin b cells ph inDir) :
    (computeOpticalDepth b cells ph inDir).finished = true ∧
    (computeOpticalDepth b cells ph inDir).tau =
      ph.tau + tauSum cells ph (computeOpticalDepth b cells ph inDir).last.out.reverse ∧
    SegsFwd b ph (initStNoPin b ph inDir).pos 0 (computeOpticalDepth b cells ph inDir).last.out.reverse ∧
    (∀ a, (computeOpticalDepth b cells ph inDir).last.pos.get a =
        (initStNoPin b ph inDir).pos.get a
          + pathSum (computeOpticalDepth b cells ph inDir).last.out.reverse * ph.dir.get a
      ∧ (computeOpticalDepth b cells ph inDir).pos.get a =
        (computeOpticalDepth b cells ph inDir).last.pos.get a + b.anchor.get a) ∧
    1 ≤ (computeOpticalDepth b cells ph inDir).outDir ∧ (computeOpticalDepth b cells ph inDir).outDir < 27 ∧
    (∀ a,
      (pinKind (computeOpticalDepth b cells ph inDir).outDir.toNat a = 1 →
        (computeOpticalDepth b cells ph inDir).last.pos.get a = 0 ∧ ph.dir.get a < 0) ∧
      (pinKind (computeOpticalDepth b cells ph inDir).outDir.toNat a = 2 →
        (computeOpticalDepth b cells ph inDir).last.pos.get a = top b a ∧ 0 < ph.dir.get a) ∧
      (pinKind (computeOpticalDepth b cells ph inDir).outDir.toNat a = 0 →
        0 ≤ (computeOpticalDepth b cells ph inDir).last.pos.get a ∧
        (computeOpticalDepth b cells ph inDir).last.pos.get a ≤ top b a ∧
        (0 < ph.dir.get a → (computeOpticalDepth b cells ph inDir).last.pos.get a < top b a) ∧
        (ph.dir.get a < 0 → 0 < (computeOpticalDepth b cells ph inDir).last.pos.get a))) ∧
    compatOut (computeOpticalDepth b cells ph inDir).outDir.toNat
      (sgnOf ph.dir.x) (sgnOf ph.dir.y) (sgnOf ph.dir.z) = true := by
  obtain ⟨hfin, hnr, hF, hS⟩ := marchFree_ends_outside h.valid (entry_noPin b cells ph inDir h)
  have hx := exit_geometry h.valid hF.inCell hF.outFaces hS hnr
  have hlast : (computeOpticalDepth b cells ph inDir).last =
      (marchFree b cells ph (fuel b.n) (initStNoPin b ph inDir)).1 := rfl
  have hdir : (computeOpticalDepth b cells ph inDir).outDir =
      outputDirection b.n (computeOpticalDepth b cells ph inDir).last.idx := rfl
  rw [hdir, hlast]
  refine ⟨hfin, ?_, segs_reverse b ph _ _ hF.segs, fun a => ⟨?_, V3.get_of _ a⟩, hx⟩
  · show ph.tau + _ = _
    rw [tauSum_reverse, ← hF.tauAcc]
  · rw [pathSum_reverse]; exact hF.onLine a

/-- what `compute_optical_depth` adds is `fullTauFrom` its own, unpinned entry state: the `fullTau` of
`stops_inside_iff` when the position handed over is already pinned (`initSt_eq_noPin`) -/
theorem cod_adds_fullTau :
    (computeOpticalDepth b cells ph inDir).tau = ph.tau + fullTauFrom b cells ph (initStNoPin b ph inDir) :=
  rfl

/-- what `compute_optical_depth` adds does not depend on the packet's target optical depth -/
theorem cod_independent_of_target (t : K) :
    (computeOpticalDepth b cells { ph with tau := t } inDir).tau - t =
      (computeOpticalDepth b cells ph inDir).tau - ph.tau := by
  have key : ∀ (f : Nat) (s : St K), marchFree b cells { ph with tau := t } f s = marchFree b cells ph f s := by
    intro f
    induction f with
    | zero => intro s; rfl
    | succ f ih =>
      intro s
      unfold marchFree
      have hs : stepFree b cells { ph with tau := t } s = stepFree b cells ph s := rfl
      rw [hs, ih]
  show t + (marchFree b cells { ph with tau := t } (fuel b.n) (initStNoPin b { ph with tau := t } inDir)).1.tauDone - t
    = ph.tau + (marchFree b cells ph (fuel b.n) (initStNoPin b ph inDir)).1.tauDone - ph.tau
  rw [key]
  have : initStNoPin b { ph with tau := t } inDir = initStNoPin b ph inDir := rfl
  rw [this]; ring

/-- **`interact` stops inside exactly when its target does not exceed what
`compute_optical_depth` measures** for the same packet (position already where
`update_photon_position` puts it): the two routines of the code agree on where the packet ends. -/
theorem interact_stops_iff_cod (h : Hyp b cells ph inDir)
    (hpin : pinPos b inDir (relPos b ph.pos) = relPos b ph.pos) :
    (interact b cells ph inDir).outDir = 0 ↔
      ph.tau ≤ (computeOpticalDepth b cells ph inDir).tau - ph.tau := by
  rw [stops_inside_iff b cells ph inDir h, cod_adds_fullTau, add_sub_cancel_left]
  unfold fullTau
  rw [initSt_eq_noPin b ph inDir hpin]

/-- for a packet emitted inside the block (classification INSIDE) `update_photon_position` does
nothing, so the two theorems above apply to every such packet -/
theorem pinPos_inside (p : V3 K) : pinPos b 0 p = p := by
  have hk : ∀ a, pinKind 0 a = 0 := fun a => by cases a <;> decide
  unfold pinPos V3.of pinAxis
  simp only [hk]
  cases p; rfl

/-- `Hyp` gives `HypNoPin` when the position handed over already sits where
`update_photon_position` would put it (the side condition of `propagate_eq_interact` and
`interact_stops_iff_cod`) -/
theorem hypNoPin_of_hyp (h : Hyp b cells ph inDir)
    (hpin : pinPos b inDir (relPos b ph.pos) = relPos b ph.pos) : HypNoPin b cells ph inDir := by
  have hp : ∀ a, Placed b (idxKind inDir a) a (ph.pos.get a - b.anchor.get a) := fun a => by
    have := h.pinned_placed a
    rwa [hpin, relPos_get] at this
  exact ⟨h.valid, h.start.dir_ok, h.start.inv_ok, fun a => (hp a).1, fun a => (hp a).2.1,
    fun a => (hp a).2.2⟩

/-- `Hyp` from what a caller controls: a box with positive sides and at least one cell per axis
(`DensitySubGrid(box, ncell)`), non-negative cell contents and cross sections, a non-zero
direction, a positive target optical depth, a classification `0..26`, the position inside the
closed box on the axes whose index is computed — and the magnitude condition on the `DBL_MAX`
sentinel, the one hypothesis that is about the size of the numbers. -/
theorem hyp_of_inputs (anchor side : V3 K) (n : V3 Nat)
    (hs : ∀ a, 0 < side.get a) (hn : ∀ a, 0 < n.get a)
    (hc : ∀ c, 0 ≤ (cells c).n ∧ 0 ≤ (cells c).xH ∧ 0 ≤ (cells c).xHe)
    (hsig : 0 ≤ ph.sigH ∧ 0 ≤ ph.sigHe) (hd : ∃ a, ph.dir.get a ≠ 0) (ht : 0 < ph.tau)
    (hbig : ∀ a, ph.dir.get a ≠ 0 → side.get a / (n.get a : K) < dblMax * |ph.dir.get a|)
    (hdir : inDir < 27)
    (hbox : ∀ a, idxKind inDir a = 0 →
      anchor.get a ≤ ph.pos.get a ∧ ph.pos.get a ≤ anchor.get a + side.get a) :
    Hyp (mkBlock anchor side n) cells ph inDir := by
  obtain ⟨h1, h2, h3⟩ := mkBlock_ok anchor side n hs hn
  refine ⟨⟨h1, hn, hd, fun a ha => by rw [mkBlock_cs]; exact hbig a ha,
    fun c => kappa_nonneg_of _ _ (hc c).1 (hc c).2.1 (hc c).2.2 hsig.1 hsig.2, ht⟩, ⟨hdir, h2, fun a hk => ?_⟩⟩
  rw [h3 a]
  exact ⟨sub_nonneg.mpr (hbox a hk).1, sub_le_iff_le_add'.mpr (hbox a hk).2⟩

/-- **One pass, packet leaves the cell**: the credited path is `≥ 0`; the new position is
`pos + path·d` and lies in the closed cell just traversed *and* in the closed cell named by the
new index; every index moves by at most one step and only in the direction of travel (the
potential `phi` = number of steps still possible drops by at least one); an index that leaves
the range sits exactly on the block face it crossed; `tau_done` grows by `κ·path`. -/
theorem one_pass_leave (hv : Valid b cells ph) (s : St K) (hr : InRange b.n s.idx) (hc : InCell b s) :
    0 ≤ (geo b cells ph s).lmin ∧
    (∀ a, (leave ph s (geo b cells ph s)).pos.get a = s.pos.get a + (geo b cells ph s).lmin * ph.dir.get a ∧
      (s.idx.get a : K) * b.cs.get a ≤ (leave ph s (geo b cells ph s)).pos.get a ∧
      (leave ph s (geo b cells ph s)).pos.get a ≤ ((s.idx.get a : K) + 1) * b.cs.get a) ∧
    InCell b (leave ph s (geo b cells ph s)) ∧ Range b (leave ph s (geo b cells ph s)) ∧
    OutFaces b ph (leave ph s (geo b cells ph s)) ∧ Strict b ph (leave ph s (geo b cells ph s)) ∧
    phi b ph (leave ph s (geo b cells ph s)) + 1 ≤ phi b ph s ∧
    (leave ph s (geo b cells ph s)).tauDone =
      s.tauDone + kappa (cells (oneIndex b.n s.idx).toNat) ph * (geo b cells ph s).lmin := by
  have hP := pass_geo hv hr hc
  obtain ⟨h1, h2, h3, h4⟩ := hP.leave_spec
  have hax := hP.newPos_on_line_in_cell hP.lmin_nonneg le_rfl
  exact ⟨hP.lmin_nonneg, fun a => ⟨hax.1 a, hax.2 a⟩, h1, h2, h3, h4, hP.leave_phi, hP.leave_tau⟩

/-- **One pass, target reached in this cell**: the corrected path `lmin·(1 − surplus/τ_cell)`
lies in `[0, lmin]`, deposits exactly the missing optical depth `τ_target − τ_done`, and the new
position `pos + path·d` stays in the closed cell; the index is unchanged. -/
theorem one_pass_stop (hv : Valid b cells ph) (s : St K) (hr : InRange b.n s.idx) (hc : InCell b s)
    (hrun : s.tauDone < ph.tau) (hreach : ph.tau ≤ (geo b cells ph s).td) :
    0 ≤ stopPath ph (geo b cells ph s) ∧ stopPath ph (geo b cells ph s) ≤ (geo b cells ph s).lmin ∧
    kappa (cells (oneIndex b.n s.idx).toNat) ph * stopPath ph (geo b cells ph s) = ph.tau - s.tauDone ∧
    (stop ph s (geo b cells ph s)).idx = s.idx ∧
    (∀ a, (stop ph s (geo b cells ph s)).pos.get a
        = s.pos.get a + stopPath ph (geo b cells ph s) * ph.dir.get a ∧
      (s.idx.get a : K) * b.cs.get a ≤ (stop ph s (geo b cells ph s)).pos.get a ∧
      (stop ph s (geo b cells ph s)).pos.get a ≤ ((s.idx.get a : K) + 1) * b.cs.get a) := by
  have hP := pass_geo hv hr hc
  obtain ⟨h1, h2, h3⟩ := hP.stopPath_mem_and_tau hrun hreach
  have hax := hP.newPos_on_line_in_cell h1 h2
  exact ⟨h1, h2, h3, rfl, fun a => ⟨hax.1 a, hax.2 a⟩⟩

/-- A coordinate whose index is *computed from the position* and that lies on the upper block
boundary (`position·inv_cell_size ≥ n`): the OLD index rule (`return x * _inv_cell_size`) gave
the index `n`, outside the range, so the loop body never ran and the packet was returned at
once through the upper face whatever its direction (former finding
`march:start-on-upper-block-boundary`); the current rule (`std::min(…, n - 1)`) gives the last
cell, and all theorems above hold for such a start (`Start.owned` is `0 ≤ x ≤ extent`). -/
theorem old_code_upper_boundary_index_outside (hd : inDir < 27) (a : Ax)
    (hk : idxKind inDir a = 0)
    (hup : (b.n.get a : K) ≤ (ph.pos.get a - b.anchor.get a) * b.inv.get a) :
    startIdxAxisOld b inDir (pinPos b inDir (relPos b ph.pos)) a = (b.n.get a : Int) ∧
    startIdxAxis b inDir (pinPos b inDir (relPos b ph.pos)) a = (b.n.get a : Int) - 1 := by
  have hpk : pinKind inDir a = 0 := (tables_entry_ax inDir hd a).1 ▸ hk
  have hrel : (pinPos b inDir (relPos b ph.pos)).get a = ph.pos.get a - b.anchor.get a := by
    rw [pinPos_get, pinAxis_kept b inDir _ a hpk, relPos_get]
  constructor
  · unfold startIdxAxisOld; rw [hk]; simp only [hrel]; rw [floorUpTo_top _ _ hup]
  · rw [startIdxAxis_computed b inDir _ a hk, hrel, floorUpTo_top _ _ hup]
    unfold clampIdx; rw [if_pos (by omega)]

end main
/-! ### non-vacuity: the hypotheses are satisfiable and both outcomes occur -/

def exBlock : Block ℚ := mkBlock ⟨0, 0, 0⟩ ⟨2, 1, 1⟩ ⟨2, 1, 1⟩
def exCells : Nat → Cell ℚ := fun _ => ⟨1, 1, 0⟩
def exPhoton (tau : ℚ) : Photon ℚ :=
  { pos := ⟨1 / 2, 1 / 2, 1 / 2⟩, dir := ⟨1, 0, 0⟩, tau := tau, sigH := 1, sigHe := 0, sigX := 1, w := 1,
    nu := 4000000000000000 }

/-- any packet starting in the closed example box and travelling along `±x`, any entry classification -/
theorem exHyp_of (ph : Photon ℚ) (inDir : Nat) (hin : inDir < 27) {dx : ℚ} (hdir : ph.dir = ⟨dx, 0, 0⟩)
    (hdx : |dx| = 1) (hsig : 0 ≤ ph.sigH ∧ 0 ≤ ph.sigHe) (ht : 0 < ph.tau)
    (hpos : ∀ a, 0 ≤ ph.pos.get a ∧ ph.pos.get a ≤ (⟨2, 1, 1⟩ : V3 ℚ).get a) :
    Hyp exBlock exCells ph inDir := by
  refine hyp_of_inputs exCells ph inDir ⟨0, 0, 0⟩ ⟨2, 1, 1⟩ ⟨2, 1, 1⟩
    (fun a => by cases a <;> norm_num [V3.get]) (fun a => by cases a <;> norm_num [V3.get])
    (fun c => by norm_num [exCells]) hsig ⟨.x, ?_⟩ ht (fun a ha => ?_) hin
    (fun a _ => by have := hpos a; cases a <;> simpa [V3.get] using this)
  · rw [hdir]; exact abs_pos.mp (hdx ▸ one_pos)
  · rw [hdir] at ha ⊢
    cases a
    · show (2 : ℚ) / (2 : ℕ) < dblMax * |dx|
      rw [hdx]; unfold dblMax; norm_num
    · exact absurd rfl ha
    · exact absurd rfl ha

theorem exHyp (tau : ℚ) (ht : 0 < tau) : Hyp exBlock exCells (exPhoton tau) 0 :=
  exHyp_of _ 0 (by norm_num) rfl abs_one (by norm_num [exPhoton]) ht
    (fun a => by cases a <;> norm_num [exPhoton, V3.get])

example : ∃ (b : Block ℚ) (cells : Nat → Cell ℚ) (ph : Photon ℚ) (d : Nat), Hyp b cells ph d :=
  ⟨exBlock, exCells, exPhoton 1, 0, exHyp 1 (by norm_num)⟩

/-- with target optical depth 1/4 the packet stops inside (after a path of 1/4 in cell 0) -/
theorem example_stops_inside : (interact exBlock exCells (exPhoton (1 / 4)) 0).outDir = 0 ∧
    ((interact exBlock exCells (exPhoton (1 / 4)) 0).visits.map (fun v => (v.cell, v.path))) = [(0, 1 / 4)] := by
  decide +kernel

/-- with target optical depth 10 it crosses both cells (paths 1/2 and 1) and leaves through the
upper x face (classification 21 = FACE_X_P) with 17/2 left -/
theorem example_leaves : (interact exBlock exCells (exPhoton 10) 0).outDir = 21 ∧
    ((interact exBlock exCells (exPhoton 10) 0).visits.map (fun v => (v.cell, v.path))) = [(0, 1 / 2), (1, 1)] ∧
    (interact exBlock exCells (exPhoton 10) 0).tauLeft = 17 / 2 := by
  decide +kernel

/-- non-vacuity of `exit_geometric` (its extra hypothesis "the packet leaves" is satisfiable
together with `Hyp`) and of `path_sum_is_distance` (unit direction) -/
example : Hyp exBlock exCells (exPhoton 10) 0 ∧ (interact exBlock exCells (exPhoton 10) 0).outDir ≠ 0 ∧
    (exPhoton 10).dir.x ^ 2 + (exPhoton 10).dir.y ^ 2 + (exPhoton 10).dir.z ^ 2 = 1 :=
  ⟨exHyp 10 (by norm_num), by rw [example_leaves.1]; decide, by norm_num [exPhoton]⟩

/-- a packet ON the upper x boundary of the block (entry INSIDE) -/
def exPhotonUpper (dx : ℚ) : Photon ℚ := { exPhoton 1 with pos := ⟨2, 1 / 2, 1 / 2⟩, dir := ⟨dx, 0, 0⟩ }

/-- the hypotheses hold for a start on the upper block boundary (closed block) -/
theorem exHypUpper (dx : ℚ) (hdx : dx = 1 ∨ dx = -1) : Hyp exBlock exCells (exPhotonUpper dx) 0 :=
  exHyp_of _ 0 (by norm_num) rfl (by rcases hdx with rfl | rfl <;> norm_num) (by norm_num [exPhotonUpper, exPhoton])
    (by norm_num [exPhotonUpper, exPhoton]) (fun a => by cases a <;> norm_num [exPhotonUpper, V3.get])

/-- on the upper x boundary and travelling INTO the block: the packet now traverses the last
cell (here it is absorbed after a path of 1 in cell 1) -/
theorem example_upper_boundary_inward :
    (interact exBlock exCells (exPhotonUpper (-1)) 0).outDir = 0 ∧
    ((interact exBlock exCells (exPhotonUpper (-1)) 0).visits.map (fun v => (v.cell, v.path))) = [(1, 1)] := by
  decide +kernel

/-- on the upper x boundary and travelling OUT of the block: it leaves at once through that face
(21 = FACE_X_P) with zero path and its optical depth untouched -/
theorem example_upper_boundary_outward :
    (interact exBlock exCells (exPhotonUpper 1) 0).outDir = 21 ∧
    ((interact exBlock exCells (exPhotonUpper 1) 0).visits.map (fun v => (v.cell, v.path))) = [(1, 0)] ∧
    (interact exBlock exCells (exPhotonUpper 1) 0).tauLeft = 1 := by
  decide +kernel

/-! ### non-vacuity for `propagate` / `compute_optical_depth` / `hyp_of_inputs` -/

/-- the no-pin hypotheses hold for a packet emitted inside the block … -/
theorem exHypNoPin (tau : ℚ) (ht : 0 < tau) : HypNoPin exBlock exCells (exPhoton tau) 0 :=
  hypNoPin_of_hyp _ _ _ _ (exHyp tau ht) (pinPos_inside exBlock _)

def exPhotonFace : Photon ℚ := { exPhoton 10 with pos := ⟨0, 1 / 2, 1 / 2⟩ }

/-- … and for a packet handed over on the lower x face (entry 22 = FACE_X_N) -/
theorem exHypNoPinFace : HypNoPin exBlock exCells exPhotonFace 22 :=
  hypNoPin_of_hyp _ _ _ _
    (exHyp_of _ 22 (by norm_num) rfl abs_one (by norm_num [exPhotonFace, exPhoton]) (by norm_num [exPhotonFace, exPhoton])
      (fun a => by cases a <;> norm_num [exPhotonFace, V3.get]))
    -- entry 22 pins `x` to the lower face, where the packet is
    (by unfold pinPos relPos V3.of; congr 1; decide +kernel)

/-- `compute_optical_depth` on the example: the line from (1/2,1/2,1/2) in +x has optical depth
3/2, the packet's 10 becomes 23/2, it ends on FACE_X_P (21) at x = 2 -/
theorem example_cod :
    (computeOpticalDepth exBlock exCells (exPhoton 10) 0).tau = 23 / 2 ∧
    (computeOpticalDepth exBlock exCells (exPhoton 10) 0).outDir = 21 ∧
    (computeOpticalDepth exBlock exCells (exPhoton 10) 0).pos.x = 2 := by
  decide +kernel

/-- `propagate` from the lower x face: target 10 is not reached on a line of optical depth 2 -/
theorem example_propagate :
    (propagate exBlock exCells exPhotonFace 22).outDir = 21 ∧
    (propagate exBlock exCells exPhotonFace 22).tauLeft = 8 ∧
    ((propagate exBlock exCells exPhotonFace 22).visits.map (fun v => (v.cell, v.path))) = [(0, 1), (1, 1)] := by
  decide +kernel

/-- `hyp_of_inputs` is applicable (unit box of one cell, packet in the centre) -/
example : Hyp (mkBlock (⟨0, 0, 0⟩ : V3 ℚ) ⟨1, 1, 1⟩ ⟨1, 1, 1⟩) exCells
    { exPhoton 1 with pos := ⟨1 / 2, 1 / 2, 1 / 2⟩ } 0 := by
  refine hyp_of_inputs _ _ _ _ _ _ (fun a => by cases a <;> norm_num [V3.get])
    (fun a => by cases a <;> norm_num [V3.get]) (fun c => by norm_num [exCells])
    (by norm_num [exPhoton]) ⟨.x, by norm_num [exPhoton, V3.get]⟩ (by norm_num [exPhoton]) (fun a ha => ?_)
    (by norm_num) (fun a _ => by cases a <;> norm_num [exPhoton, V3.get])
  cases a <;> simp [exPhoton, V3.get] at ha ⊢
  unfold dblMax; norm_num

/-- `interact_stops_iff_cod` on the example (entry INSIDE): the target 1/4 is below the 3/2 that
`compute_optical_depth` measures, and `interact` indeed stops inside -/
example : (interact exBlock exCells (exPhoton (1 / 4)) 0).outDir = 0 :=
  (interact_stops_iff_cod exBlock exCells (exPhoton (1 / 4)) 0 (exHyp _ (by norm_num))
    (pinPos_inside exBlock _)).mpr (by
      have : (computeOpticalDepth exBlock exCells (exPhoton (1 / 4)) 0).tau = 7 / 4 := by decide +kernel
      rw [this]; norm_num [exPhoton])

end CMacVerif.RayMarch
