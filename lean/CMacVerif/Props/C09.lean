import CMacVerif.Lemmas.RestartCodec
import CMacVerif.Gen.RestartSchemas
import CMacVerif.Lemmas.HydroStep
/-!
# C09 — a run stopped and restarted continues exactly (partial)

Model: `CMacVerif/Model/RestartCodec.lean` (byte-level writer/reader of `RestartWriter.hpp` /
`RestartReader.hpp`, schemas with data-dependent loops), `CMacVerif/Gen/RestartSchemas.lean`
(regenerated from the source on every run: per restartable class what `write_restart_file` writes and
what the restart constructor reads; the not-stored members of the hydro subgrid with the expression
each constructor gives them; the limiter reset loops).

What is proved: the codec round trip for EVERY schema and value, equality of the write and read
schema of every class (generated, `decide`), syntactic identity of the recomputed members,
the reset of the one not-stored per-cell array at the end of every step, and that these facts give
an identical continuation for any deterministic step function.  What is NOT proved (validated by the
stop/restart experiments of the check): that stored + derived + transient fields are everything a step
reads, i.e. the `step` function of `continuation_identical_partial` is abstract.  Two further sections
narrow that gap: every data member of every restartable class is classified in a generated table and the
restart path rebuilds every claimed one (`all_members_classified`, `restore_dump_claimed`); and for the
modelled hydro step of C04/C10 the continuation is proved with no abstract step
(`Hydro.continuation_identical_hydro`).
-/
namespace CMacVerif.RestartCodec
open CMacVerif.Gen.RestartSchemas

/-! ## 1. the codec -/

theorem decodeIts_encodeIts (body : Sch) (env : Env)
    (ih : ∀ (v : Val) (tail : Bytes), conf body env v = true → decode body env (encode body v ++ tail) = some (v, tail))
    (n : Nat) (its : Val) (tail : Bytes) (h : confIts (conf body env) n its = true) :
    decodeIts (decode body env) n (encodeIts (encode body) its ++ tail) = some (its, tail) := by
  induction n generalizing its tail with
  | zero =>
    cases its <;> simp only [confIts, Bool.false_eq_true] at h
    rfl
  | succ n ihn =>
    cases its <;> simp only [confIts, Bool.false_eq_true] at h
    case cons one more =>
      simp only [Bool.and_eq_true] at h
      simp only [decodeIts, encodeIts, List.append_assoc, ih one _ h.1, ihn more tail h.2]

/-- **Reading back what was written gives the written state, and consumes exactly the written
bytes** — for every schema (every nesting of data-dependent loops, conditionals, factories), every
value the writer can hold, whatever follows in the file.  The reader evaluates its loop counts from
what it has read so far. -/
theorem codec_roundtrip (s : Sch) (env : Env) (v : Val) (tail : Bytes) (h : conf s env v = true) :
    decode s env (encode s v ++ tail) = some (v, tail) := by
  induction s generalizing env v tail with
  | done => cases v <;> simp_all [conf, decode, encode]
  | prim p rest ih =>
    cases v <;> simp only [conf, Bool.false_eq_true] at h
    case prim pv vr =>
      simp only [Bool.and_eq_true] at h
      simp only [decode, encode, List.append_assoc, decodePV_encodePV p pv _ h.1, ih _ vr tail h.2]
  | rep c body rest ihb ihr =>
    cases v <;> simp only [conf, Bool.false_eq_true] at h
    case rep its vr =>
      simp only [Bool.and_eq_true] at h
      simp only [decode, encode, List.append_assoc,
        decodeIts_encodeIts body env (fun v t hv => ihb env v t hv) _ its _ h.1, ihr env vr tail h.2]

/-- the statement in the form of DESIGN §6: `decode s (encode s v) = some (v, [])` -/
theorem codec_roundtrip_exact (s : Sch) (env : Env) (v : Val) (h : conf s env v = true) :
    decode s env (encode s v) = some (v, []) :=
  List.append_nil (encode s v) ▸ codec_roundtrip s env v [] h

/-- write → read → write gives identical bytes -/
theorem write_read_write (s : Sch) (env : Env) (v : Val) (h : conf s env v = true) :
    ∃ v', decode s env (encode s v) = some (v', []) ∧ encode s v' = encode s v :=
  ⟨v, codec_roundtrip_exact s env v h, rfl⟩

/-- non-vacuity: a schema with a data-dependent loop (count = product of two earlier integers, as in
`DensitySubGrid`), a conditional (`if (has_output)`) and a tagged alternative; a conforming value -/
def exSch : Sch :=
  .prim (.int 8) <| .prim (.int 4) <| .prim .f64 <| .rep (.mul (.var 1) (.var 0)) (.prim .f64 .done) <|
  .prim .bool <| .rep (.var 0) (.prim .str .done) <| .prim .str <| .rep (.tagIs 0 [65]) (.prim (.raw 2) .done) <|
  .prim .smap .done
def exVal : Val :=
  .prim (.nat 2) <| .prim (.nat 1) <| .prim (.nat 4607182418800017408) <|
  .rep (.cons (.prim (.nat 7) .done) (.cons (.prim (.nat 9) .done) .nil)) <|
  .prim (.nat 1) <| .rep (.cons (.prim (.bytes [104, 105]) .done) .nil) <| .prim (.bytes [65]) <|
  .rep (.cons (.prim (.bytes [1, 2]) .done) .nil) <| .prim (.smap [([97], [1]), ([97, 98], []), ([98], [2, 3])]) .done
example : conf exSch {} exVal = true := by decide +kernel
example : (encode exSch exVal).length = 8 + 4 + 8 + 16 + 1 + 10 + 9 + 2 + 8 + (9 + 9) + (10 + 8) + (9 + 10) := by decide +kernel
example : decode exSch {} (encode exSch exVal) = some (exVal, []) := codec_roundtrip_exact _ _ _ (by decide +kernel)

/-- the conditions of `conf` are needed: a string with an embedded NUL does not survive the reader's
`char*` (DESIGN: noted, the round trip is stated for NUL-free strings) -/
example : decode (.prim .str .done) {} (encode (.prim .str .done) (.prim (.bytes [65, 0, 66]) .done))
    = some (.prim (.bytes [65]) .done, []) := by decide +kernel

/-! ## 2. generated: write schema = read schema for every restartable class -/

def schemaPairOk (e : String × Sch × Sch) : Bool := decide (e.2.1 = e.2.2)

/-- **For each restartable class, each factory and the top-level dump of `do_simulation`, the list
of items written equals the list of items read** (kinds, widths, order, loop structure and the
expressions that give the loop counts).  Regenerated from the source on every run. -/
theorem schemas_match : all.all schemaPairOk = true := by decide +kernel

/-- hence the restart constructor of every class reads back exactly what its `write_restart_file`
wrote (for every state of the object and every content of the rest of the file) -/
theorem generated_roundtrip (e : String × Sch × Sch) (he : e ∈ all) (env : Env) (v : Val) (tail : Bytes)
    (h : conf e.2.1 env v = true) : decode e.2.2 env (encode e.2.1 v ++ tail) = some (v, tail) := by
  have he : e.2.1 = e.2.2 := of_decide_eq_true (List.all_eq_true.mp schemas_match e he)
  rw [← he]
  exact codec_roundtrip _ env v tail h

example : all.length ≥ 25 := by decide

/-! ## 3. generated: members that are not stored are recomputed by the same expression -/

def exprsStoredOnly (l : List (String × DExpr)) : Bool := l.all (fun e => e.2.storedOnly)

/-- **Every member of `DensitySubGrid` / `HydroDensitySubGrid` that is not in the restart file gets,
in the restart constructor, the SAME expression of stored members and literals as on the normal
construction path** (`_inv_cell_size` is stored since fix 72d698b).  A syntactic condition, sufficient
for bit-identity under any deterministic floating-point semantics (`derived_values_equal`). -/
theorem derived_same_expression :
    derivedCtor = derivedRestart ∧ exprsStoredOnly derivedCtor = true :=
  -- `rfl` compares the two generated lists as terms; `decide` would compare every name character by character
  ⟨rfl, by decide +kernel⟩

/-- under ANY interpretation of literals, stored members and arithmetic the two constructors give the
not-stored members the same values -/
theorem derived_values_equal {α : Type} (litv : String → α) (fld : String → Nat → α) (oth : String → α)
    (neg : α → α) (add sub mul div : α → α → α) :
    derivedCtor.map (fun e => (e.1, e.2.eval litv fld oth neg add sub mul div))
      = derivedRestart.map (fun e => (e.1, e.2.eval litv fld oth neg add sub mul div)) := by
  rw [derived_same_expression.1]

/-- and the value does not depend on anything that is not stored -/
theorem storedOnly_eval {α : Type} (litv : String → α) (fld : String → Nat → α) (oth oth' : String → α)
    (neg : α → α) (add sub mul div : α → α → α) (e : DExpr) (h : e.storedOnly = true) :
    e.eval litv fld oth neg add sub mul div = e.eval litv fld oth' neg add sub mul div := by
  induction e with
  | lit s => rfl
  | field n i => rfl
  | other s => cases h
  | neg a ih => simp only [DExpr.eval, ih h]
  | add a b iha ihb | sub a b iha ihb | mul a b iha ihb | div a b iha ihb =>
    simp only [DExpr.storedOnly, Bool.and_eq_true] at h
    simp only [DExpr.eval, iha h.1, ihb h.2]

example : derivedCtor.length ≥ 5 := by decide

/-! ## 4. transient fields: the limiter array has its constructor value at every dump point -/

/-- the loops found in the source have the shape the hand model `limCtor` / `resetCell` mirrors
(`a[2i] = DBL_MAX, a[2i+1] = -DBL_MAX` for `i < 5n` in both constructors;
`a[10i+2j] = DBL_MAX, a[10i+2j+1] = -DBL_MAX` for `i < n, j < 5` in `update_conserved_variables`) -/
theorem limiter_sites_as_modelled :
    limiters_ctor = [⟨2, 0, 0, 5, 1, .lit "DBL_MAX"⟩, ⟨2, 0, 1, 5, 1, .neg (.lit "DBL_MAX")⟩] ∧
    limiters_restart = limiters_ctor ∧
    limiters_step = [⟨10, 2, 0, 1, 5, .lit "DBL_MAX"⟩, ⟨10, 2, 1, 1, 5, .neg (.lit "DBL_MAX")⟩] :=
  ⟨rfl, rfl, rfl⟩

/-- index `idx` is hit by the assignment `a` in a subgrid of `n` cells -/
def AffAssign.hits (a : AffAssign) (n idx : Nat) : Prop :=
  ∃ i j, i < a.ni * n ∧ j < a.nj ∧ a.ci * i + a.cj * j + a.c0 = idx

theorem hits_pairs {c : Nat} (e : DExpr) (hc : c < 2) (n idx : Nat) :
    AffAssign.hits ⟨2, 0, c, 5, 1, e⟩ n idx ↔ idx < 10 * n ∧ idx % 2 = c := by
  constructor
  · rintro ⟨i, j, hi, hj, h⟩
    dsimp only at hi hj h
    omega
  · rintro ⟨h1, h2⟩
    exact ⟨idx / 2, 0, by dsimp only; omega, Nat.one_pos, by dsimp only; omega⟩

theorem hits_cells {c : Nat} (e : DExpr) (hc : c < 2) (n idx : Nat) :
    AffAssign.hits ⟨10, 2, c, 1, 5, e⟩ n idx ↔ idx < 10 * n ∧ idx % 2 = c := by
  constructor
  · rintro ⟨i, j, hi, hj, h⟩
    dsimp only at hi hj h
    omega
  · rintro ⟨h1, h2⟩
    exact ⟨idx / 10, idx % 10 / 2, by dsimp only; omega, by dsimp only; omega, by dsimp only; omega⟩

/-- the constructor loops write `+DBL_MAX` exactly to the even and `-DBL_MAX` exactly to the odd
indices below `10 n`, and so do the loops of the last sweep of a step: the generated loop nests denote
the array `limCtor` -/
theorem limiter_loops_denote (n idx : Nat) :
    (AffAssign.hits ⟨2, 0, 0, 5, 1, .lit "DBL_MAX"⟩ n idx ↔ idx < 10 * n ∧ idx % 2 = 0) ∧
    (AffAssign.hits ⟨2, 0, 1, 5, 1, .neg (.lit "DBL_MAX")⟩ n idx ↔ idx < 10 * n ∧ idx % 2 = 1) ∧
    (AffAssign.hits ⟨10, 2, 0, 1, 5, .lit "DBL_MAX"⟩ n idx ↔ idx < 10 * n ∧ idx % 2 = 0) ∧
    (AffAssign.hits ⟨10, 2, 1, 1, 5, .neg (.lit "DBL_MAX")⟩ n idx ↔ idx < 10 * n ∧ idx % 2 = 1) :=
  ⟨hits_pairs _ (by decide) n idx, hits_pairs _ (by decide) n idx,
   hits_cells _ (by decide) n idx, hits_cells _ (by decide) n idx⟩

theorem limRun_no_gradient (n : Nat) (a : Nat → Lim) (post : List LimOp)
    (hpost : ∀ o ∈ post, isGradient o = false) (idx : Nat) (h : idx < 10 * n) (ha : ∀ i, i < 10 * n → a i = limCtor i) :
    limRun n a post idx = limCtor idx := by
  induction post generalizing a with
  | nil => exact ha idx h
  | cons o post ih =>
    have ho := hpost o (by simp)
    have hrest : ∀ o' ∈ post, isGradient o' = false := fun o' h' => hpost o' (by simp [h'])
    simp only [limRun, List.foldl_cons] at ih ⊢
    apply ih _ hrest
    intro i hi
    cases o with
    | gradientSweep f => cases ho
    | updateConserved => exact resetCells_lt _ hi
    | slopeLimit | predict | fluxSweep | updatePrimitives => exact ha i hi

/-- **At every dump point (end of a step) the not-stored limiter array of a subgrid has exactly the
value the restart constructor gives it**: whatever the gradient sweeps of the step (and of all earlier
steps) wrote, once `update_conserved_variables` has run and no gradient sweep follows it in the step
(the task graph of C07 orders every gradient sweep of a subgrid before its update), every entry is
`+DBL_MAX` (even index) / `-DBL_MAX` (odd index). -/
theorem transient_fields_reset (n : Nat) (a : Nat → Lim) (pre post : List LimOp)
    (hpost : ∀ o ∈ post, isGradient o = false) (idx : Nat) (h : idx < 10 * n) :
    limRun n a (pre ++ [LimOp.updateConserved] ++ post) idx = limCtor idx := by
  simp only [limRun, List.foldl_append, List.foldl_cons, List.foldl_nil]
  apply limRun_no_gradient n _ post hpost idx h
  exact fun i hi => resetCells_lt _ hi

/-- non-vacuity: a step in task order; the hypothesis cannot be dropped (a gradient sweep after the
update leaves other values) -/
example (f : Nat → Lim) : limRun 3 (fun _ => .val 5)
    [.gradientSweep f, .slopeLimit, .predict, .fluxSweep, .updateConserved, .updatePrimitives] 7 = .nmax :=
  transient_fields_reset 3 _ [.gradientSweep f, .slopeLimit, .predict, .fluxSweep] [.updatePrimitives]
    (fun o ho => by rw [List.mem_singleton.mp ho]; rfl) 7 (by decide)
example : limRun 1 (fun _ => .pmax) [.updateConserved, .gradientSweep (fun _ => .val 1)] 0 ≠ limCtor 0 := by
  decide

/-! ## 5. identical continuation (partial: the step function is abstract) -/

/-- the invariant of the states at dump points: derived members are the derivation of the stored
ones, transient members have their constructor value -/
def AtDumpPoint {σ δ τ : Type} (D : σ → δ) (T0 : τ) (s : Sim σ δ τ) : Prop :=
  s.derived = D s.stored ∧ s.transient = T0

/-- **Stop after any step, restart, continue: the same states as the uninterrupted run.**
Given (1) the reader returns the stored part the writer wrote (`codec_roundtrip` + `schemas_match`),
(2) the restart constructor derives the not-stored members by the function `D` that also holds in the
running program (`derived_same_expression`), (3) every other member has the value `T0` at every dump
point and the restart constructor sets `T0` (`transient_fields_reset`): for every deterministic step
function that preserves (2) and (3) and every number `n` of further steps. -/
theorem continuation_identical_partial {σ δ τ : Type} (step : Sim σ δ τ → Sim σ δ τ) (D : σ → δ) (T0 : τ)
    (dump : σ → Bytes) (read : Bytes → Option σ)
    (hcodec : ∀ x, read (dump x) = some x)
    (s : Sim σ δ τ) (hs : AtDumpPoint D T0 s) (n : Nat) :
    (read (dump s.stored)).map (fun x => run step n ⟨x, D x, T0⟩) = some (run step n s) := by
  obtain ⟨h1, h2⟩ := hs
  rw [hcodec]
  cases s with
  | mk st de tr =>
    simp only at h1 h2
    subst h1 h2
    rfl

theorem run_add {S : Type} (step : S → S) (a b : Nat) (s : S) : run step (a + b) s = run step b (run step a s) := by
  induction a generalizing s with
  | zero => simp [run]
  | succ a ih => rw [Nat.succ_add]; simp only [run]; exact ih (step s)

theorem atDumpPoint_run {σ δ τ : Type} (step : Sim σ δ τ → Sim σ δ τ) (D : σ → δ) (T0 : τ)
    (hstep : ∀ s, AtDumpPoint D T0 s → AtDumpPoint D T0 (step s)) (s : Sim σ δ τ) (hs : AtDumpPoint D T0 s) (k : Nat) :
    AtDumpPoint D T0 (run step k s) := by
  induction k generalizing s with
  | zero => exact hs
  | succ k ih => exact ih (step s) (hstep s hs)

/-- one stop/restart cycle: run `k` steps, dump, read the dump into a fresh process -/
def cycle {σ δ τ : Type} (step : Sim σ δ τ → Sim σ δ τ) (D : σ → δ) (T0 : τ) (dump : σ → Bytes) (read : Bytes → Option σ)
    (k : Nat) (s : Sim σ δ τ) : Option (Sim σ δ τ) :=
  (read (dump (run step k s).stored)).map (fun x => ⟨x, D x, T0⟩)

/-- a chain of stop/restart cycles of lengths `ks` -/
def chain {σ δ τ : Type} (step : Sim σ δ τ → Sim σ δ τ) (D : σ → δ) (T0 : τ) (dump : σ → Bytes) (read : Bytes → Option σ) :
    List Nat → Sim σ δ τ → Option (Sim σ δ τ)
  | [], s => some s
  | k :: ks, s => match cycle step D T0 dump read k s with
    | none => none
    | some s' => chain step D T0 dump read ks s'

/-- **Every chain of repeated stop/restart cycles** (stop after `k₁` steps, restart, stop after `k₂`
more, …) ends in the state of the uninterrupted run after `k₁ + k₂ + …` steps. -/
theorem chain_identical_partial {σ δ τ : Type} (step : Sim σ δ τ → Sim σ δ τ) (D : σ → δ) (T0 : τ)
    (dump : σ → Bytes) (read : Bytes → Option σ)
    (hcodec : ∀ x, read (dump x) = some x)
    (hstep : ∀ s, AtDumpPoint D T0 s → AtDumpPoint D T0 (step s))
    (ks : List Nat) (s : Sim σ δ τ) (hs : AtDumpPoint D T0 s) :
    chain step D T0 dump read ks s = some (run step ks.sum s) := by
  induction ks generalizing s with
  | nil => simp [chain, run]
  | cons k ks ih =>
    have hk := atDumpPoint_run step D T0 hstep s hs k
    have hc : cycle step D T0 dump read k s = some (run step k s) :=
      continuation_identical_partial step D T0 dump read hcodec (run step k s) hk 0
    simp only [chain, hc, List.sum_cons]
    rw [ih (run step k s) hk, run_add]

/-- the codec of this file satisfies hypothesis (1) for every schema whose write and read side agree -/
theorem codec_gives_hcodec (s : Sch) (env : Env) (v : Val) (h : conf s env v = true) :
    (decode s env (encode s v)).map (·.1) = some v := by
  rw [codec_roundtrip_exact s env v h]; rfl

/-- non-vacuity of the abstract theorem: a step that recomputes the derived part and resets the transient one -/
def exStep (s : Sim Nat Nat Nat) : Sim Nat Nat Nat :=
  ⟨s.stored + s.derived + s.transient, 2 * (s.stored + s.derived + s.transient), 0⟩
example : chain exStep (fun x => 2 * x) 0 (fun x => [x]) List.head? [2, 0, 3] ⟨1, 2, 0⟩
    = some (run exStep [2, 0, 3].sum ⟨1, 2, 0⟩) :=
  chain_identical_partial exStep (fun x => 2 * x) 0 (fun x => [x]) List.head? (fun _ => rfl)
    (fun _ _ => ⟨rfl, rfl⟩) [2, 0, 3] ⟨1, 2, 0⟩ ⟨rfl, rfl⟩

/-! ## 6. every data member is classified (generated), and what that buys

`members` lists EVERY data member of every restartable class (taken from the class definitions, not from
the restart functions) and every variable of `do_simulation` that lives across time steps.  A member
that is neither written, nor recomputed, nor reset, nor rebuilt from the stored parameter file, nor
excluded by the property statement is `unclassified`; the theorem below then fails to compile and the
check names the member. -/

/-- **No member of a restartable class and no loop-carried variable of the simulation is left out.** -/
theorem all_members_classified : members.all (fun m => decide (m.kind ≠ MKind.unclassified)) = true := by decide +kernel

set_option maxRecDepth 20000 in
example : members.length ≥ 200 := by decide +kernel
set_option maxRecDepth 20000 in
example : (members.filter (fun m => m.kind = .derived)).length ≥ 5 := by decide +kernel
set_option maxRecDepth 20000 in
example : (members.filter (fun m => m.kind = .transient)).length ≥ 5 := by decide +kernel

/-- kind of the member with number `i` in the generated table (beyond the table: not claimed) -/
def genKind (i : Nat) : MKind := match members[i]? with
  | some m => m.kind
  | none => .excluded

theorem MKind.claimed_iff {k : MKind} (h : k ≠ .unclassified) : k.claimed = true ↔ k ≠ .excluded := by
  cases k <;> simp [MKind.claimed] at h ⊢

/-- in the generated table "the restart claims the member" means exactly "not excluded by the property" -/
theorem generated_claimed_iff (i : Nat) : (genKind i).claimed = true ↔ genKind i ≠ .excluded := by
  apply MKind.claimed_iff
  unfold genKind
  cases hm : members[i]? with
  | none => exact MKind.noConfusion
  | some m => simpa using List.all_eq_true.mp all_members_classified m (List.mem_of_getElem? hm)

/-- the facts that hold at a dump point: derived members equal their expression of the stored members,
transient / rebuilt members have the value the constructors give them -/
structure AtDump {α : Type} (kind : Nat → MKind) (D : Nat → MState α → α) (T0 : MState α) (blank : α)
    (s : MState α) : Prop where
  derived : ∀ m, kind m = .derived → s m = D m (dumpView kind blank s)
  fixed : ∀ m, (kind m).fixed = true → s m = T0 m

/-- **The restart path rebuilds every claimed member**: from the dump alone (`dumpView` forgets everything
that is not in the file) the restart constructors produce, member by member, the dumped process state —
for every classification table, every member that is not excluded/unclassified. -/
theorem restore_dump_claimed {α : Type} (kind : Nat → MKind) (D : Nat → MState α → α) (T0 : MState α) (blank : α)
    (s : MState α) (h : AtDump kind D T0 blank s) (m : Nat) (hc : (kind m).claimed = true) :
    restoreView kind D T0 (dumpView kind blank s) m = s m := by
  unfold restoreView
  cases hk : kind m
  case derived => exact (h.derived m hk).symm
  case excluded => simp [hk, MKind.claimed] at hc
  case unclassified => simp [hk, MKind.claimed] at hc
  case transient => simpa [MKind.fromDump] using (h.fixed m (by simp [hk, MKind.fixed])).symm
  case rebuilt => simpa [MKind.fromDump] using (h.fixed m (by simp [hk, MKind.fixed])).symm
  all_goals simp [dumpView, hk, MKind.fromDump]

/-- two process states agree on every member the restart claims -/
def AgreeClaimed {α : Type} (kind : Nat → MKind) (s s' : MState α) : Prop :=
  ∀ m, (kind m).claimed = true → s m = s' m

theorem agree_run {α : Type} (kind : Nat → MKind) (step : MState α → MState α)
    (hindep : ∀ s s', AgreeClaimed kind s s' → AgreeClaimed kind (step s) (step s'))
    (n : Nat) (s s' : MState α) (h : AgreeClaimed kind s s') : AgreeClaimed kind (run step n s) (run step n s') := by
  induction n generalizing s s' with
  | zero => exact h
  | succ n ih => exact ih _ _ (hindep s s' h)

/-- **Continuation over the member table (partial).**  The state of a process is the valuation of ALL
members of the generated table (so "the model state covers everything a step reads" is no longer an
assumption about an abstract state: it is `all_members_classified` plus the completeness of the member
list extracted from the class definitions).  If a step does not let excluded members (wall-clock timers,
the re-seeded photon random stream, diagnostics) influence the others, then after a restart from the
dump of a dump-point state every later state agrees with the uninterrupted run on every claimed member.
Still partial: `step` is abstract and its independence of the excluded members is a hypothesis. -/
theorem continuation_identical_members_partial {α : Type} (kind : Nat → MKind) (D : Nat → MState α → α)
    (T0 : MState α) (blank : α) (step : MState α → MState α)
    (hindep : ∀ s s', AgreeClaimed kind s s' → AgreeClaimed kind (step s) (step s'))
    (s : MState α) (hs : AtDump kind D T0 blank s) (n : Nat) :
    AgreeClaimed kind (run step n (restoreView kind D T0 (dumpView kind blank s))) (run step n s) :=
  agree_run kind step hindep n _ _ (fun m hc => restore_dump_claimed kind D T0 blank s hs m hc)

/-- the same for the generated table: agreement on every member that the property does not exclude -/
theorem continuation_generated_partial {α : Type} (D : Nat → MState α → α) (T0 : MState α) (blank : α)
    (step : MState α → MState α)
    (hindep : ∀ s s', AgreeClaimed genKind s s' → AgreeClaimed genKind (step s) (step s'))
    (s : MState α) (hs : AtDump genKind D T0 blank s) (n : Nat) (i : Nat) (hi : genKind i ≠ .excluded) :
    run step n (restoreView genKind D T0 (dumpView genKind blank s)) i = run step n s i :=
  continuation_identical_members_partial genKind D T0 blank step hindep s hs n i ((generated_claimed_iff i).mpr hi)

/-- an unclassified member breaks it: the restart gives it the constructor value whatever it was -/
example : restoreView (fun _ => MKind.unclassified) (fun _ _ => 0) (fun _ => 7)
    (dumpView (fun _ => MKind.unclassified) 0 (fun _ => 5)) 0 ≠ (fun _ => 5 : MState Nat) 0 := by decide +kernel

/-- non-vacuity: a three-member state (stored, derived = 2·stored, transient = 0) and a step that keeps the invariant -/
example : AtDump (fun m => if m = 0 then MKind.stored else if m = 1 then .derived else .transient)
    (fun _ d => 2 * d 0) (fun _ => 0) 0 (fun m => if m = 0 then 3 else if m = 1 then 6 else 0) :=
  ⟨by intro m hm; by_cases h0 : m = 0 <;> by_cases h1 : m = 1 <;> simp_all [dumpView, MKind.fromDump],
   by intro m hm; by_cases h0 : m = 0 <;> by_cases h1 : m = 1 <;> simp_all [MKind.fixed]⟩

/-! ## 7. the continuation theorem for the MODELLED hydro step (no abstract step)

`HydroStep.hydroStep` (C04/C10's statement-by-statement model of one step of the whole grid over
`Grid (HV ℝ)`: gradient sweeps, slope limiter, prediction, flux sweeps, `update_conserved_variables`,
`set_primitive_variables`).  A cell `HV` holds what `HydroVariables::write_restart_file` stores
(`prim`, `cons`, `dcons`, `grad`, `acc`, `eterm`) and the limiter pair `lo`/`hi`, which lives in
`HydroDensitySubGrid::_primitive_variable_limiters` and is NOT stored. -/

namespace Hydro
open CMacVerif.HydroUpdate CMacVerif.HydroStep

/-- dump + restart of one cell: every stored field as it was (`codec_roundtrip` + `schemas_match`), the
limiters as the restart constructor sets them (`a[2i] = DBL_MAX, a[2i+1] = -DBL_MAX`, `dmax` = `DBL_MAX`) -/
def restoreCell (dmax : ℝ) (h : HV ℝ) : HV ℝ :=
  { h with lo := ⟨dmax, ⟨dmax, dmax, dmax⟩, dmax⟩, hi := ⟨-dmax, ⟨-dmax, -dmax, -dmax⟩, -dmax⟩ }

/-- dump + restart of the grid -/
def restoreGrid (dmax : ℝ) (s : Grid (HV ℝ)) : Grid (HV ℝ) := fun x => restoreCell dmax (s x)

/-- the stored fields are untouched by dump + restart, whatever the state -/
theorem restoreCell_stored (dmax : ℝ) (h : HV ℝ) :
    (restoreCell dmax h).prim = h.prim ∧ (restoreCell dmax h).cons = h.cons ∧ (restoreCell dmax h).dcons = h.dcons ∧
    (restoreCell dmax h).grad = h.grad ∧ (restoreCell dmax h).acc = h.acc ∧ (restoreCell dmax h).eterm = h.eterm :=
  ⟨rfl, rfl, rfl, rfl, rfl, rfl⟩

/-- **the state at the end of every modelled step is a fixed point of dump + restart**: whatever the
step did with the limiters (gradient sweeps over any list of calls, any flux function, limiter,
prediction), `update_conserved_variables` leaves exactly the restart constructor's values -/
theorem step_end_is_dump_point (flux : FluxFn ℝ) (pr : Params ℝ) (limiter : HV ℝ → Grad ℝ)
    (predict : HV ℝ → Q ℝ) (gradOps fluxOps : List Op) (s : Grid (HV ℝ)) :
    restoreGrid pr.dmax (hydroStep flux pr limiter predict gradOps fluxOps s)
      = hydroStep flux pr limiter predict gradOps fluxOps s := by
  funext x
  simp [restoreGrid, restoreCell, hydroStep, mapCells, updateConserved, updateConservedTag]

/-- several steps, one `Params` per step (the time step changes) -/
noncomputable def runSteps (flux : FluxFn ℝ) (limiter : Params ℝ → HV ℝ → Grad ℝ)
    (predict : Params ℝ → HV ℝ → Q ℝ) (ops : List Op) : List (Params ℝ) → Grid (HV ℝ) → Grid (HV ℝ)
  | [], s => s
  | pr :: prs, s => runSteps flux limiter predict ops prs (hydroStep flux pr (limiter pr) (predict pr) ops ops s)

/-- **continuation_identical for the modelled hydro step**: run `k ≥ 1` steps (here: the last of them,
`pr`, from any state `s`), dump, restart (`restoreGrid`), run any further steps `prs`: the same grid
states as the run that never stopped.  Every flux function, limiter, prediction, list of sweep
calls (= every layout), every time-step sequence; no hypothesis besides `dmax` being the constant
the restart constructor uses. -/
theorem continuation_identical_hydro (flux : FluxFn ℝ) (limiter : Params ℝ → HV ℝ → Grad ℝ)
    (predict : Params ℝ → HV ℝ → Q ℝ) (ops : List Op) (pr : Params ℝ) (prs : List (Params ℝ)) (s : Grid (HV ℝ)) :
    runSteps flux limiter predict ops prs
        (restoreGrid pr.dmax (hydroStep flux pr (limiter pr) (predict pr) ops ops s))
      = runSteps flux limiter predict ops prs (hydroStep flux pr (limiter pr) (predict pr) ops ops s) := by
  rw [step_end_is_dump_point]

/-- that the dumped state is the END of a step is what makes `step_end_is_dump_point` true: in the middle
of a step (after the gradient sweeps) the limiters are not the constructor values and dump + restart of a
cell is not the identity -/
example : ∃ h : HV ℝ, restoreCell 1 h ≠ h :=
  ⟨⟨⟨0, ⟨0, 0, 0⟩, 0⟩, Grad.zero, ⟨0, ⟨0, 0, 0⟩, 0⟩, ⟨0, ⟨0, 0, 0⟩, 0⟩, ⟨0, ⟨0, 0, 0⟩, 0⟩, ⟨0, ⟨0, 0, 0⟩, 0⟩, ⟨0, 0, 0⟩, 0⟩,
   by intro h; have := congrArg (fun c => c.lo.d) h; simp [restoreCell] at this⟩

end Hydro

end CMacVerif.RestartCodec
