import CMacVerif.Lemmas.HLLC
import CMacVerif.Lemmas.ExactFlux
/-!
# C05 — Riemann fluxes respect the symmetries of the Euler equations

Models: `Model/HLLC.lean` (`HLLCRiemannSolver::solve_for_flux`), `Model/RiemannVacuum.lean` (vacuum
branches of `ExactRiemannSolver`), `Model/ExactFlux.lean` (the complete
`ExactRiemannSolver::solve_for_flux`, last section), instantiated at `ℝ` with the `DBL_MIN` guards
set to 0 (`tiny = 0`) and `std::isinf(1/x)` true only at `x = 0` (`ovf = 0`).
`g` is the adiabatic index handed to the constructors; the code clamps it to
`G = max(g, 1.00000001) > 1`, so no hypothesis on `g` is needed unless stated.
-/
namespace CMacVerif.C05
open CMacVerif CMacVerif.RiemannVacuum CMacVerif.HLLC

/-- `HLLCRiemannSolver(g).solve_for_flux(ρL, uL, PL, ρR, uR, PR, ·, ·, ·, n, vface)` over `ℝ` -/
noncomputable abbrev hllc (g rhoL : ℝ) (uL : V3 ℝ) (PL rhoR : ℝ) (uR : V3 ℝ) (PR : ℝ)
    (n vf : V3 ℝ) : Flux ℝ :=
  solveForFlux 0 0 g rhoL uL PL rhoR uR PR n vf

/-- sound speed as the HLLC code computes it -/
noncomputable def sound (g rho P : ℝ) : ℝ := Real.sqrt (effGamma g * P * (1.0 / (rho + 0)))

theorem sound_eq (g rho P : ℝ) : sound g rho P = soundSpeed (effGamma g) (1.0 / rho) P := by
  unfold sound soundSpeed; rw [add_zero]; rfl

/-- the wave-speed estimates the code computes on its HLLC path for these inputs -/
noncomputable def hllcWaves (g rhoL : ℝ) (uL : V3 ℝ) (PL rhoR : ℝ) (uR : V3 ℝ) (PR : ℝ)
    (n vf : V3 ℝ) : Waves ℝ :=
  let f := faceFrame uL uR n vf
  waves 0 (effGamma g) rhoL f.vL PL (1.0 / (PL + 0)) (sound g rhoL PL) rhoR f.vR PR
    (1.0 / (PR + 0)) (sound g rhoR PR) (f.vR - f.vL) (sound g rhoL PL + sound g rhoR PR)

/-- the inputs for which `solve_for_flux` takes its HLLC path: no vacuum state, and the states
do not separate fast enough to generate vacuum -/
def OnHLLCPath (g rhoL : ℝ) (uL : V3 ℝ) (PL rhoR : ℝ) (uR : V3 ℝ) (PR : ℝ) (n vf : V3 ℝ) : Prop :=
  0 < rhoL ∧ 0 < PL ∧ 0 < rhoR ∧ 0 < PR ∧
    (faceFrame uL uR n vf).vR - (faceFrame uL uR n vf).vL
      < tdgm1 (effGamma g) * (sound g rhoL PL + sound g rhoR PR)

theorem hllc_of_onPath {g rhoL PL rhoR PR : ℝ} {uL uR n vf : V3 ℝ}
    (h : OnHLLCPath g rhoL uL PL rhoR uR PR n vf) :
    hllc g rhoL uL PL rhoR uR PR n vf =
      mainFlux 0 (effGamma g) rhoL PL (1.0 / (rhoL + 0)) (1.0 / (PL + 0)) (sound g rhoL PL) rhoR PR
        (1.0 / (rhoR + 0)) (1.0 / (PR + 0)) (sound g rhoR PR)
        ((faceFrame uL uR n vf).vR - (faceFrame uL uR n vf).vL) (sound g rhoL PL + sound g rhoR PR)
        (faceFrame uL uR n vf) n vf := by
  obtain ⟨pL1, pL2, pR1, pR2, hgen⟩ := h
  unfold hllc
  rw [solveForFlux_of_pos g uL uR n vf pL1 pL2 pR1 pR2]
  exact if_neg (not_le.mpr hgen)

/-! ## Galilean covariance -/

/-- **hllc_galilean.**  Adding one velocity `w` to both states and to the face leaves the mass
flux unchanged and transforms momentum and energy flux by the boost formulas
`p' = p + m w`, `E' = E + w·p + ½|w|² m` (`Flux.boost`), in every regime (vacuum included),
for all inputs. -/
theorem hllc_galilean (g rhoL PL rhoR PR : ℝ) (uL uR n vf w : V3 ℝ) :
    hllc g rhoL (uL.add w) PL rhoR (uR.add w) PR n (vf.add w)
      = (hllc g rhoL uL PL rhoR uR PR n vf).boost w := by
  unfold hllc solveForFlux
  simp only [faceFrame_boost]
  split_ifs
  · exact zeroFlux_boost ..
  · exact vacuumFlux_boost ..
  · exact mainFlux_boost ..

/-! ## Mirror antisymmetry -/

/-- **hllc_mirror.**  Exchanging the two states and reversing the normal negates all five flux
components, for all `ρ, P ≥ 0` (vacuum on either side and vacuum generation included), all
velocities, normals and face velocities — provided that on the HLLC path the contact estimate is
non-zero or the outer wave estimates straddle the face (`h0`: `S* ≠ 0 ∨ S_L < 0 < S_R`).  The
hypothesis excludes exactly the set `S* = 0 ∧ (S_L ≥ 0 ∨ S_R ≤ 0)` (contact estimate exactly at
rest *outside* the fan of the outer estimates: unordered wave speeds), on which the code is not
antisymmetric: `hllc_mirror_fails_for_fast_symmetric_collision` below; recorded finding
`hllc:mirror-at-sstar-zero-unordered-speeds`. -/
theorem hllc_mirror (g rhoL PL rhoR PR : ℝ) (uL uR n vf : V3 ℝ)
    (hrL : 0 ≤ rhoL) (hPL : 0 ≤ PL) (hrR : 0 ≤ rhoR) (hPR : 0 ≤ PR)
    (h0' : OnHLLCPath g rhoL uL PL rhoR uR PR n vf →
      (hllcWaves g rhoL uL PL rhoR uR PR n vf).Sstar ≠ 0 ∨
        ((hllcWaves g rhoL uL PL rhoR uR PR n vf).SLmvL + (faceFrame uL uR n vf).vL < 0 ∧
         0 < (hllcWaves g rhoL uL PL rhoR uR PR n vf).SRmvR + (faceFrame uL uR n vf).vR)) :
    (hllc g rhoR uR PR rhoL uL PL n.neg vf).NegOf (hllc g rhoL uL PL rhoR uR PR n vf) := by
  have hG := effGamma_gt_one g
  unfold hllc
  rw [solveForFlux_eq, solveForFlux_eq]
  simp only [faceFrame_mirror]
  have hsw : VacuumExit g rhoR (faceFrame uL uR n vf).mirror.vL PR rhoL
      (faceFrame uL uR n vf).mirror.vR PL ↔ _ := VacuumExit_swap ..
  rw [Bool.and_comm]
  simp only [hsw]
  split_ifs with hb he
  · exact zeroFlux_neg ..
  · exact vacuumExit_flux_mirror _ n vf hrL hPL hrR hPR he
  · rw [not_vacuumExit_iff hrL hPL hrR hPR, not_le] at he
    obtain ⟨⟨pL1, pL2⟩, ⟨pR1, pR2⟩, hgen⟩ := he
    unfold hllcWaves OnHLLCPath at h0'
    simp only [sound_eq, mul_add] at h0'
    simp only [FaceFrame.mirror, neg_sub_neg]
    rw [add_comm (soundSpeed (effGamma g) (1.0 / rhoR) PR)]
    exact mainFlux_mirror (mul_inv_tiny0 pL1.ne') (mul_inv_tiny0 pR1.ne') pL1 pR1
      (waves_SLmvL_neg hG pL2 (soundSpeed_pos hG pL1 pL2)) (waves_SRmvR_pos hG pR2 (soundSpeed_pos hG pR1 pR2))
      fun hz => (h0' ⟨pL1, pL2, pR1, pR2, hgen⟩).resolve_left (not_not.mpr hz)

/-! ## Identical states -/

/-- analytic Euler flux of the state `(ρ, u, P)` through a face with normal `n` moving with
`vface`: `(ρ v, ρ v u' + P n, (½ρ|u'|² + P/(γ-1) + P) v)` with `u' = u - vface`, `v = u'·n`,
transformed to the fixed frame -/
noncomputable def eulerFlux (g rho : ℝ) (u : V3 ℝ) (P : ℝ) (n vf : V3 ℝ) : Flux ℝ :=
  let uf := u.sub vf
  let v := uf.dot n
  (⟨rho * v, (uf.smul (rho * v)).add (n.smul P),
    (1 / 2 * rho * uf.norm2 + P / (effGamma g - 1) + P) * v, 0⟩ : Flux ℝ).boost vf

/-- **hllc_identical.**  Two identical non-vacuum states give the analytic Euler flux of that
state, for every velocity (sub- or supersonic), normal and face velocity. -/
theorem hllc_identical (g rho P : ℝ) (u n vf : V3 ℝ) (hr : 0 < rho) (hP : 0 < P) :
    (hllc g rho u P rho u P n vf).Same (eulerFlux g rho u P n vf) := by
  have hG := effGamma_gt_one g
  have ha : 0 < sound g rho P := sqrt_sound_pos hG hr hP
  -- identical states do not generate vacuum: `v_R - v_L = 0 < 2/(γ-1) · 2a`
  have hgen : (faceFrame u u n vf).vR - (faceFrame u u n vf).vL
      < tdgm1 (effGamma g) * (sound g rho P + sound g rho P) := by
    rw [show (faceFrame u u n vf).vR - (faceFrame u u n vf).vL = 0 from sub_self _]
    exact mul_pos (tdgm1_pos hG) (add_pos ha ha)
  have hpath : OnHLLCPath g rho u P rho u P n vf := ⟨hr, hP, hr, hP, hgen⟩
  rw [hllc_of_onPath hpath]
  obtain ⟨e1, e2, e3⟩ := mainFlux_identical (G := effGamma g) (1.0 / (rho + 0)) (1.0 / (P + 0))
    (u.sub vf) ((u.sub vf).dot n) n vf hr hP ha
  refine ⟨e1, e2, e3.trans ?_⟩
  unfold eulerFlux plainFlux deboost Flux.boost gm1inv
  simp only [lit1, lit05, add_zero]
  have h1 : effGamma g - 1 ≠ 0 := (sub_pos.mpr hG).ne'
  field_simp
  ring

/-! ## Vacuum -/

/-- **vacuum_same_as_exact.**  In every vacuum regime (left state vacuum, right state vacuum,
both, or vacuum generated between two receding gases) — i.e. whenever the exact solver's `solve`
takes one of its vacuum exits — the HLLC solver returns exactly the flux that
`ExactRiemannSolver::solve_for_flux` assembles from the exact solver's sampled state.
No hypothesis on the inputs. -/
theorem vacuum_same_as_exact (g rhoL PL rhoR PR : ℝ) (uL uR n vf : V3 ℝ) (F : Flux ℝ)
    (h : solveForFluxIfVacuum 0 g rhoL uL PL rhoR uR PR n vf = some F) :
    (hllc g rhoL uL PL rhoR uR PR n vf).Same F := by
  unfold solveForFluxIfVacuum at h
  simp only [solveIfVacuum_eq, lit0] at h
  unfold hllc
  rw [solveForFlux_eq]
  -- without a vacuum exit `h` reads `none = some F`
  split_ifs at h with he
  cases h
  simp only [if_pos he]
  split_ifs with hb
  · rw [Bool.and_eq_true] at hb
    simp [vacuumExitSample, solveVacuum, hb.1, hb.2, fluxFromSample, vacuumState, Flux.Same, lit0]
  · exact ⟨rfl, rfl, rfl⟩

/-- **vacuum_sample_physical.**  Every state returned by a vacuum exit of
`ExactRiemannSolver::solve`, at every sampling speed `x/t = dxdt`, has `ρ ≥ 0` and `P ≥ 0`
(given `ρ, P ≥ 0` on input; all velocities, all `g`).  The same samplers at `x/t = 0` are the
ones the HLLC solver uses (`vacuumSample_eq`, `vacuum_same_as_exact`). -/
theorem vacuum_sample_physical (g rhoL uL PL rhoR uR PR dxdt : ℝ) (s : Sample ℝ)
    (hrL : 0 ≤ rhoL) (hPL : 0 ≤ PL) (hrR : 0 ≤ rhoR) (hPR : 0 ≤ PR)
    (h : solveIfVacuum 0 g rhoL uL PL rhoR uR PR dxdt = some s) : 0 ≤ s.rho ∧ 0 ≤ s.P := by
  rw [solveIfVacuum_eq] at h
  split_ifs at h
  cases h
  exact (solveVacuum_region ..).physical hrL hPL hrR hPR

/-- the state the HLLC solver samples on its vacuum path is physical as well -/
theorem hllc_vacuum_sample_physical (g rhoL vL PL aL rhoR vR PR aR : ℝ) (vacL vacR : Bool)
    (hrL : 0 ≤ rhoL) (hPL : 0 ≤ PL) (hrR : 0 ≤ rhoR) (hPR : 0 ≤ PR) :
    0 ≤ (vacuumSample (effGamma g) rhoL vL PL aL vacL rhoR vR PR aR vacR).rho ∧
      0 ≤ (vacuumSample (effGamma g) rhoL vL PL aL vacL rhoR vR PR aR vacR).P := by
  unfold vacuumSample
  rw [HLLC.sampleRightVacuum_eq, HLLC.sampleLeftVacuum_eq, HLLC.sampleVacuumGeneration_eq]
  split_ifs
  · exact (sampleRightVacuum_region rhoR vR PR aR).physical hrL hPL hrR hPR
  · exact (sampleLeftVacuum_region rhoL vL PL aL).physical hrL hPL hrR hPR
  · exact sampleVacuumGeneration_region.physical hrL hPL hrR hPR

/-- **vacuum_galilean.**  Boosting both gases and the sampling speed by `w` leaves the sampled
density and pressure unchanged and shifts the sampled velocity by `w` (`Sample.boost`; the
vacuum state keeps its conventional velocity 0), in every vacuum regime, for all inputs. -/
theorem vacuum_galilean (g rhoL uL PL rhoR uR PR dxdt w : ℝ) :
    solveIfVacuum 0 g rhoL (uL + w) PL rhoR (uR + w) PR (dxdt + w)
      = (solveIfVacuum 0 g rhoL uL PL rhoR uR PR dxdt).map (Sample.boost w) := by
  simp only [solveIfVacuum_eq, VacuumExit, add_sub_add_right_eq_sub]
  split_ifs
  · exact congrArg some (solveVacuum_galilean (effGamma_gt_one g) ..)
  · rfl

/-- **vacuum_fan_continuous.**  The rarefaction fan next to vacuum joins the undisturbed gas at
its head (`x/t = u ∓ a`) and reaches `ρ = P = 0` at its tail (`x/t = u ± 2a/(γ-1)`), on both
sides (the statements that failed before fix 44e3aa0). -/
theorem vacuum_fan_continuous (g rho u P a : ℝ) (ha : a ≠ 0) (tag : Nat) :
    RiemannVacuum.leftFan (effGamma g) rho u P a (u - a) tag = ⟨rho, u, P, -1, tag⟩ ∧
    RiemannVacuum.rightFan (effGamma g) rho u P a (u + a) tag = ⟨rho, u, P, 1, tag⟩ ∧
    (RiemannVacuum.leftFan (effGamma g) rho u P a (u + tdgm1 (effGamma g) * a) tag).rho = 0 ∧
    (RiemannVacuum.leftFan (effGamma g) rho u P a (u + tdgm1 (effGamma g) * a) tag).P = 0 ∧
    (RiemannVacuum.rightFan (effGamma g) rho u P a (u - tdgm1 (effGamma g) * a) tag).rho = 0 ∧
    (RiemannVacuum.rightFan (effGamma g) rho u P a (u - tdgm1 (effGamma g) * a) tag).P = 0 := by
  have hG := effGamma_gt_one g
  exact ⟨leftFan_head hG rho u P a ha tag, rightFan_head hG rho u P a ha tag,
    (leftFan_tail hG rho u P a ha tag).1, (leftFan_tail hG rho u P a ha tag).2,
    (rightFan_tail hG rho u P a ha tag).1, (rightFan_tail hG rho u P a ha tag).2⟩

/-! ## Textbook HLLC -/

/-- Toro's wave-speed estimates for these inputs (in the frame of the face) -/
noncomputable def toroSpeeds (g rhoL : ℝ) (uL : V3 ℝ) (PL rhoR : ℝ) (uR : V3 ℝ) (PR : ℝ)
    (n vf : V3 ℝ) : Toro.Speeds :=
  Toro.speeds (effGamma g) rhoL ((uL.sub vf).dot n) PL rhoR ((uR.sub vf).dot n) PR

/-- Toro's HLLC flux `F_K + S_K (U*_K - U_K)` / `F_K` (see `HLLC.Toro`) evaluated in the frame
of the face and transformed to the fixed frame -/
noncomputable def toroFlux (g rhoL : ℝ) (uL : V3 ℝ) (PL rhoR : ℝ) (uR : V3 ℝ) (PR : ℝ)
    (n vf : V3 ℝ) : Flux ℝ :=
  let T := Toro.flux (effGamma g) rhoL (uL.sub vf) PL rhoR (uR.sub vf) PR n
  (⟨T.1, T.2.1, T.2.2, 0⟩ : Flux ℝ).boost vf

/-- **hllc_textbook.**  On the HLLC path, whenever the wave-speed estimates are ordered
(`S_L ≤ S* ≤ S_R`), all five components of the flux the code returns equal Toro's HLLC flux
built from the star states `U*_K` (momentum and energy included: this is the statement that
failed before fix ed44d42). -/
theorem hllc_textbook (g rhoL PL rhoR PR : ℝ) (uL uR n vf : V3 ℝ)
    (hpath : OnHLLCPath g rhoL uL PL rhoR uR PR n vf)
    (h1 : (toroSpeeds g rhoL uL PL rhoR uR PR n vf).SL ≤ (toroSpeeds g rhoL uL PL rhoR uR PR n vf).Sstar)
    (h2 : (toroSpeeds g rhoL uL PL rhoR uR PR n vf).Sstar ≤ (toroSpeeds g rhoL uL PL rhoR uR PR n vf).SR) :
    (hllc g rhoL uL PL rhoR uR PR n vf).Same (toroFlux g rhoL uL PL rhoR uR PR n vf) := by
  rw [hllc_of_onPath hpath, toroFlux, ← deboost_eq_boost]
  exact mainFlux_eq_toro rhoL PL rhoR PR (uL.sub vf) (uR.sub vf) n vf (effGamma_gt_one g)
    hpath.1.ne' hpath.2.2.1.ne' h1

/-! ## No jump where a wave changes direction -/

/-- **hllc_continuous_switch.**  The formulas on the two sides of each switch of the HLLC path
agree on the switch: (a) at `S_K = 0` (`K = L, R`; `SK` is the relative speed `S_K - v_K`) the
corrected flux `F*_K` equals the upwind flux `F_K`; (b) at `S* = 0` (the code's contact estimate
`sStar`, outer waves not at rest, non-degenerate denominator) the left star flux equals the
right star flux. -/
theorem hllc_continuous_switch :
    (∀ (G rho : ℝ) (uf : V3 ℝ) (v P ri SK Ss : ℝ) (n : V3 ℝ), SK + v = 0 →
        starFlux G rho uf v P ri SK Ss n = plainFlux G rho uf v P ri n) ∧
    (∀ (G rL : ℝ) (ufL : V3 ℝ) (vL PL SL rR : ℝ) (ufR : V3 ℝ) (vR PR SR : ℝ) (n : V3 ℝ),
        0 < rL → 0 < rR → SL + vL ≠ 0 → SR + vR ≠ 0 → SL < 0 → 0 < SR →
        sStar 0 rL vL PL SL rR vR PR SR = 0 →
        starFlux G rL ufL vL PL (1.0 / (rL + 0)) SL 0 n
          = starFlux G rR ufR vR PR (1.0 / (rR + 0)) SR 0 n) := by
  constructor
  · intro G rho uf v P ri SK Ss n h
    exact starFlux_wave_at_rest G rho uf v P ri SK Ss n h
  · intro G rL ufL vL PL SL rR ufR vR PR SR n hrL hrR h1 h2 h3 h4 h0
    exact starFlux_agree_at_zero G rL ufL vL PL _ SL rR ufR vR PR _ SR n (mul_inv_tiny0 hrL.ne')
      (mul_inv_tiny0 hrR.ne') h1 h2 hrL hrR h3 h4 h0

/-- On the HLLC path, a contact estimate exactly at rest between outer wave estimates that
straddle the face carries no mass, and the energy flux is the work done on the moving face,
`E = vface · p` (`= 0` for a face at rest) — whatever the two states are. -/
theorem hllc_contact_at_rest (g rhoL PL rhoR PR : ℝ) (uL uR n vf : V3 ℝ)
    (hpath : OnHLLCPath g rhoL uL PL rhoR uR PR n vf)
    (hS : (hllcWaves g rhoL uL PL rhoR uR PR n vf).Sstar = 0)
    (hSL : (hllcWaves g rhoL uL PL rhoR uR PR n vf).SLmvL + (faceFrame uL uR n vf).vL < 0) :
    (hllc g rhoL uL PL rhoR uR PR n vf).m = 0 ∧
      (hllc g rhoL uL PL rhoR uR PR n vf).e = vf.dot (hllc g rhoL uL PL rhoR uR PR n vf).p := by
  rw [hllc_of_onPath hpath]
  exact mainFlux_contact_at_rest (mul_inv_tiny0 hpath.1.ne') hS
    (waves_SLmvL_neg (effGamma_gt_one g) hpath.2.1
      (sqrt_sound_pos (effGamma_gt_one g) hpath.1 hpath.2.1)).ne hSL

/-! ## Mirror-image states (reflecting wall) -/

/-- velocity of the mirror image of a gas moving with `u`, with respect to a face with unit
normal `n` that moves with `vface` -/
noncomputable def mirrorVelocity (u n vf : V3 ℝ) : V3 ℝ := u.sub (n.smul (2 * (u.sub vf).dot n))

theorem faceFrame_mirrorVelocity (uL n vf : V3 ℝ) (hn : n.norm2 = 1) :
    faceFrame uL (mirrorVelocity uL n vf) n vf
      = ⟨uL.sub vf, (mirrorVelocity uL n vf).sub vf, (uL.sub vf).dot n, -((uL.sub vf).dot n)⟩ := by
  have hvR : ((mirrorVelocity uL n vf).sub vf).dot n = -((uL.sub vf).dot n) := by
    unfold mirrorVelocity
    simp only [V3.sub, V3.smul, V3.dot, V3.norm2] at hn ⊢
    linear_combination (-2 * ((uL.x - vf.x) * n.x + (uL.y - vf.y) * n.y + (uL.z - vf.z) * n.z)) * hn
  unfold faceFrame; simp only [hvR]

/-- **mirror_no_exchange.**  A state and its mirror image (same `ρ, P`, normal velocity
relative to the face reversed) approaching each other with less than 1.5 sound speeds — or
receding at any speed, vacuum generation included — exchange no mass, and no energy beyond the
work done on the moving face (`E = vface·p`; `E = 0` for a face at rest).
Any `g`, any unit normal, any face velocity, any tangential velocity. -/
theorem mirror_no_exchange (g rho P : ℝ) (uL n vf : V3 ℝ) (hr : 0 < rho) (hP : 0 < P)
    (hn : n.norm2 = 1) (hv : (uL.sub vf).dot n < 3 / 2 * sound g rho P) :
    (hllc g rho uL P rho (mirrorVelocity uL n vf) P n vf).m = 0 ∧
    (hllc g rho uL P rho (mirrorVelocity uL n vf) P n vf).e
      = vf.dot (hllc g rho uL P rho (mirrorVelocity uL n vf) P n vf).p := by
  have hG := effGamma_gt_one g
  have ha := sqrt_sound_pos hG hr hP
  have hf := faceFrame_mirrorVelocity uL n vf hn
  have ha2 : √(effGamma g * P * (1.0 / (rho + 0))) * √(effGamma g * P * (1.0 / (rho + 0)))
      = effGamma g * P * (1 / rho) := by
    rw [Real.mul_self_sqrt (by rw [lit1, add_zero]; positivity), lit1, add_zero]
  unfold sound at hv
  unfold hllc
  rw [solveForFlux_of_pos g uL _ n vf hr hP hr hP]
  simp only [hf]
  split_ifs with hgen
  · exact vacuumFlux_mirror_states _ _ n vf hG ha hgen
  · exact mainFlux_mirror_states (uL.sub vf) ((mirrorVelocity uL n vf).sub vf) n vf hG hr hP ha ha2 hv

/-! ## The unconditional mirror statement fails for the code (defect) -/

/-- Two identical gases (`γ = 2, ρ = 2, P = 1`, sound speed 1) colliding head-on at Mach 2, seen
with the normal pointing either way (`s = ±1`): the code returns the mass flux `+4` in both
orientations (the contact estimate is exactly 0 and `S_L = v - a q = 0` is not negative, so the
plain upwind flux of whichever state is called "left" is returned). -/
theorem fast_collision_mass_flux (s : ℝ) (hs : s = 1 ∨ s = -1) :
    (hllc 2 2 ⟨2 * s, 0, 0⟩ 1 2 ⟨-2 * s, 0, 0⟩ 1 ⟨s, 0, 0⟩ ⟨0, 0, 0⟩).m = 4 := by
  have hG : effGamma (2:ℝ) = 2 := effGamma_eq 2 (by norm_num)
  have hs2 : s * s = 1 := by rcases hs with h | h <;> rw [h] <;> norm_num
  have hsq : √((2:ℝ) * 1 * (1.0 / (2 + 0))) = 1 := by
    rw [lit1]; norm_num
  have hf : faceFrame (⟨2 * s, 0, 0⟩ : V3 ℝ) ⟨-2 * s, 0, 0⟩ ⟨s, 0, 0⟩ ⟨0, 0, 0⟩
      = ⟨⟨2 * s, 0, 0⟩, ⟨-2 * s, 0, 0⟩, 2, -2⟩ := by
    unfold faceFrame
    simp only [V3.sub, V3.dot, sub_zero, mul_zero, add_zero]
    congr 1
    · linear_combination 2 * hs2
    · linear_combination (-2 : ℝ) * hs2
  have ht : tdgm1 (2:ℝ) = 2 := by unfold tdgm1; rw [lit2, lit1]; norm_num
  unfold hllc
  rw [solveForFlux_of_pos 2 _ _ _ _ (by norm_num) (by norm_num) (by norm_num) (by norm_num)]
  simp only [hG, hf, hsq, ht]
  rw [if_neg (by norm_num), mainFlux_mirror_fast]
  · norm_num
  · -- `p* = 1 + 2·2·1 = 5`, `q = √(1 + ¾·4) = 2`: `a q = 2 ≤ v`
    rw [pstarEst_mirror_closing (by norm_num) (by norm_num) (by norm_num) (by norm_num)]
    unfold qFac gp1d2g
    rw [if_pos (by norm_num)]
    simp only [sqrt_real, lit1, lit05]
    have : (1:ℝ) + 1 / 2 * (2 + 1) / 2 * ((1 + 2 * 2 * 1) * (1 / (1 + 0)) - 1) = 2 ^ 2 := by norm_num
    rw [this, Real.sqrt_sq (by norm_num)]
    norm_num

/-- **`hllc_mirror` without `h0` is false**: admissible inputs (positive `ρ, P`, `γ = 2`, unit
normal, face at rest) for which exchanging the states and reversing the normal does *not* negate
the flux.  Exactly mirror-symmetric states closing faster than `a·q` (Mach ≳ 1.62…2 depending on
`γ`) make `S* = 0` and `S_L ≥ 0`; see the finding reported with the check. -/
theorem hllc_mirror_fails_for_fast_symmetric_collision :
    ∃ (g rhoL PL rhoR PR : ℝ) (uL uR n vf : V3 ℝ),
      0 < rhoL ∧ 0 < PL ∧ 0 < rhoR ∧ 0 < PR ∧ 1 < g ∧ g ≤ 2 ∧ n.norm2 = 1 ∧
      ¬ (hllc g rhoR uR PR rhoL uL PL n.neg vf).NegOf (hllc g rhoL uL PL rhoR uR PR n vf) := by
  refine ⟨2, 2, 1, 2, 1, ⟨2, 0, 0⟩, ⟨-2, 0, 0⟩, ⟨1, 0, 0⟩, ⟨0, 0, 0⟩, by norm_num, by norm_num,
    by norm_num, by norm_num, by norm_num, by norm_num, by norm_num [V3.norm2], ?_⟩
  intro h
  have h1 := fast_collision_mass_flux 1 (Or.inl rfl)
  have h2 := fast_collision_mass_flux (-1) (Or.inr rfl)
  simp only [mul_one, mul_neg, neg_neg] at h1 h2
  have e5 : (⟨1, 0, 0⟩ : V3 ℝ).neg = ⟨-1, 0, 0⟩ := by simp [V3.neg]
  rw [e5] at h
  have := h.1
  rw [h1, h2] at this
  norm_num at this

/-! ## The exact solver (complete `ExactRiemannSolver::solve_for_flux`, iterative path included)

`ExactFlux.solve1D` is `ExactRiemannSolver::solve` (C11's model: vacuum exits, Newton/Brent root
finding with fuel `nf`/`bf`, shock/rarefaction samplers); `ExactFlux.solveForFlux` wraps it with
the frame change and the flux assembly.  Everything below holds for every fuel, i.e. for whatever
pressure the root finder returns: the symmetries do not depend on its convergence. -/

/-- **exact_galilean.**  `ExactRiemannSolver::solve`, every regime, every sampling speed:
boosting both gases and `x/t` by `w` leaves flag, density and pressure unchanged and shifts the
sampled velocity by `w` (the vacuum state keeps its conventional velocity 0).  No hypotheses. -/
theorem exact_galilean (g : ℝ) (nf bf : ℕ) (rhoL uL PL rhoR uR PR dxdt w : ℝ) :
    ExactFlux.solve1D 0 g nf bf rhoL (uL + w) PL rhoR (uR + w) PR (dxdt + w)
      = (ExactFlux.solve1D 0 g nf bf rhoL uL PL rhoR uR PR dxdt).boost w := by
  unfold ExactFlux.solve1D ExactRiemann.solve
  rw [vacuum_galilean]
  cases hv : solveIfVacuum 0 g rhoL uL PL rhoR uR PR dxdt with
  | some v =>
    simp only [Option.map_some, Sample.boost]
  | none =>
    simp only [Option.map_none]
    rw [ExactFlux.star_galilean, ExactFlux.sampleStar_galilean _ (ExactFlux.mkConsts_tdgp1_mul_gm1d2 g)]
    -- the flag is `±1`, so `Sample.boost` shifts the velocity
    have hfl := ExactFlux.flag_ne_zero (ExactFlux.sampleStar_flag (ExactRiemann.mkConsts g)
      (ExactRiemann.star (ExactRiemann.mkConsts g) nf bf rhoL uL PL rhoR uR PR) rhoL uL PL rhoR uR PR dxdt)
    unfold Sample.boost ExactRiemann.Sol.boost
    simp only [if_neg hfl]

/-- **exact_flux_galilean.**  `ExactRiemannSolver::solve_for_flux`: a common boost of both states
and the face transforms the flux by the boost formulas (`Flux.boost`).  No hypotheses. -/
theorem exact_flux_galilean (g : ℝ) (nf bf : ℕ) (rhoL PL rhoR PR : ℝ) (uL uR n vf w : V3 ℝ) :
    ExactFlux.solveForFlux 0 g nf bf rhoL (uL.add w) PL rhoR (uR.add w) PR n (vf.add w)
      = (ExactFlux.solveForFlux 0 g nf bf rhoL uL PL rhoR uR PR n vf).boost w := by
  unfold ExactFlux.solveForFlux; exact ExactFlux.fluxWith_boost ..

/-- **exact_mirror.**  `ExactRiemannSolver::solve`, every regime: exchanging the states, reversing
both velocities and the sampling speed gives the mirror image (same `ρ`, `P`, reversed velocity,
negated flag) — at every sampling speed that does not sit exactly on the contact, on the tail of
a fan next to the star region, or on both fronts of a generated vacuum (`MirrorTieFree`; at the
contact the solution is two-valued, so the statement cannot hold there). -/
theorem exact_mirror (g : ℝ) (nf bf : ℕ) (rhoL uL PL rhoR uR PR dxdt : ℝ)
    (ht : ExactFlux.MirrorTieFree g nf bf rhoL uL PL rhoR uR PR dxdt) :
    (ExactFlux.solve1D 0 g nf bf rhoR (-uR) PR rhoL (-uL) PL (-dxdt)).MirrorOf
      (ExactFlux.solve1D 0 g nf bf rhoL uL PL rhoR uR PR dxdt) := by
  obtain ⟨t0, t1, t2, t3⟩ := ht
  have hv := ExactFlux.solveIfVacuum_mirror g rhoL uL PL rhoR uR PR dxdt t0
  unfold ExactFlux.solve1D ExactRiemann.solve
  generalize solveIfVacuum 0 g rhoL uL PL rhoR uR PR dxdt = o at hv ⊢
  generalize solveIfVacuum 0 g rhoR (-uR) PR rhoL (-uL) PL (-dxdt) = o' at hv ⊢
  cases o <;> cases o'
  · obtain ⟨m1, m2, m3, m4⟩ := ExactFlux.star_mirror (ExactRiemann.mkConsts g) nf bf rhoL uL PL rhoR uR PR
    obtain ⟨r1, r2, r3, r4⟩ := ExactFlux.sampleStar_mirror (ExactRiemann.mkConsts g) _ _
      rhoL uL PL rhoR uR PR dxdt m1 m2 m3 m4 t1 t2 t3
    exact ⟨r2, r3, r4, r1⟩
  · exact hv.elim
  · exact hv.elim
  · exact hv

/-- **exact_flux_mirror** (`_partial`: off the ties).  `ExactRiemannSolver::solve_for_flux`:
exchanging the states and reversing the normal negates all five flux components, when `x/t = 0`
is tie-free in the frame of the face.  Missing: the ties, in particular `u* = 0` (exactly
mirror-symmetric states), where the flux is still antisymmetric provided the star region is
sampled on both sides — which depends on how far the root finder has converged (C11). -/
theorem exact_flux_mirror_partial (g : ℝ) (nf bf : ℕ) (rhoL PL rhoR PR : ℝ) (uL uR n vf : V3 ℝ)
    (ht : ExactFlux.MirrorTieFree g nf bf rhoL (faceFrame uL uR n vf).vL PL rhoR
      (faceFrame uL uR n vf).vR PR 0) :
    (ExactFlux.solveForFlux 0 g nf bf rhoR uR PR rhoL uL PL n.neg vf).NegOf
      (ExactFlux.solveForFlux 0 g nf bf rhoL uL PL rhoR uR PR n vf) := by
  unfold ExactFlux.solveForFlux
  have hm := exact_mirror g nf bf rhoL (faceFrame uL uR n vf).vL PL rhoR
    (faceFrame uL uR n vf).vR PR 0 ht
  rw [neg_zero] at hm
  refine ExactFlux.fluxWith_mirror ?_ (ExactFlux.solve1D_flag ..)
  simp only [lit0]; exact hm

/-- **exact_identical.**  Two identical non-vacuum states: `solve` returns that state at every
sampling speed (the initial guess `P` is already a root, so no iteration happens), and
`solve_for_flux` returns the analytic Euler flux — for every fuel. -/
theorem exact_identical (g : ℝ) (nf bf : ℕ) (rho P : ℝ) (u n vf : V3 ℝ) (hr : 0 < rho) (hP : 0 < P) :
    (∀ v d : ℝ, (ExactFlux.solve1D 0 g nf bf rho v P rho v P d).rho = rho ∧
      (ExactFlux.solve1D 0 g nf bf rho v P rho v P d).u = v ∧
      (ExactFlux.solve1D 0 g nf bf rho v P rho v P d).P = P) ∧
    (ExactFlux.solveForFlux 0 g nf bf rho u P rho u P n vf).Same (eulerFlux g rho u P n vf) := by
  refine ⟨fun v d => ?_, ?_⟩
  · obtain ⟨a, b, c, _⟩ := ExactFlux.solve1D_identical g nf bf (rho := rho) (P := P) v d hr hP
    exact ⟨a, b, c⟩
  · have hG := effGamma_gt_one g
    have hf : faceFrame u u n vf = ⟨u.sub vf, u.sub vf, (u.sub vf).dot n, (u.sub vf).dot n⟩ := rfl
    obtain ⟨a, b, c, d⟩ := ExactFlux.solve1D_identical g nf bf (rho := rho) (P := P)
      ((u.sub vf).dot n) 0 hr hP
    unfold ExactFlux.solveForFlux ExactFlux.fluxWith eulerFlux
    simp only [hf, lit0]
    generalize ExactFlux.solve1D 0 g nf bf rho ((u.sub vf).dot n) P rho ((u.sub vf).dot n) P 0 = s at *
    have hfl := ExactFlux.flag_ne_zero d
    have hz : (u.sub vf).add (n.smul ((u.sub vf).dot n - (u.sub vf).dot n)) = u.sub vf := by
      rw [sub_self, V3.smul_zero, V3.add_zero]
    unfold fluxFromSample
    simp only [if_pos hfl, ite_self, a, b, c, hz, lit1, if_pos hG, deboost_eq_boost]
    unfold Flux.Same Flux.boost gm1inv
    simp only [lit1, lit05]
    refine ⟨trivial, trivial, ?_⟩
    have : effGamma g - 1 ≠ 0 := (sub_pos.mpr hG).ne'
    field_simp

/-- **vacuum_same_as_exact, complete model.**  In every vacuum regime the HLLC flux equals the
flux of the complete exact solver (`vacuum_same_as_exact` composed with `solveForFlux_vacuum`). -/
theorem vacuum_same_as_exact_full (g : ℝ) (nf bf : ℕ) (rhoL PL rhoR PR : ℝ) (uL uR n vf : V3 ℝ)
    (h : (solveForFluxIfVacuum 0 g rhoL uL PL rhoR uR PR n vf).isSome = true) :
    (hllc g rhoL uL PL rhoR uR PR n vf).Same
      (ExactFlux.solveForFlux 0 g nf bf rhoL uL PL rhoR uR PR n vf) := by
  obtain ⟨F, hF⟩ := Option.isSome_iff_exists.mp h
  exact (vacuum_same_as_exact g rhoL PL rhoR PR uL uR n vf F hF).trans
    (ExactFlux.solveForFlux_vacuum g nf bf rhoL PL rhoR PR uL uR n vf F hF).symm

/-- **exact_mirror_no_exchange** (`_partial`: hypothesis `hstar`).  Mirror-image states through
the exact solver, any closing or receding speed, any fuel: the star velocity is *exactly* zero
(`star_mirror_states`: the root finder's result cancels out), so whenever the state sampled on the
face is the star state (`hstar`; not vacuum), no mass crosses and the energy flux is the work on
the moving face.  Missing: `hstar` itself — that the outer waves computed from the returned `P*`
leave the face on their own sides — which needs the accuracy of the root finder (C11); the check
measures it on every run (evidence `exact_mirror_star_region`). -/
theorem exact_mirror_no_exchange_partial (g : ℝ) (nf bf : ℕ) (rho P : ℝ) (uL n vf : V3 ℝ)
    (hn : n.norm2 = 1)
    (hstar : (ExactFlux.solve1D 0 g nf bf rho ((uL.sub vf).dot n) P rho (-((uL.sub vf).dot n)) P 0).flag ≠ 0 ∧
      (ExactFlux.solve1D 0 g nf bf rho ((uL.sub vf).dot n) P rho (-((uL.sub vf).dot n)) P 0).u
        = (CMacVerif.ExactRiemann.star (CMacVerif.ExactRiemann.mkConsts g) nf bf rho
            ((uL.sub vf).dot n) P rho (-((uL.sub vf).dot n)) P).ustar) :
    (ExactFlux.solveForFlux 0 g nf bf rho uL P rho (mirrorVelocity uL n vf) P n vf).m = 0 ∧
    (ExactFlux.solveForFlux 0 g nf bf rho uL P rho (mirrorVelocity uL n vf) P n vf).e
      = vf.dot (ExactFlux.solveForFlux 0 g nf bf rho uL P rho (mirrorVelocity uL n vf) P n vf).p := by
  have hf := faceFrame_mirrorVelocity uL n vf hn
  obtain ⟨h1, h2⟩ := hstar
  rw [ExactFlux.star_mirror_states] at h2
  unfold ExactFlux.solveForFlux ExactFlux.fluxWith
  simp only [hf, lit0]
  exact ExactFlux.fluxFromSample_at_rest _ _ _ n vf hn h2 h1 rfl (congrArg FaceFrame.vR hf).symm

/-! ## Non-vacuity of the hypotheses -/

theorem sound_2_2_1 : sound 2 2 1 = 1 := by
  unfold sound
  rw [effGamma_eq 2 (by norm_num), lit1]; norm_num

/-- the counterexample lies in the set excluded by `h0` of `hllc_mirror`: it is on the HLLC path
with contact estimate exactly zero (and `S_L = 2 - 1·2 = 0`, not negative) -/
example : (hllcWaves 2 2 ⟨2, 0, 0⟩ 1 2 ⟨-2, 0, 0⟩ 1 ⟨1, 0, 0⟩ ⟨0, 0, 0⟩).Sstar = 0 := by
  have hf : faceFrame (⟨2, 0, 0⟩ : V3 ℝ) ⟨-2, 0, 0⟩ ⟨1, 0, 0⟩ ⟨0, 0, 0⟩
      = ⟨⟨2, 0, 0⟩, ⟨-2, 0, 0⟩, 2, -2⟩ := by
    unfold faceFrame
    simp only [V3.sub, V3.dot, sub_zero, mul_zero, add_zero, mul_one]
  unfold hllcWaves
  simp only [hf, sound_2_2_1]
  exact (waves_mirror_states (effGamma 2) 2 1 1 2 (1.0 / (1 + 0))).2.2

/-- two equal gases at rest (`γ = 2, ρ = 2, P = 1`): on the HLLC path, contact estimate exactly
zero, outer estimates `∓1` — satisfies `OnHLLCPath` and the hypothesis `h0` of `hllc_mirror`,
`hS`/`hSL` of `hllc_contact_at_rest` -/
example : OnHLLCPath 2 2 ⟨0, 0, 0⟩ 1 2 ⟨0, 0, 0⟩ 1 ⟨1, 0, 0⟩ ⟨0, 0, 0⟩ ∧
    (hllcWaves 2 2 ⟨0, 0, 0⟩ 1 2 ⟨0, 0, 0⟩ 1 ⟨1, 0, 0⟩ ⟨0, 0, 0⟩).Sstar = 0 ∧
    (hllcWaves 2 2 ⟨0, 0, 0⟩ 1 2 ⟨0, 0, 0⟩ 1 ⟨1, 0, 0⟩ ⟨0, 0, 0⟩).SLmvL
      + (faceFrame (⟨0, 0, 0⟩ : V3 ℝ) ⟨0, 0, 0⟩ ⟨1, 0, 0⟩ ⟨0, 0, 0⟩).vL < 0 ∧
    0 < (hllcWaves 2 2 ⟨0, 0, 0⟩ 1 2 ⟨0, 0, 0⟩ 1 ⟨1, 0, 0⟩ ⟨0, 0, 0⟩).SRmvR
      + (faceFrame (⟨0, 0, 0⟩ : V3 ℝ) ⟨0, 0, 0⟩ ⟨1, 0, 0⟩ ⟨0, 0, 0⟩).vR := by
  have hf : faceFrame (⟨0, 0, 0⟩ : V3 ℝ) ⟨0, 0, 0⟩ ⟨1, 0, 0⟩ ⟨0, 0, 0⟩ = ⟨⟨0, 0, 0⟩, ⟨0, 0, 0⟩, 0, 0⟩ := by
    unfold faceFrame; simp [V3.sub, V3.dot]
  have ht : tdgm1 (effGamma (2:ℝ)) = 2 := by
    rw [effGamma_eq 2 (by norm_num)]; unfold tdgm1; rw [lit2, lit1]; norm_num
  obtain ⟨w1, w2, w3⟩ := waves_identical (G := effGamma 2) (rho := 2) (v := 0) (P := 1) (a := 1)
    (1.0 / (1 + 0)) (by norm_num) (by norm_num) (by norm_num)
  unfold OnHLLCPath hllcWaves
  simp only [hf, sound_2_2_1, ht]
  refine ⟨⟨by norm_num, by norm_num, by norm_num, by norm_num, by norm_num⟩, ?_, ?_, ?_⟩
  · exact w3
  · rw [w1]; norm_num
  · rw [w2]; norm_num

/-- the same input has ordered Toro wave speeds `-1 ≤ 0 ≤ 1` (hypotheses of `hllc_textbook`) -/
example : (toroSpeeds 2 2 ⟨0, 0, 0⟩ 1 2 ⟨0, 0, 0⟩ 1 ⟨1, 0, 0⟩ ⟨0, 0, 0⟩).SL
      ≤ (toroSpeeds 2 2 ⟨0, 0, 0⟩ 1 2 ⟨0, 0, 0⟩ 1 ⟨1, 0, 0⟩ ⟨0, 0, 0⟩).Sstar ∧
    (toroSpeeds 2 2 ⟨0, 0, 0⟩ 1 2 ⟨0, 0, 0⟩ 1 ⟨1, 0, 0⟩ ⟨0, 0, 0⟩).Sstar
      ≤ (toroSpeeds 2 2 ⟨0, 0, 0⟩ 1 2 ⟨0, 0, 0⟩ 1 ⟨1, 0, 0⟩ ⟨0, 0, 0⟩).SR := by
  have ha : Toro.a 2 2 1 = 1 := by unfold Toro.a; norm_num
  unfold toroSpeeds Toro.speeds
  rw [effGamma_eq 2 (by norm_num)]
  simp only [V3.sub, V3.dot, ha, Toro.pstar, Toro.q, Toro.contact]
  norm_num

/-- hypotheses of `mirror_no_exchange`: a gas hitting a wall at Mach 1 -/
example : (0:ℝ) < 2 ∧ (0:ℝ) < 1 ∧ (⟨1, 0, 0⟩ : V3 ℝ).norm2 = 1 ∧
    ((⟨1, 0, 0⟩ : V3 ℝ).sub ⟨0, 0, 0⟩).dot ⟨1, 0, 0⟩ < 3 / 2 * sound 2 2 1 := by
  rw [sound_2_2_1]
  refine ⟨by norm_num, by norm_num, ?_, ?_⟩ <;> norm_num [V3.norm2, V3.sub, V3.dot]

/-- the hypothesis of `vacuum_same_as_exact` / `vacuum_sample_physical` is satisfiable: a gas
next to vacuum takes a vacuum exit -/
example : (solveIfVacuum (0:ℝ) 2 2 0 1 0 0 0 0).isSome = true ∧
    (solveForFluxIfVacuum (0:ℝ) 2 2 ⟨0, 0, 0⟩ 1 0 ⟨0, 0, 0⟩ 0 ⟨1, 0, 0⟩ ⟨0, 0, 0⟩).isSome = true := by
  have hv : isVacuum 0 (0:ℝ) 0 0 0 = true := (isVacuum_iff 0 0).mpr (Or.inl rfl)
  constructor
  · rw [solveIfVacuum_eq, if_pos (Or.inr (Or.inl hv))]; rfl
  · unfold solveForFluxIfVacuum
    simp only [solveIfVacuum_eq]
    rw [if_pos (Or.inr (Or.inl hv))]; rfl

/-- the hypothesis of `exact_mirror` / `exact_flux_mirror_partial` is satisfiable: two equal gases
(`γ = 2, ρ = 2, P = 1`, sound speed 1) moving with `u`: contact at `u`, fan tails at `u ± 1`;
every other sampling speed is tie-free (e.g. `x/t = 0` for `u = 1/2`) -/
example (nf bf : ℕ) (u d : ℝ) (h1 : d ≠ u) (h2 : d ≠ u + 1) (h3 : d ≠ u - 1) :
    ExactFlux.MirrorTieFree 2 nf bf 2 u 1 2 u 1 d := by
  have hG : effGamma (2:ℝ) = 2 := effGamma_eq 2 (by norm_num)
  have hcg : (CMacVerif.ExactRiemann.mkConsts (2:ℝ)).gamma = 2 := hG
  have ha : soundSpeed (effGamma (2:ℝ)) (1.0 / 2) 1 = 1 := by
    unfold soundSpeed; rw [hG, lit1]; norm_num
  have ha' : CMacVerif.ExactRiemann.soundspeed (CMacVerif.ExactRiemann.mkConsts (2:ℝ)) (1.0 / 2) 1 = 1 := by
    unfold CMacVerif.ExactRiemann.soundspeed; rw [hcg, lit1]; norm_num
  have ht : tdgm1 (effGamma (2:ℝ)) = 2 := by rw [hG]; unfold tdgm1; rw [lit2, lit1]; norm_num
  obtain ⟨_, hp, hu⟩ := CMacVerif.ExactRiemann.star_identical (CMacVerif.ExactRiemann.mkConsts 2) nf bf
    (rho := 2) (P := 1) u (by norm_num)
  have haR : (CMacVerif.ExactRiemann.star (CMacVerif.ExactRiemann.mkConsts 2) nf bf 2 u 1 2 u 1).aR = 1 := ha'
  have haL : (CMacVerif.ExactRiemann.star (CMacVerif.ExactRiemann.mkConsts 2) nf bf 2 u 1 2 u 1).aL = 1 := ha'
  unfold ExactFlux.MirrorTieFree
  rw [hp, hu, haR, haL, ha, ht]
  have h11 : (1:ℝ) * (1.0 / 1) = 1 := by rw [lit1]; norm_num
  refine ⟨fun h => absurd h (by norm_num), h1, ?_, ?_⟩
  · unfold CMacVerif.ExactRiemann.tailR; simp only [h11, CMacVerif.ExactRiemann.pow_real_eq, Real.one_rpow, mul_one]; exact h2
  · unfold CMacVerif.ExactRiemann.tailL; simp only [h11, CMacVerif.ExactRiemann.pow_real_eq, Real.one_rpow, mul_one]; exact h3

/-- the hypothesis `hstar` of `exact_mirror_no_exchange_partial` is satisfiable (two equal gases at
rest against the face: the sampled state is the star state, velocity 0) -/
example (nf bf : ℕ) :
    (ExactFlux.solve1D (0:ℝ) 2 nf bf 2 0 1 2 (-0) 1 0).flag ≠ 0 ∧
    (ExactFlux.solve1D (0:ℝ) 2 nf bf 2 0 1 2 (-0) 1 0).u
      = (CMacVerif.ExactRiemann.star (CMacVerif.ExactRiemann.mkConsts (2:ℝ)) nf bf 2 0 1 2 (-0) 1).ustar := by
  rw [neg_zero]
  obtain ⟨_, hu, _, hf⟩ := ExactFlux.solve1D_identical (2:ℝ) nf bf (rho := 2) (P := 1) 0 0
    (by norm_num) (by norm_num)
  obtain ⟨_, _, hs⟩ := CMacVerif.ExactRiemann.star_identical (CMacVerif.ExactRiemann.mkConsts (2:ℝ)) nf bf
    (rho := 2) (P := 1) 0 (by norm_num)
  exact ⟨ExactFlux.flag_ne_zero hf, by rw [hu, hs]⟩

end CMacVerif.C05
