import CMacVerif.Lemmas.Worker
import CMacVerif.Lemmas.WorkerOrder
import CMacVerif.Lemmas.HydroGraph
import CMacVerif.Lemmas.LockOrder
import Mathlib.Tactic.SplitIfs
/-!
# C07 — hydro task graph: every task once, in order, conflict-free, always finishes

The worker loop is treated over ANY well-formed task graph and any interleaving (`Model/Worker.lean`;
a trace is an arbitrary list of labels, threads are not named); the hydro task graph of every layout
and periodicity (`Model/HydroGraph.lean`) is well-formed, which gives the property for the hydro step.
-/
namespace CMacVerif.Worker
variable {τ ρ : Type} [DecidableEq τ] [DecidableEq ρ]

theorem reachable_inv (G : Graph τ ρ) (hG : WF G) (ls : List (Label τ))
    (hl : ∀ l ∈ ls, labelTask l ∈ G.univ) (s : WState τ) (h : run G (init G) ls = some s) : Inv G s :=
  run_inv hG hl (init_inv G hG) h

/-- **Never two conflicting tasks at the same time**: two different running tasks never share a
resource (subgrid). -/
theorem conflict_free (G : Graph τ ρ) (s : WState τ) (hs : Inv G s) (a b : τ) (ha : a ∈ G.univ)
    (hb : b ∈ G.univ) (hab : a ≠ b) (hra : s.st a = .running) (hrb : s.st b = .running) :
    ∀ r ∈ G.lockset a, r ∉ G.lockset b := by
  intro r hr hrb'
  have h : conflicts G a b = true := List.any_eq_true.mpr ⟨r, hr, List.contains_iff_mem.mpr hrb'⟩
  rw [hs.excl a ha b hb hab hra hrb] at h
  cases h

/-- **Never before its dependencies**: a task can only be started when the sweep of every task it
depends on has been executed (its parent is releasing its children or done). -/
theorem ordered (G : Graph τ ρ) (hG : WF G) (s s' : WState τ) (hs : Inv G s) (t : τ) (ht : t ∈ G.univ)
    (h : step G s (.acquire t) = some s') : ∀ p ∈ G.parents t, s.execd p = 1 :=
  parents_executed hG hs ht (step_iff.mp h).started

/-- with a rank that increases along the edges (acyclic graph): when the shared counter
`number_of_tasks` is 0, **every task is done** -/
theorem all_done_at_end (G : Graph τ ρ) (rk : τ → Nat)
    (hrk : ∀ p ∈ G.univ, ∀ c ∈ G.children p, rk p < rk c)
    (s : WState τ) (hs : Inv G s) (h0 : s.num = 0) : ∀ t ∈ G.univ, s.st t = .done := by
  have hact : ∀ t ∈ G.univ, isActive (s.st t) = false := by
    intro t ht
    have := sumOver_zero (by rw [← hs.num]; exact h0) t ht
    simp only [act] at this
    split_ifs at this with h
    simpa using h
  suffices H : ∀ n, ∀ t ∈ G.univ, rk t = n → s.st t = .done from fun t ht => H (rk t) t ht rfl
  intro n
  induction n using Nat.strongRecOn with
  | _ n ih =>
    intro t ht hn
    have ha := hact t ht
    cases hst : s.st t with
    | done => rfl
    | queued | running | releasing rem => rw [hst] at ha; cases ha
    | notReady =>
      -- some `p` still has to release `t`; not being active it has not started: a parent that is not done
      have hpos := (hs.ready t ht).1 hst
      rw [hs.cnt t ht] at hpos
      obtain ⟨p, hp, hc⟩ := sumOver_pos hpos
      have hmem : t ∈ pending G s p := List.count_pos_iff.mp hc
      have hap := hact p hp
      unfold pending at hmem
      cases hsp : s.st p with
      | done => rw [hsp] at hmem; cases hmem
      | queued | running | releasing rem => rw [hsp] at hap; cases hap
      | notReady =>
        rw [hsp] at hmem
        have hlt := hrk p hp t hmem
        have := ih (rk p) (by omega) p hp rfl
        rw [hsp] at this; cases this

/-- **exactly once**: in every complete execution (reset … `number_of_tasks = 0`) the sweep of
every task has been executed exactly once -/
theorem executed_exactly_once (G : Graph τ ρ) (hG : WF G) (rk : τ → Nat)
    (hrk : ∀ p ∈ G.univ, ∀ c ∈ G.children p, rk p < rk c) (ls : List (Label τ))
    (hl : ∀ l ∈ ls, labelTask l ∈ G.univ) (s : WState τ) (h : run G (init G) ls = some s)
    (h0 : s.num = 0) : ∀ t ∈ G.univ, s.execd t = 1 := by
  have hs := reachable_inv G hG ls hl s h
  intro t ht
  rw [hs.execd t ht, all_done_at_end G rk hrk s hs h0 t ht]; rfl

/-- at no moment of any execution has the sweep of a task been executed more than once -/
theorem executed_at_most_once (G : Graph τ ρ) (hG : WF G) (ls : List (Label τ))
    (hl : ∀ l ∈ ls, labelTask l ∈ G.univ) (s : WState τ) (h : run G (init G) ls = some s) :
    ∀ t ∈ G.univ, s.execd t ≤ 1 :=
  fun _ ht => execd_le_one (reachable_inv G hG ls hl s h) ht

/-- **The order in which the sweeps finish is a linear extension of the task graph**: in every
complete execution (any number of threads, any interleaving) the list of tasks in the order of
their `finishExec` contains every task exactly once and no task before one of its parents. -/
theorem finish_order_linear_extension (G : Graph τ ρ) (hG : WF G) (rk : τ → Nat)
    (hrk : ∀ p ∈ G.univ, ∀ c ∈ G.children p, rk p < rk c) (ls : List (Label τ))
    (hl : ∀ l ∈ ls, labelTask l ∈ G.univ) (s : WState τ) (h : run G (init G) ls = some s)
    (h0 : s.num = 0) :
    (finishOrder ls).Nodup ∧ (∀ t, t ∈ finishOrder ls ↔ t ∈ G.univ) ∧
      (finishOrder ls).Pairwise (fun a b => b ∉ G.parents a) := by
  have hall := executed_exactly_once G hG rk hrk ls hl s h h0
  have hcount : ∀ t, (finishOrder ls).count t = s.execd t := by
    intro t
    have := run_execd h t
    simp only [init] at this
    omega
  have hmemU : ∀ t, t ∈ finishOrder ls → t ∈ G.univ := fun t ht => hl _ (mem_finishOrder ht)
  refine ⟨?_, ?_, finishOrder_pairwise hG hl (init_inv G hG) h⟩
  · rw [List.nodup_iff_count]
    intro t
    by_cases ht : t ∈ finishOrder ls
    · rw [hcount t, hall t (hmemU t ht)]
    · rw [List.count_eq_zero_of_not_mem ht]; omega
  · intro t
    refine ⟨hmemU t, fun ht => ?_⟩
    have := hcount t
    rw [hall t ht] at this
    exact List.count_pos_iff.mp (by omega)

/-- in particular the finish order is a permutation of the task list: a complete hydro step
executes exactly as many sweeps as there are tasks -/
theorem finish_order_perm (G : Graph τ ρ) (hG : WF G) (rk : τ → Nat)
    (hrk : ∀ p ∈ G.univ, ∀ c ∈ G.children p, rk p < rk c) (ls : List (Label τ))
    (hl : ∀ l ∈ ls, labelTask l ∈ G.univ) (s : WState τ) (h : run G (init G) ls = some s)
    (h0 : s.num = 0) : (finishOrder ls).Perm G.univ ∧ (finishOrder ls).length = G.univ.length := by
  obtain ⟨h1, h2, _⟩ := finish_order_linear_extension G hG rk hrk ls hl s h h0
  have hp : (finishOrder ls).Perm G.univ := (List.perm_ext_iff_of_nodup h1 hG.nodup).mpr h2
  exact ⟨hp, hp.length_eq⟩

/-- the counter protocol: `number_of_tasks` always equals the number of queued + running +
releasing tasks; in particular it is not 0 while some task is still to be retired -/
theorem counter_protocol (G : Graph τ ρ) (s : WState τ) (hs : Inv G s) :
    s.num = (G.univ.filter (fun t => isActive (s.st t))).length := by
  rw [hs.num, filter_length_eq_sumOver]; rfl

/-- **No stuck state**: while `number_of_tasks > 0` some thread can make a step -/
theorem no_stuck (G : Graph τ ρ) (s : WState τ) (hs : Inv G s) (hpos : 0 < s.num) :
    ∃ l, labelTask l ∈ G.univ ∧ (step G s l).isSome = true := by
  rw [hs.num] at hpos
  obtain ⟨t, ht, hat⟩ := sumOver_pos hpos
  have fire : ∀ {l s'}, Step G s l s' → labelTask l ∈ G.univ →
      ∃ l, labelTask l ∈ G.univ ∧ (step G s l).isSome = true :=
    fun h hl => ⟨_, hl, by rw [step_iff.mpr h]; rfl⟩
  cases hst : s.st t with
  | notReady | done => simp [act, hst, isActive] at hat
  | running => exact fire (.finishExec hst) ht
  | releasing rem =>
    cases rem with
    | nil => exact fire (.retire hst) ht
    | cons c rem => exact fire (.releaseChild hst) ht
  | queued =>
    -- `t` can start unless a running task conflicts with it, and then that one can finish
    by_cases hg : ∀ u ∈ G.univ, s.st u = .running → conflicts G t u = false
    · exact fire (.acquire hst hg) ht
    · simp only [not_forall] at hg
      obtain ⟨u, hu, hsu, _⟩ := hg
      exact fire (.finishExec hsu) hu

/-- once the counter is 0 nothing can happen any more: threads may leave the loop at different
times without missing work -/
theorem end_is_stable (G : Graph τ ρ) (hG : WF G) (rk : τ → Nat)
    (hrk : ∀ p ∈ G.univ, ∀ c ∈ G.children p, rk p < rk c)
    (s : WState τ) (hs : Inv G s) (h0 : s.num = 0) (l : Label τ) (hl : labelTask l ∈ G.univ) :
    step G s l = none := by
  have hd := all_done_at_end G rk hrk s hs h0 (labelTask l) hl
  refine Option.eq_none_iff_forall_ne_some.mpr fun s' h => ?_
  obtain ⟨hst, _⟩ | hst | hst | hst := step_iff.mp h <;> exact nomatch hst.symm.trans hd

/-- actions `t` still has to see: acquire, end of sweep, one release per child, retire; one more while
not ready, which pays for the release that queues it -/
def weight (G : Graph τ ρ) (s : WState τ) (t : τ) : Nat :=
  match s.st t with
  | .notReady => 4 + (G.children t).length
  | .queued => 3 + (G.children t).length
  | .running => 2 + (G.children t).length
  | .releasing rem => 1 + rem.length
  | .done => 0

/-- termination measure: strictly decreases with every step -/
def measure (G : Graph τ ρ) (s : WState τ) : Nat := sumOver G.univ (weight G s)

omit [DecidableEq τ] [DecidableEq ρ] in
theorem weight_congr (G : Graph τ ρ) {s s' : WState τ} {x : τ} (h : s'.st x = s.st x) :
    weight G s' x = weight G s x := by
  simp only [weight, h]

omit [DecidableEq ρ] in
theorem measure_lt {G : Graph τ ρ} {s s' : WState τ} {t : τ} (ht : t ∈ G.univ)
    (hlt : weight G s' t < weight G s t) (hle : ∀ x, x ≠ t → weight G s' x ≤ weight G s x) :
    measure G s' < measure G s :=
  sumOver_lt (fun x _ => if hx : x = t then hx ▸ Nat.le_of_lt hlt else hle x hx) ht hlt

omit [DecidableEq ρ] in
theorem measure_lt_of_upd {G : Graph τ ρ} {s : WState τ} {t : τ} (ht : t ∈ G.univ) {new : Status τ}
    {cnt' : τ → Nat} {num' : Nat} {ex' : τ → Nat}
    (hlt : weight G ⟨upd s.st t new, cnt', num', ex'⟩ t < weight G s t) :
    measure G ⟨upd s.st t new, cnt', num', ex'⟩ < measure G s :=
  measure_lt ht hlt fun _ hx => Nat.le_of_eq (weight_congr G (upd_other _ _ _ hx))

/-- **Always finishes**: every step (of any thread, in any interleaving) strictly decreases a
natural-number measure that is at most `Σ_t (4 + #children t)` at the start; together with `no_stuck` the
step ends after at most that many actions, whatever the schedule. -/
theorem measure_decreases (G : Graph τ ρ) (s s' : WState τ) (hs : Inv G s) (l : Label τ)
    (hl : labelTask l ∈ G.univ) (h : step G s l = some s') : measure G s' < measure G s := by
  obtain ⟨hst, _⟩ | hst | hst | hst := step_iff.mp h
  case releaseChild t c rem =>
    replace hl : t ∈ G.univ := hl
    split_ifs with hc1
    · obtain ⟨-, hcNR, hct⟩ := next_child_waits hs hl hst
      refine measure_lt hl (by simp only [weight, upd_other _ _ _ hct, upd_same, hst, List.length_cons]; omega)
        fun x hx => ?_
      by_cases hxc : x = c
      · subst hxc
        simp only [weight, upd_same, hcNR]
        omega
      · exact Nat.le_of_eq (weight_congr G ((upd_other _ _ _ hxc).trans (upd_other _ _ _ hx)))
    · exact measure_lt_of_upd hl (by simp only [weight, upd_same, hst, List.length_cons]; omega)
  all_goals
    exact measure_lt_of_upd (t := labelTask _) hl (by simp only [labelTask, weight, upd_same, hst]; omega)

end CMacVerif.Worker

namespace CMacVerif.HydroGraph
open CMacVerif.Worker

/-- **The hydro task graph of every layout and periodicity is well-formed**: the enumeration has
no duplicates, child and parent lists stay inside it, and the child lists are exactly the
inverse of the parent lists, with multiplicity (this uses the mutuality of the neighbour
relation, including periodic axes with one or two subgrids). -/
theorem hydro_wf (L : Layout) : WF (graph L) where
  nodup := allTasks_nodup L
  childIn p hp c hc := (mem_allTasks L c).mpr (children_exist L p ((mem_allTasks L p).mp hp) c hc)
  parentIn c hc p hp := (mem_allTasks L p).mpr (parents_exist L c ((mem_allTasks L c).mp hc) p hp)
  consistent p hp c hc := consistent L p c ((mem_allTasks L p).mp hp) ((mem_allTasks L c).mp hc)

/-- **acyclic**: every child is in a strictly later phase than its parent
(gradient → limiter → predict → flux → update conserved → update primitives) -/
theorem hydro_rank (L : Layout) :
    ∀ p ∈ (graph L).univ, ∀ c ∈ (graph L).children p, phase p.slot < phase c.slot :=
  fun p _ c hc => Nat.lt_of_lt_of_eq (Nat.lt_succ_self _) (phase_children L p c hc).symm

/-- **the reset counters are the in-degrees**: `reset_hydro_tasks` sets every counter to the
number of parent edges of the task (7 / 1 / 1 / 1|2 / 7 / 1, 0 for the gradient sweeps) -/
theorem reset_is_indegree (L : Layout) (t : Task) : resetCount L t = (parents L t).length := by
  obtain ⟨g, s⟩ := t
  cases s with
  | fluxUp ax =>
    simp only [resetCount, parents, optTask, List.length_cons]
    cases ngbUp L ax g <;> rfl
  | _ => rfl

/-- a task never has more than 7 children (`Task::_children[7]`) -/
theorem children_le_7 (L : Layout) (t : Task) : (children L t).length ≤ 7 := by
  obtain ⟨g, s⟩ := t
  cases s with
  | gradUp ax | fluxUp ax =>
    simp only [children]
    cases ngbUp L ax g <;> exact Nat.le_of_ble_eq_true rfl
  | _ => exact Nat.le_of_ble_eq_true rfl

/-! ### lock order ("avoid dining philosophers by sorting the dependencies on subgrid index")

A pop takes the locks of a task one after the other with `try_lock` and gives the first one back
when the second is taken.  Mutual exclusion does not depend on the order, but progress under an
adversarial lock-step schedule does. -/

/-- for every layout and every existing task: the locks are taken in strictly increasing subgrid
index, and they are the locks of `lockset` -/
theorem hydro_lock_order (L : Layout) (t : Task) (ht : exists_ L t = true) :
    (lockOrder L t).Pairwise (fun a b => subIndex L a < subIndex L b) ∧
      (∀ x, x ∈ lockOrder L t ↔ x ∈ lockset L t) ∧ (lockOrder L t).length = (lockset L t).length :=
  ⟨lockOrder_sorted L t (valid_of_exists ht), fun _ => (lockOrder_perm L t).mem_iff,
    (lockOrder_perm L t).length_eq⟩

/-- **no lock-step livelock**: let `waiting` be the two-lock tasks that currently hold their first
lock `p.1` and are about to try their second `p.2`.  If every one of them takes its lower-indexed
lock first, at least one of them finds its second lock not held by any waiting task — so a round
in which ALL of them fail, give their lock back and start over is impossible. -/
theorem no_lockstep_cycle (waiting : List (Nat × Nat)) (hne : waiting ≠ [])
    (hord : ∀ p ∈ waiting, p.1 < p.2) : ∃ p ∈ waiting, ∀ q ∈ waiting, q.1 ≠ p.2 := by
  have hmax : ∀ (a : Nat × Nat) (l : List (Nat × Nat)), ∃ p ∈ a :: l, ∀ q ∈ a :: l, q.2 ≤ p.2 := by
    intro a l
    induction l generalizing a with
    | nil => exact ⟨a, List.mem_cons_self, List.forall_mem_singleton.mpr (Nat.le_refl _)⟩
    | cons b l ih =>
      obtain ⟨p, hp, hle⟩ := ih b
      by_cases hc : p.2 ≤ a.2
      · exact ⟨a, List.mem_cons_self,
          List.forall_mem_cons.mpr ⟨Nat.le_refl _, fun q hq => Nat.le_trans (hle q hq) hc⟩⟩
      · exact ⟨p, List.mem_cons_of_mem _ hp, List.forall_mem_cons.mpr ⟨by omega, hle⟩⟩
  obtain ⟨a, l, rfl⟩ := List.exists_cons_of_ne_nil hne
  obtain ⟨p, hp, hle⟩ := hmax a l
  refine ⟨p, hp, fun q hq e => ?_⟩
  have h1 := hord q hq
  have h2 := hle q hq
  omega

/-- … and the order is needed: two tasks that take the same two locks in opposite order can both
hold their first lock and find their second one taken, forever -/
theorem unordered_locks_can_cycle :
    ¬ ∃ p ∈ [((1 : Nat), (2 : Nat)), (2, 1)], ∀ q ∈ [((1 : Nat), (2 : Nat)), (2, 1)], q.1 ≠ p.2 := by
  decide

theorem labels_in_graph {L : Layout} {ls : List (Label Task)}
    (hl : ∀ l ∈ ls, exists_ L (labelTask l) = true) : ∀ l ∈ ls, labelTask l ∈ (graph L).univ :=
  fun l h => (mem_allTasks L _).mpr (hl l h)

/-- For every layout `nx × ny × nz` (in particular 1 or 2 subgrids on a periodic axis),
every periodicity, every number of threads and every interleaving: in a complete hydro step
every task's sweep is executed **exactly once**. -/
theorem hydro_exactly_once (L : Layout) (ls : List (Label Task))
    (hl : ∀ l ∈ ls, exists_ L (labelTask l) = true) (s : WState Task)
    (h : run (graph L) (init (graph L)) ls = some s) (h0 : s.num = 0) :
    ∀ t, exists_ L t = true → s.execd t = 1 := by
  intro t ht
  exact executed_exactly_once (graph L) (hydro_wf L) (fun t => phase t.slot) (hydro_rank L) ls
    (labels_in_graph hl) s h h0 t ((mem_allTasks L t).mpr ht)

/-- a task is only started after all tasks it depends on have been executed -/
theorem hydro_ordered (L : Layout) (ls : List (Label Task))
    (hl : ∀ l ∈ ls, exists_ L (labelTask l) = true) (s s' : WState Task)
    (h : run (graph L) (init (graph L)) ls = some s) (t : Task) (ht : exists_ L t = true)
    (hstep : step (graph L) s (.acquire t) = some s') : ∀ p ∈ parents L t, s.execd p = 1 :=
  ordered (graph L) (hydro_wf L) s s'
    (reachable_inv (graph L) (hydro_wf L) ls (labels_in_graph hl) s h) t ((mem_allTasks L t).mpr ht) hstep

/-- the sweeps of a complete hydro step finish in an order that is a linear extension of the hydro
task graph -/
theorem hydro_finish_order (L : Layout) (ls : List (Label Task))
    (hl : ∀ l ∈ ls, exists_ L (labelTask l) = true) (s : WState Task)
    (h : run (graph L) (init (graph L)) ls = some s) (h0 : s.num = 0) :
    (finishOrder ls).Nodup ∧ (∀ t, t ∈ finishOrder ls ↔ exists_ L t = true) ∧
      (finishOrder ls).Pairwise (fun a b => b ∉ parents L a) := by
  obtain ⟨h1, h2, h3⟩ := finish_order_linear_extension (graph L) (hydro_wf L) (fun t => phase t.slot)
    (hydro_rank L) ls (labels_in_graph hl) s h h0
  exact ⟨h1, fun t => (h2 t).trans (mem_allTasks L t), h3⟩

/-- two tasks that run at the same time never touch the same subgrid -/
theorem hydro_conflict_free (L : Layout) (ls : List (Label Task))
    (hl : ∀ l ∈ ls, exists_ L (labelTask l) = true) (s : WState Task)
    (h : run (graph L) (init (graph L)) ls = some s) (a b : Task) (ha : exists_ L a = true)
    (hb : exists_ L b = true) (hab : a ≠ b) (hra : s.st a = .running) (hrb : s.st b = .running) :
    ∀ x ∈ footprint L a, x ∉ footprint L b := by
  intro x hxa hxb
  have hs := reachable_inv (graph L) (hydro_wf L) ls (labels_in_graph hl) s h
  exact conflict_free (graph L) s hs a b ((mem_allTasks L a).mpr ha) ((mem_allTasks L b).mpr hb) hab hra hrb
    x (lockset_covers_footprint L a x hxa) (lockset_covers_footprint L b x hxb)

/-- the step always terminates: as long as `number_of_tasks > 0` some thread can act, and every
action decreases a measure bounded by `11 · #tasks` -/
theorem hydro_progress (L : Layout) (ls : List (Label Task))
    (hl : ∀ l ∈ ls, exists_ L (labelTask l) = true) (s : WState Task)
    (h : run (graph L) (init (graph L)) ls = some s) (hpos : 0 < s.num) :
    ∃ l s', exists_ L (labelTask l) = true ∧ step (graph L) s l = some s'
      ∧ Worker.measure (graph L) s' < Worker.measure (graph L) s := by
  have hs := reachable_inv (graph L) (hydro_wf L) ls (labels_in_graph hl) s h
  obtain ⟨l, hlU, hsome⟩ := no_stuck (graph L) s hs hpos
  obtain ⟨s', hs'⟩ := Option.isSome_iff_exists.mp hsome
  exact ⟨l, s', (mem_allTasks L _).mp hlU, hs', measure_decreases (graph L) s s' hs l hlU hs'⟩

/-- at reset every weight is at most 4 + 7 (`children_le_7`) -/
theorem hydro_measure_bound (L : Layout) :
    Worker.measure (graph L) (init (graph L)) ≤ 11 * (allTasks L).length := by
  refine sumOver_le_mul fun t _ => ?_
  have := children_le_7 L t
  simp only [weight, init, graph]
  by_cases hp : (parents L t).length = 0 <;> simp only [hp, if_true, if_false] <;> omega

/-- non-vacuity: a periodic 1 × 2 × 1 layout (one subgrid on the periodic x axis, two on the
periodic y axis): the pair tasks of the single-subgrid axis lock one subgrid once -/
example : lockset ⟨1, 2, 1, true, true, false⟩ ⟨(0, 0, 0), .fluxUp .x⟩ = [(0, 0, 0)]
    ∧ lockset ⟨1, 2, 1, true, true, false⟩ ⟨(0, 0, 0), .fluxUp .y⟩ = [(0, 0, 0), (0, 1, 0)]
    ∧ (allTasks ⟨1, 2, 1, true, true, false⟩).length = 28 := by decide

end CMacVerif.HydroGraph
