import CMacVerif.Lemmas.Morton
import CMacVerif.Lemmas.ShellsRange
import CMacVerif.Lemmas.Buckets
import CMacVerif.Lemmas.BucketsGeom
import CMacVerif.Lemmas.BucketsBuild
import CMacVerif.Lemmas.AMRGrid
import CMacVerif.Lemmas.CartesianRay
import CMacVerif.Lemmas.CartesianSeg
import CMacVerif.Lemmas.CartesianChord
import CMacVerif.Lemmas.AMRNgbs
import CMacVerif.Lemmas.Octree
import CMacVerif.Lemmas.OctreeFuel
/-!
# C16 — every position maps to exactly one cell; grid traversal conserves path

The property theorems and the predicates their statements are written with (`Reachable`, `InRange`,
`RayHyp`).  Models: `Model/Morton.lean`, `Model/Shells.lean`, `Model/AMRTree.lean`, `Model/Cartesian.lean`,
`Model/Buckets.lean`, `Model/AMRTraverse.lean`, `Model/Octree.lean` (numeric parts generic, instantiated at `ℝ` here).
Voronoi grids are not covered (C15, not applicable).
-/
namespace CMacVerif

/-! ## Morton keys (`MortonKeyGenerator::get_key`) -/
namespace Morton

/-- de-interleaving the key gives back the coordinates -/
theorem morton_roundtrip (x y z : Nat) (hx : x < 2 ^ 21) (hy : y < 2 ^ 21) (hz : z < 2 ^ 21) :
    unspread 21 (mortonKey x y z) = (x, y, z) := by
  rw [mortonKey_eq, unspread_spread, Nat.mod_eq_of_lt hx, Nat.mod_eq_of_lt hy, Nat.mod_eq_of_lt hz]

/-- the loop of `get_key` computes the bit interleaving, and the interleaving is injective on
21-bit coordinates (a left inverse exists) -/
theorem morton_injective (x y z x' y' z' : Nat)
    (hx : x < 2 ^ 21) (hy : y < 2 ^ 21) (hz : z < 2 ^ 21)
    (hx' : x' < 2 ^ 21) (hy' : y' < 2 ^ 21) (hz' : z' < 2 ^ 21)
    (h : mortonKey x y z = mortonKey x' y' z') : x = x' ∧ y = y' ∧ z = z' := by
  have e := congrArg (unspread 21) h
  rw [morton_roundtrip x y z hx hy hz, morton_roundtrip x' y' z' hx' hy' hz', Prod.mk.injEq, Prod.mk.injEq] at e
  exact e

/-- the key is a 63-bit number -/
theorem morton_key_lt (x y z : Nat) : mortonKey x y z < 2 ^ 63 := by
  rw [mortonKey_eq]; exact lt_of_lt_of_eq (spread_lt 21 x y z) (by norm_num)

/-- the key is strictly monotone in every coordinate separately (the other two fixed) -/
theorem morton_monotone (x x' y y' z z' : Nat)
    (hx' : x' < 2 ^ 21) (hy' : y' < 2 ^ 21) (hz' : z' < 2 ^ 21) :
    (x < x' → mortonKey x y z < mortonKey x' y z) ∧
    (y < y' → mortonKey x y z < mortonKey x y' z) ∧
    (z < z' → mortonKey x y z < mortonKey x y z') := by
  simp only [mortonKey_eq]
  rw [spread_split 21 x y z, spread_split 21 x' y z, spread_split 21 x y' z, spread_split 21 x y z']
  exact ⟨fun h => by have := spread_strict 21 x x' h hx'; omega,
    fun h => by have := spread_strict 21 y y' h hy'; omega,
    fun h => by have := spread_strict 21 z z' h hz'; omega⟩

example : mortonKey 1 0 0 = 4 ∧ mortonKey 0 1 0 = 2 ∧ mortonKey 0 0 1 = 1 ∧
    mortonKey 2097151 2097151 2097151 = 2 ^ 63 - 1 := by decide

end Morton

/-! ## Shell enumeration of the bucket search (`increase_indices`, `set_max_range`) -/
namespace Shells

/-- `increase_indices`, iterated from the anchor block, visits every integer offset exactly
once; the level it reports is the max-norm of the offset (so level `L` yields exactly the
offsets of max-norm `L`, each once); levels never decrease. -/
theorem shells_exactly_once :
    (∀ x y z : Int, ∃! n : Nat, ((iter n).rx, (iter n).ry, (iter n).rz) = (x, y, z)) ∧
    (∀ n : Nat, (iter n).level = maxNorm (iter n).rx (iter n).ry (iter n).rz) ∧
    (∀ m n : Nat, m ≤ n → (iter m).level ≤ (iter n).level) := by
  refine ⟨?_, fun n => (good_iter n).symm, fun m n h => level_mono h⟩
  intro x y z
  obtain ⟨n, hn⟩ := iter_surjective ⟨x, y, z, maxNorm x y z⟩ rfl
  have hn0 : ((iter n).rx, (iter n).ry, (iter n).rz) = (x, y, z) := by rw [hn]
  refine ⟨n, hn0, fun n' hn' => ?_⟩
  rw [← hn0, Prod.mk.injEq, Prod.mk.injEq] at hn'
  exact iter_offsets_inj hn'.1 hn'.2.1 hn'.2.2

/-- level by level: the states produced with level `L` are exactly the offsets of max-norm `L` -/
theorem shell_level_iff (x y z L : Int) : (∃ n, iter n = ⟨x, y, z, L⟩) ↔ maxNorm x y z = L := by
  constructor
  · rintro ⟨n, hn⟩; have := good_iter n; rw [hn] at this; exact this
  · intro h; exact iter_surjective _ h

/-- the traversal is strictly increasing in the order (level, then lexicographic offset) -/
theorem shells_ordered (m n : Nat) (h : m < n) : Lt (iter m) (iter n) := iter_strictMono h

/-- `set_max_range` on a cubic bucket grid (`PointLocations` always builds `ncell_1D³`):
the returned offset lies inside the grid, is visited by the traversal, and every block inside
the grid is visited no later; the returned level is its level. -/
theorem max_range_is_last (ax ay az s : Int)
    (hx : 0 ≤ ax ∧ ax < s) (hy : 0 ≤ ay ∧ ay < s) (hz : 0 ≤ az ∧ az < s) :
    Inside ax ay az s s s (setMaxRange ax ay az s s s) ∧
    ∃ N : Nat, iter N = setMaxRange ax ay az s s s ∧
      ∀ n : Nat, Inside ax ay az s s s (iter n) → n ≤ N :=
  setMaxRange_isLast ax ay az s hx hy hz

/-- the statement needs the cubic grid: for a 5×1×3 grid and anchor (2,0,2) the C++ rule returns
(2,0,-2), but the block (2,0,0) lies inside the grid and comes later in the traversal -/
example : setMaxRange 2 0 2 5 1 3 = ⟨2, 0, -2, 2⟩ ∧ Inside 2 0 2 5 1 3 ⟨2, 0, 0, 2⟩ ∧
    Good ⟨2, 0, 0, 2⟩ ∧ Lt (setMaxRange 2 0 2 5 1 3) ⟨2, 0, 0, 2⟩ := by
  refine ⟨by decide, by unfold Inside; decide, by unfold Good maxNorm; decide, by unfold Lt; decide⟩

example : setMaxRange 6 9 9 10 10 10 = ⟨3, 0, -9, 9⟩ := by decide

/-- `increase_range`: from a block inside the grid that is not the last one, the skipping loop
stops (for every sufficiently large fuel) on the next block of the traversal that lies inside
the grid; the level grows by at most one. -/
theorem increase_range_next (ax ay az s : Int)
    (hx : 0 ≤ ax ∧ ax < s) (hy : 0 ≤ ay ∧ ay < s) (hz : 0 ≤ az ∧ az < s) (k : Nat)
    (hne : ¬ ((iter k).rx = (setMaxRange ax ay az s s s).rx ∧ (iter k).ry = (setMaxRange ax ay az s s s).ry
      ∧ (iter k).rz = (setMaxRange ax ay az s s s).rz))
    (hk : Inside ax ay az s s s (iter k)) :
    ∃ k' : Nat, k < k' ∧ Inside ax ay az s s s (iter k') ∧
      (∀ j, k < j → j < k' → ¬ Inside ax ay az s s s (iter j)) ∧
      (iter k').level ≤ (iter k).level + 1 ∧
      ∀ fuel, k' - k ≤ fuel →
        increaseRange ax ay az s s s (setMaxRange ax ay az s s s) fuel (iter k) = .next (iter k') :=
  increaseRange_next ax ay az s hx hy hz k hne hk

/-- on the last block `increase_range` returns false -/
theorem increase_range_end (ax ay az s : Int) (fuel : Nat) :
    increaseRange ax ay az s s s (setMaxRange ax ay az s s s) fuel (setMaxRange ax ay az s s s) = .atEnd :=
  increaseRange_atEnd fuel ⟨rfl, rfl, rfl⟩

end Shells
/-! ## AMR grid (`AMRGridCell`, `AMRGrid`) -/
namespace AMR
open CMacVerif.GridNum

/-- trees reachable from a freshly created block (`create_all_cells`) by refining leaves -/
inductive Reachable : Tree → Prop
  | full (n : Nat) : Reachable (full n)
  | refine (t : Tree) (π : List Nat) : Reachable t → π ∈ leafPaths t →
      Reachable (refine t (encodeKey π)).1

/-- key ↔ (level, path of child positions) is a bijection: a path of child indices is recovered
from its key; a number whose highest bit is a level marker (bit 3·level) is the key of its
decoded path; the 64-bit key splits into block indices (10 bits each) and the cell key -/
theorem amr_key_roundtrip :
    (∀ π : List Nat, (∀ i ∈ π, i < 8) → decodeKey (encodeKey π) = π ∧
        8 ^ π.length ≤ encodeKey π ∧ encodeKey π < 2 * 8 ^ π.length) ∧
    (∀ level k : Nat, 8 ^ level ≤ k → k < 2 * 8 ^ level →
        encodeKey (decodeKey k) = k ∧ ∀ i ∈ decodeKey k, i < 8) ∧
    (∀ ix iy iz cell : Nat, ix < 1024 → iy < 1024 → iz < 1024 → cell < 2 ^ 32 →
        blockOfKey (gridKey ix iy iz cell) = (ix, iy, iz) ∧ cellOfKey (gridKey ix iy iz cell) = cell ∧
        gridKey ix iy iz cell < 2 ^ 62) :=
  ⟨fun π h => ⟨decode_encode π h, encodeKey_bounds π h⟩,
   fun level k h1 h2 => ⟨encode_decode level k h1 h2, decodeKey_lt8 k⟩,
   fun ix iy iz cell => gridKey_roundtrip ix iy iz cell⟩

/-- `get_first_key` / `get_next_key` inside one block: for EVERY tree (in particular every tree
reachable by refinements) of depth ≤ 10 the loop `key = first; while (key != MAX) key = next(key)`
visits exactly the keys of the leaves, each once, in Morton order. -/
theorem amr_enumeration (t : Tree) (hd : depth t ≤ 10) (fuel : Nat) (hf : numLeaves t < fuel) :
    enumerate (fun k => nextKey t k 0) maxKey fuel (firstKey t 0) = leafKeys t 0 0 ∧
    leafKeys t 0 0 = (leafPaths t).map encodeKey ∧ (leafPaths t).Nodup ∧ (leafKeys t 0 0).Nodup ∧
    (leafKeys t 0 0).length = numLeaves t := by
  obtain ⟨hh, hc⟩ := nextKey_chain t 0 0 (by norm_num) (by omega)
  have hne : ∀ k ∈ leafKeys t 0 0, k ≠ maxKey := by
    intro k hk; have := leafKeys_lt t 0 0 k hk (by norm_num) (by omega); unfold maxKey; omega
  exact ⟨enumerate_of_chain (by rw [hh, Nat.zero_add]) hc hne fuel (by rw [leafKeys_length]; exact hf),
    leafKeys_block t, leafPaths_nodup t, leafKeys_nodup t, leafKeys_length t⟩

theorem amr_enumeration_reachable (t : Tree) (_ : Reachable t) (hd : depth t ≤ 10) :
    enumerate (fun k => nextKey t k 0) maxKey (numLeaves t + 1) (firstKey t 0) = leafKeys t 0 0 :=
  (amr_enumeration t hd _ (Nat.lt_succ_self _)).1

/-- refining a leaf replaces it by eight leaves: key of the first child, the refined cell, count -/
theorem amr_refine (t : Tree) (π : List Nat) (h : π ∈ leafPaths t) :
    (refine t (encodeKey π)).2 = encodeKey (π ++ [0]) ∧
    subtree (refine t (encodeKey π)).1 (encodeKey π) = some (.node fun _ => .leaf) ∧
    numLeaves (refine t (encodeKey π)).1 = numLeaves t + 7 := refine_spec t π h

/-- whole grid: `AMRGrid::get_first_key` / `get_next_key` visit every leaf of every block exactly
once (blocks in x, y, z order), for any number of blocks ≤ 1024 per axis and any trees of
depth ≤ 10 in the blocks. -/
theorem amr_enumeration_grid (g : Grid) (hg : g.WF) (fuel : Nat) (hf : (gridKeys g).length < fuel) :
    enumerate (gridNextKey g) maxKey64 fuel (gridFirstKey g) = gridKeys g ∧ (gridKeys g).Nodup := by
  obtain ⟨hc, hh⟩ := gridKeys_chain g hg
  have hne : ∀ k ∈ gridKeys g, k ≠ maxKey64 := by
    intro k hk; have := gridKeys_lt g hg k hk; unfold maxKey64; omega
  exact ⟨enumerate_of_chain hh hc hne fuel hf, gridKeys_nodup g hg⟩

/-- leaf volumes sum to the volume of the cell / of the whole box -/
theorem amr_volumes_sum (t : Tree) (b : Box3 ℝ) (g : Grid) (hx : 0 < g.nx) (hy : 0 < g.ny) (hz : 0 < g.nz) :
    volSum t b = volume b ∧ gridVolSum g b = volume b :=
  ⟨volSum_eq t b, gridVolSum_eq g b hx hy hz⟩

/-- descent by position (`get_key(position)`, `get_cell(position)`), exact arithmetic: for a
position in the half-open box the clamps are inactive, the descent ends in a leaf of
the block whose box contains the position, the returned key is that leaf's key, and no other
leaf of any block contains the position. -/
theorem amr_contains (g : Grid) (b : Box3 ℝ) (p : V3 ℝ) (hx : 0 < g.nx) (hy : 0 < g.ny) (hz : 0 < g.nz)
    (hb : PosBox b) (hp : InBox b p) :
    let ix := blockIndex g.nx p.x b.ax b.sx
    let iy := blockIndex g.ny p.y b.ay b.sy
    let iz := blockIndex g.nz p.z b.az b.sz
    ix < g.nx ∧ iy < g.ny ∧ iz < g.nz ∧
    InBox (gridLocate g b p).2 p ∧
    (∃ π ∈ leafPaths (g.block ix iy iz), (gridLocate g b p).1 = gridKey ix iy iz (encodeKey π) ∧
      (gridLocate g b p).2 = boxOfPath (blockBox g b ix iy iz) π) ∧
    (∀ jx jy jz : Nat, ∀ π ∈ leafPaths (g.block jx jy jz), InBox (boxOfPath (blockBox g b jx jy jz) π) p →
      (gridLocate g b p).1 = gridKey jx jy jz (encodeKey π)) :=
  amr_contains_aux g b p hx hy hz hb hp

/-- the look-up is total, for EVERY numeric type (`Float` included), every box and every position,
with no assumption on the position or on rounding: `get_key(position)` / `get_cell(position)`
return the key of a leaf of the grid (the clamped block and child indices, fix 2fae05a, never
leave the arrays) -/
theorem amr_locate_total {α : Type} [Add α] [Sub α] [Mul α] [Div α] [OfScientific α] [GridNum.Trunc α] [OfInt α]
    (g : Grid) (hx : 0 < g.nx) (hy : 0 < g.ny) (hz : 0 < g.nz) (b : Box3 α) (p : V3 α) :
    (gridLocate g b p).1 ∈ gridKeys g ∧
    blockIndex g.nx p.x b.ax b.sx < g.nx ∧ blockIndex g.ny p.y b.ay b.sy < g.ny ∧
    blockIndex g.nz p.z b.az b.sz < g.nz :=
  ⟨gridLocate_mem g hx hy hz b p, blockIndex_lt g.nx hx _ _ _, blockIndex_lt g.ny hy _ _ _,
    blockIndex_lt g.nz hz _ _ _⟩

/-- non-vacuity: a 3×1×2 grid of once-refined blocks is well-formed, a point inside it exists -/
example : (Grid.mk' 3 1 2 1).WF :=
  ⟨by decide, by decide, by decide, by decide, by decide, by decide, fun _ _ _ => by show depth (full 1) ≤ 10; decide⟩

example : InBox (⟨0, 0, 0, 1, 1, 1⟩ : Box3 ℝ) ⟨0.5, 0, 0.25⟩ ∧ PosBox (⟨0, 0, 0, 1, 1, 1⟩ : Box3 ℝ) := by
  unfold InBox PosBox; norm_num

example : leafKeys (full 1) 0 0 = [8, 9, 10, 11, 12, 13, 14, 15] := by decide

end AMR

/-! ## Cartesian grid (`CartesianDensityGrid`) -/
namespace Cartesian
open CMacVerif.GridNum

def InRange (n i : I3) : Prop := 0 ≤ i.x ∧ i.x < n.x ∧ 0 ≤ i.y ∧ i.y < n.y ∧ 0 ≤ i.z ∧ i.z < n.z

/-- every position of the half-open box lies in exactly one cell, the one `get_cell_indices`
returns; its long index is in range and converts back (`get_indices`) -/
theorem cartesian_unique_cell (box : Box3 ℝ) (n : I3) (px py pz : Bool) (p : V3 ℝ)
    (hnx : 0 < n.x) (hny : 0 < n.y) (hnz : 0 < n.z) (hb : PosBox box) (hp : InBox box p) :
    let g := mkGrid box n px py pz
    InRange n (cellIndices g p) ∧ InBox (cellBox g (cellIndices g p)) p ∧
    (∀ j : I3, InBox (cellBox g j) p → j = cellIndices g p) ∧
    indicesOf n (longIndex n (cellIndices g p)) = cellIndices g p ∧
    0 ≤ longIndex n (cellIndices g p) ∧ longIndex n (cellIndices g p) < n.x * n.y * n.z := by
  intro g
  obtain ⟨⟨r1, r2, r3, r4, r5, r6⟩, hin⟩ := cellIndices_spec box n px py pz p hnx hny hnz hb hp
  exact ⟨⟨r1, r2, r3, r4, r5, r6⟩, hin,
    fun j hj => cellBox_unique g (mkGrid_ok box n px py pz hnx hny hnz hb) _ j p hin hj,
    longIndex_roundtrip n _ ⟨r3, r4⟩ ⟨r5, r6⟩, longIndex_range n _ ⟨r1, r2⟩ ⟨r3, r4⟩ ⟨r5, r6⟩⟩

/-- rounding-robust form (every numeric type, `Float` included, no assumption on how the product
`(p - anchor) * inverse_cellside` was rounded): if the truncated raw indices lie in `[0, ncell]` and
the position is not above the top faces, `get_cell_indices` returns the indices of an existing
cell.  (In doubles the raw index of a position of the box is at most `ncell`: the product is at
most `ncell (1 + 3·2⁻⁵³)`.) -/
theorem cartesian_index_robust {α : Type} [Add α] [Sub α] [Mul α] [Div α] [Neg α] [LT α] [LE α] [DecidableLT α]
    [DecidableLE α] [OfScientific α] [GridNum.Trunc α] [OfInt α] (g : Grid α) (p : V3 α)
    (hnx : 0 < g.n.x) (hny : 0 < g.n.y) (hnz : 0 < g.n.z)
    (hx : 0 ≤ (rawIndices g p).x ∧ (rawIndices g p).x ≤ g.n.x ∧ p.x ≤ g.box.ax + g.box.sx)
    (hy : 0 ≤ (rawIndices g p).y ∧ (rawIndices g p).y ≤ g.n.y ∧ p.y ≤ g.box.ay + g.box.sy)
    (hz : 0 ≤ (rawIndices g p).z ∧ (rawIndices g p).z ≤ g.n.z ∧ p.z ≤ g.box.az + g.box.sz) :
    InRange g.n (cellIndices g p) := by
  obtain ⟨a1, a2⟩ := clampTop_range g.n.x _ p.x _ hnx hx.1 hx.2.1 hx.2.2
  obtain ⟨b1, b2⟩ := clampTop_range g.n.y _ p.y _ hny hy.1 hy.2.1 hy.2.2
  obtain ⟨c1, c2⟩ := clampTop_range g.n.z _ p.z _ hnz hz.1 hz.2.1 hz.2.2
  exact ⟨a1, a2, b1, b2, c1, c2⟩

/-- all cells have the same volume and the volumes of the `nx·ny·nz` cells sum to the box volume -/
theorem cartesian_volumes (box : Box3 ℝ) (n : I3) (px py pz : Bool)
    (hnx : 0 < n.x) (hny : 0 < n.y) (hnz : 0 < n.z) :
    let g := mkGrid box n px py pz
    ((List.range (n.x * n.y * n.z).toNat).map (fun _ => cellVolume g)).sum = box.sx * box.sy * box.sz := by
  intro g
  have hx : (n.x : ℝ) ≠ 0 := by exact_mod_cast hnx.ne'
  have hy : (n.y : ℝ) ≠ 0 := by exact_mod_cast hny.ne'
  have hz : (n.z : ℝ) ≠ 0 := by exact_mod_cast hnz.ne'
  have hpos : 0 ≤ n.x * n.y * n.z := (Int.mul_pos (Int.mul_pos hnx hny) hnz).le
  simp only [List.map_const', List.sum_replicate, List.length_range, nsmul_eq_mul, cellVolume, g, mkGrid,
    ofInt_real]
  have : (((n.x * n.y * n.z).toNat : Nat) : ℝ) = (n.x : ℝ) * n.y * n.z := by
    rw [← Int.cast_natCast, Int.toNat_of_nonneg hpos]; push_cast; ring
  rw [this]; field_simp

/-- neighbour relations are mutual: if `B` is the neighbour of `A` across a face (also through a
periodic boundary), `A` is the neighbour of `B` across the opposite face; neighbours are cells of
the grid -/
theorem cartesian_neighbours_mutual (g : Grid ℝ) (i : I3) (hi : InRange g.n i) (up : Bool) (v : Int) :
    (ngbAxis g.px g.n.x i.x up = some v → InRange g.n ⟨v, i.y, i.z⟩ ∧ ngbAxis g.px g.n.x v (!up) = some i.x) ∧
    (ngbAxis g.py g.n.y i.y up = some v → InRange g.n ⟨i.x, v, i.z⟩ ∧ ngbAxis g.py g.n.y v (!up) = some i.y) ∧
    (ngbAxis g.pz g.n.z i.z up = some v → InRange g.n ⟨i.x, i.y, v⟩ ∧ ngbAxis g.pz g.n.z v (!up) = some i.z) := by
  obtain ⟨a1, a2, b1, b2, c1, c2⟩ := hi
  refine ⟨fun h => ?_, fun h => ?_, fun h => ?_⟩
  · obtain ⟨h1, h2, h3⟩ := ngbAxis_mutual g.px g.n.x i.x v up ⟨a1, a2⟩ h
    exact ⟨⟨h1, h2, b1, b2, c1, c2⟩, h3⟩
  · obtain ⟨h1, h2, h3⟩ := ngbAxis_mutual g.py g.n.y i.y v up ⟨b1, b2⟩ h
    exact ⟨⟨a1, a2, h1, h2, c1, c2⟩, h3⟩
  · obtain ⟨h1, h2, h3⟩ := ngbAxis_mutual g.pz g.n.z i.z v up ⟨c1, c2⟩ h
    exact ⟨⟨a1, a2, b1, b2, h1, h2⟩, h3⟩

/-- the six entries of `get_neighbours` are these per-axis neighbours, as long indices -/
theorem cartesian_neighbours_list (g : Grid ℝ) (i : I3) :
    neighbours g i =
      [ (ngbAxis g.px g.n.x i.x false).map (fun v => longIndex g.n ⟨v, i.y, i.z⟩),
        (ngbAxis g.px g.n.x i.x true).map (fun v => longIndex g.n ⟨v, i.y, i.z⟩),
        (ngbAxis g.py g.n.y i.y false).map (fun v => longIndex g.n ⟨i.x, v, i.z⟩),
        (ngbAxis g.py g.n.y i.y true).map (fun v => longIndex g.n ⟨i.x, v, i.z⟩),
        (ngbAxis g.pz g.n.z i.z false).map (fun v => longIndex g.n ⟨i.x, i.y, v⟩),
        (ngbAxis g.pz g.n.z i.z true).map (fun v => longIndex g.n ⟨i.x, i.y, v⟩) ] := rfl

/-- `interact`, for every grid, medium, start, direction, target optical depth and every number
of loop iterations (`fuel`):
* Σ path · direction = displacement, up to whole box lengths on periodic axes only;
and, when the loop has ended (`finished`):
* the photon is reported absorbed (a cell is returned) exactly when the final cell index lies
  inside the grid;
* absorbed ⇒ the optical depth used up, Σ κ·path, equals the target exactly;
* escaped ⇒ the optical depth used up is target − remaining with remaining ≥ 0. -/
theorem cartesian_path_sum (big : ℝ) (g : Grid ℝ) (m : Medium ℝ) (p d inv : V3 ℝ) (tau : ℝ) (fuel : Nat)
    (hnx : 0 < g.n.x) (hny : 0 < g.n.y) (hnz : 0 < g.n.z) (htau : 0 < tau) :
    let r := interact big g m p d inv tau fuel
    (∃ wx wy wz : Int,
      r.pos.x = p.x + d.x * pathSum r.path + wx * g.box.sx ∧ (g.px = false → wx = 0) ∧
      r.pos.y = p.y + d.y * pathSum r.path + wy * g.box.sy ∧ (g.py = false → wy = 0) ∧
      r.pos.z = p.z + d.z * pathSum r.path + wz * g.box.sz ∧ (g.pz = false → wz = 0)) ∧
    (r.finished = true →
      (r.cell.isSome ↔ gridFlag g (loop big g m d inv fuel ⟨p, cellIndices g p, tau, [], none, 0.0⟩).1.idx = true) ∧
      (r.cell.isSome → tauSum m r.path = tau ∧ r.od ≤ 0) ∧
      (r.cell = none → 0 ≤ r.od ∧ tauSum m r.path = tau - r.od)) := by
  intro r
  set st0 : St ℝ := ⟨p, cellIndices g p, tau, [], none, 0.0⟩ with hst0
  set se := (loop big g m d inv fuel st0).1
  obtain ⟨σ, ⟨⟨wx, hx1, hx2⟩, ⟨wy, hy1, hy2⟩, ⟨wz, hz1, hz2⟩⟩, hpos⟩ := loop_onLine big g m p d inv fuel st0
    ⟨⟨0, 0, 0⟩, lattice_zero g, by simp [hst0, lineAt, pathSum]⟩
  refine ⟨⟨wx, wy, wz, ?_, hx2, ?_, hy2, ?_, hz2⟩, fun hfin => ?_⟩
  · show se.pos.x = p.x + d.x * pathSum se.path + _
    rw [hpos, ← hx1]; simp only [lineAt]; ring
  · show se.pos.y = p.y + d.y * pathSum se.path + _
    rw [hpos, ← hy1]; simp only [lineAt]; ring
  · show se.pos.z = p.z + d.z * pathSum se.path + _
    rw [hpos, ← hz1]; simp only [lineAt]; ring
  have ht0 : TauInv g m tau st0 :=
    ⟨fun _ => by simp [hst0, tauSum], fun h => absurd htau (not_lt.mpr (le_of_lt h)), by simp [hst0]⟩
  obtain ⟨⟨t1, t2, t3⟩, hex⟩ := loop_exit big g m tau d inv fuel st0 ht0 hfin
  have hcell : r.cell = if gridFlag g se.idx = true then se.last else none := interact_cell big g m p d inv tau fuel
  rw [hcell]
  by_cases hf : gridFlag g se.idx = true
  · -- inside at exit: the optical depth is used up, so at least one cell was traversed
    rw [if_pos hf]
    have hle : se.od ≤ 0 := not_lt.1 fun h => hex ⟨hf, h⟩
    obtain ⟨hsum, hsome⟩ := used_up htau t1 (fun h => (t2 h).1) (fun hl => by rw [t3.1 hl]; rfl) hle
    exact ⟨⟨fun _ => hf, fun _ => Option.isSome_iff_ne_none.2 hsome⟩, fun _ => ⟨hsum, hle⟩, fun h => absurd h hsome⟩
  · rw [if_neg hf]
    have hnn : 0 ≤ se.od := not_lt.1 fun h => hf (t2 h).2
    exact ⟨⟨fun h => by simp at h, fun h => absurd h hf⟩, fun h => by simp at h,
      fun _ => ⟨hnn, (t1 hnn).symm⟩⟩

/-- non-vacuity: a 3×5×7 grid over the unit box, a point inside -/
example : PosBox (⟨0, 0, 0, 1, 1, 1⟩ : Box3 ℝ) ∧ InBox (⟨0, 0, 0, 1, 1, 1⟩ : Box3 ℝ) ⟨0.5, 0.25, 0⟩ ∧
    InRange ⟨3, 5, 7⟩ ⟨1, 1, 0⟩ := by
  unfold PosBox InBox InRange; norm_num

/-- `get_wall_intersection` in exact arithmetic: from a point of the closed cell along a non-zero
direction (inverse direction = 1/direction, `DBL_MAX` above every wall distance): the distance is
≥ 0, the returned point lies in the closed cell, an index offset +1/−1 on an axis means the point
lies on the upper/lower wall of that axis and the photon moves that way; some offset is non-zero -/
theorem cartesian_wall_intersection (big : ℝ) (o d inv : V3 ℝ) (cell : Box3 ℝ) (ho : ClosedIn cell o)
    (hix : d.x ≠ 0 → inv.x = 1 / d.x) (hiy : d.y ≠ 0 → inv.y = 1 / d.y) (hiz : d.z ≠ 0 → inv.z = 1 / d.z)
    (hd : d.x ≠ 0 ∨ d.y ≠ 0 ∨ d.z ≠ 0)
    (hbx : d.x ≠ 0 → wallDist big o.x d.x inv.x cell.ax (cell.ax + cell.sx) < big)
    (hby : d.y ≠ 0 → wallDist big o.y d.y inv.y cell.ay (cell.ay + cell.sy) < big)
    (hbz : d.z ≠ 0 → wallDist big o.z d.z inv.z cell.az (cell.az + cell.sz) < big) :
    let w := wallIntersection big o d inv cell
    0 ≤ w.2.2 ∧ ClosedIn cell w.1 ∧
    (w.2.1.x = 1 → 0 < d.x ∧ w.1.x = cell.ax + cell.sx) ∧ (w.2.1.x = -1 → d.x < 0 ∧ w.1.x = cell.ax) ∧
    (w.2.1.y = 1 → 0 < d.y ∧ w.1.y = cell.ay + cell.sy) ∧ (w.2.1.y = -1 → d.y < 0 ∧ w.1.y = cell.ay) ∧
    (w.2.1.z = 1 → 0 < d.z ∧ w.1.z = cell.az + cell.sz) ∧ (w.2.1.z = -1 → d.z < 0 ∧ w.1.z = cell.az) ∧
    (w.2.1.x ≠ 0 ∨ w.2.1.y ≠ 0 ∨ w.2.1.z ≠ 0) := by
  obtain ⟨ds0, hmem, h⟩ := wallIntersection_spec big o d inv cell ho hix hiy hiz hd hbx hby hbz
  exact ⟨ds0, hmem _ ds0 le_rfl, h⟩

/-- the traversal stays geometric: for a grid as the constructor builds it, a start in the
half-open box and a ray satisfying `RayOK`, after ANY number of loop iterations every recorded
path length is ≥ 0 and credited to a cell of the grid; the photon position always lies in the
closed box of its current cell (through wall crossings, edge/corner crossings and periodic
wraps), in particular an absorbed photon ends inside the box, in the closed cell it is in. -/
theorem cartesian_segments (big : ℝ) (box : Box3 ℝ) (n : I3) (px py pz : Bool) (m : Medium ℝ) (p d inv : V3 ℝ)
    (tau : ℝ) (fuel : Nat) (hnx : 0 < n.x) (hny : 0 < n.y) (hnz : 0 < n.z) (hb : PosBox box) (hp : InBox box p)
    (hr : RayOK big (mkGrid box n px py pz) d inv) :
    let g := mkGrid box n px py pz
    let r := interact big g m p d inv tau fuel
    (∀ e ∈ r.path, 0 ≤ e.2 ∧ 0 ≤ e.1 ∧ e.1 < n.x * n.y * n.z) ∧
    (r.finished = true → r.cell.isSome →
      ∃ i : I3, InRange n i ∧ ClosedIn (cellBox g i) r.pos ∧ ClosedIn box r.pos) := by
  intro g r
  have hg : GridOK g := mkGrid_ok box n px py pz hnx hny hnz hb
  set st0 : St ℝ := ⟨p, cellIndices g p, tau, [], none, 0.0⟩
  obtain ⟨-, hpath, hexit⟩ := loop_chord big g hg m d inv p hr fuel st0
    (start_chord box n px py pz p d tau hnx hny hnz hb hp)
  refine ⟨hpath, fun hfin hcell => ?_⟩
  set se := (loop big g m d inv fuel st0).1
  have hflag : gridFlag g se.idx = true := by
    have hc : r.cell = if gridFlag g se.idx = true then se.last else none := interact_cell big g m p d inv tau fuel
    by_contra hcon
    rw [hc, if_neg hcon] at hcell
    simp at hcell
  obtain ⟨hs, hrng⟩ := hexit hfin hflag
  exact ⟨se.idx, hrng, hs.inCell, closedIn_box g hg _ hrng _ hs.inCell⟩

/-- non-vacuity: a ray along +x in a 2×2×2 grid over the unit box, `big = 10` -/
example : RayOK 10 (mkGrid (⟨0, 0, 0, 1, 1, 1⟩ : Box3 ℝ) ⟨2, 2, 2⟩ false false false) ⟨1, 0, 0⟩ ⟨1, 0, 0⟩ := by
  refine ⟨fun _ => by norm_num, fun h => absurd rfl h, fun h => absurd rfl h, Or.inl (by norm_num), ?_⟩
  intro i o ho
  refine ⟨fun _ => ?_, fun h => absurd rfl h, fun h => absurd rfl h⟩
  obtain ⟨h1, _⟩ := ho
  simp only [cellBox, mkGrid, ofInt_real, wallDist, lit0] at h1 ⊢
  norm_num at h1 ⊢
  linarith

/-- both ways the drivers give a photon a direction — the constructor and `set_direction`
(re-emission, scattering) — cache the componentwise inverse of that direction, so the `inv = 1/d`
hypotheses of `RayOK` hold for every photon `interact` is called with, and `interactPhoton` is
`interact` on that pair -/
theorem photon_inverse_direction (old : PhotonDir ℝ) (d : V3 ℝ) :
    (∀ ph : PhotonDir ℝ, ph = PhotonDir.new d ∨ ph = old.setDirection d →
      ph.dir = d ∧ ph.inv.x = 1 / d.x ∧ ph.inv.y = 1 / d.y ∧ ph.inv.z = 1 / d.z) ∧
    (∀ (big : ℝ) (g : Grid ℝ) (m : Medium ℝ) (p : V3 ℝ) (ph : PhotonDir ℝ) (tau : ℝ) (fuel : Nat),
      interactPhoton big g m p ph tau fuel = interact big g m p ph.dir ph.inv tau fuel) := by
  refine ⟨?_, fun _ _ _ _ _ _ _ => rfl⟩
  rintro ph (rfl | rfl) <;> simp only [PhotonDir.new, PhotonDir.setDirection] <;> norm_num

/-- the deposits ARE the chords.  For a grid as the constructor builds it, a start in the
half-open box and a ray satisfying `RayOK`, after any number of loop iterations: the deposit
`(c, ds)` made after the deposits `older` covers the line parameters `[T, T + ds]`, `T = Σ older`;
there is a cell `i` of the grid with long index `c` and an image `σ` of the line (whole box lengths
on periodic axes only, `σ = 0` without periodicity) such that
* the whole interval lies in the closed chord of cell `i` (the deposit is part of the chord), and
* wherever on that interval (any image of) the line is in the OPEN box of a cell `j`, that cell is
  `i` and the image is `σ` (no part of the open chord of another cell is credited to `c`).
Together with `cartesian_path_sum` (the intervals tile `[0, S]`): the parameter set credited to a
cell lies between its open and its closed chord, i.e. equals the chord up to the end points. -/
theorem cartesian_deposits_are_chords (big : ℝ) (box : Box3 ℝ) (n : I3) (px py pz : Bool) (m : Medium ℝ)
    (p d inv : V3 ℝ) (tau : ℝ) (fuel : Nat) (hnx : 0 < n.x) (hny : 0 < n.y) (hnz : 0 < n.z) (hb : PosBox box)
    (hp : InBox box p) (hr : RayOK big (mkGrid box n px py pz) d inv) :
    let g := mkGrid box n px py pz
    let r := interact big g m p d inv tau fuel
    ∀ (newer older : List (Int × ℝ)) (c : Int) (ds : ℝ), r.path = newer ++ (c, ds) :: older →
      0 ≤ ds ∧ ∃ (i : I3) (σ : V3 ℝ), InRange' g.n i ∧ longIndex g.n i = c ∧ Lattice g σ ∧
        (∀ t, pathSum older ≤ t → t ≤ pathSum older + ds → ClosedChord (cellBox g i) p d σ t) ∧
        (∀ (t : ℝ) (j : I3) (σ' : V3 ℝ), pathSum older ≤ t → t ≤ pathSum older + ds → InRange' g.n j →
          Lattice g σ' → OpenChord (cellBox g j) p d σ' t → j = i ∧ σ' = σ) := by
  intro g r newer older c ds hpath
  have hg : GridOK g := mkGrid_ok box n px py pz hnx hny hnz hb
  have hch : Chords g d p r.path :=
    (loop_chord big g hg m d inv p hr fuel _ (start_chord box n px py pz p d tau hnx hny hnz hb hp)).1
  rw [hpath] at hch
  obtain ⟨hds, ⟨i, σ, hi, hli, hσ, hc1, hc2⟩, _⟩ := chords_split g d p newer (c, ds) older hch
  refine ⟨hds, i, σ, hi, hli, hσ, ?_, ?_⟩
  · intro t ht0 ht1
    exact closed_convex _ p d σ _ _ t hc1 hc2 ht0 ht1
  · intro t j σ' ht0 ht1 hj hσ' ho
    exact cells_unique g hg p d σ σ' t i j hi hj hσ hσ' (closed_convex _ p d σ _ _ t hc1 hc2 ht0 ht1) ho

end Cartesian

/-! ## Bucket-grid nearest neighbour (`PointLocations::get_closest_neighbour`) -/
namespace Buckets
open CMacVerif.GridNum CMacVerif.Shells

/-- `get_closest_neighbour` returns the brute-force nearest neighbour, in exact arithmetic, for
every bucket grid, point set and query.  Proved from `shells_exactly_once` /
`max_range_is_last` / `increase_range_next` (every bucket inside the grid is reached, level by
level) under the hypotheses named here:
* `hanchor`: the anchor cell computed for the query lies inside the (cubic) grid;
* `hcover` (the covered-radius bound the code uses to stop): a point stored in a bucket whose
  offset from the anchor cell has max-norm ≥ L is at squared distance ≥ `get_max_radius2()` as
  computed after the widenings for the levels `< L`;
* `hfuelR` / `he`: the fuel of the two loops of the model did not run out.
`_partial`: `hcover` is assumed, not derived from the bucket assignment of the constructor. -/
theorem nearest_is_bruteforce_partial (g : BGrid ℝ) (p : V3 ℝ) (fuelR fuel : Nat)
    (hanchor : (0 ≤ anchorIndex p.x g.anchor.x g.cs.x ∧ anchorIndex p.x g.anchor.x g.cs.x < g.n) ∧
      (0 ≤ anchorIndex p.y g.anchor.y g.cs.y ∧ anchorIndex p.y g.anchor.y g.cs.y < g.n) ∧
      (0 ≤ anchorIndex p.z g.anchor.z g.cs.z ∧ anchorIndex p.z g.anchor.z g.cs.z < g.n))
    (hfuelR : ∀ k, Inside (anchorIndex p.x g.anchor.x g.cs.x) (anchorIndex p.y g.anchor.y g.cs.y)
      (anchorIndex p.z g.anchor.z g.cs.z) g.n g.n g.n (iter k) → k ≤ fuelR)
    (hcover : ∀ (L k q : Nat), 1 ≤ L →
      Inside (anchorIndex p.x g.anchor.x g.cs.x) (anchorIndex p.y g.anchor.y g.cs.y)
        (anchorIndex p.z g.anchor.z g.cs.z) g.n g.n g.n (iter k) → (L : Int) ≤ (iter k).level →
      q ∈ bucketAt g (anchorIndex p.x g.anchor.x g.cs.x) (anchorIndex p.y g.anchor.y g.cs.y)
        (anchorIndex p.z g.anchor.z g.cs.z) (iter k) →
      maxRadius2 (boundsAt g p (anchorIndex p.x g.anchor.x g.cs.x) (anchorIndex p.y g.anchor.y g.cs.y)
        (anchorIndex p.z g.anchor.z g.cs.z) L) ≤ d2 g p q)
    (he : (closest g p fuelR fuel).2 ≠ .fuel) :
    let r := (closest g p fuelR fuel).1.best
    let pts := AllPts g (anchorIndex p.x g.anchor.x g.cs.x) (anchorIndex p.y g.anchor.y g.cs.y)
      (anchorIndex p.z g.anchor.z g.cs.z)
    -- no point at all, or the returned index is a stored point at minimal distance
    (r.r2 < 0 ∧ ∀ q, ¬ pts q) ∨
    (pts r.idx ∧ r.r2 = dist2 (g.pos r.idx) p ∧ ∀ q, pts q → dist2 (g.pos r.idx) p ≤ dist2 (g.pos q) p) := by
  intro r pts
  set ax := anchorIndex p.x g.anchor.x g.cs.x
  set ay := anchorIndex p.y g.anchor.y g.cs.y
  set az := anchorIndex p.z g.anchor.z g.cs.z
  have hin0 : Inside ax ay az g.n g.n g.n (iter 0) := by
    unfold Inside; simp only [iter, start]; omega
  have hb0 : BestOf g p (Visited g ax ay az 0) (scan g p (g.bucket ax ay az) ⟨-1.0, 0⟩) := by
    have h0 : BestOf g p (fun _ => False) (⟨-1.0, 0⟩ : Best ℝ) := Or.inl ⟨by norm_num, fun _ h => h⟩
    exact BestOf.congr g p (fun q => by rw [visited_zero g ax ay az hin0, false_or]) (scan_best g p _ _ _ h0)
  have := searchLoop_correct g p ax ay az hanchor.1 hanchor.2.1 hanchor.2.2 fuelR hfuelR hcover fuel 0
    ⟨start, initBounds g ax ay az p, scan g p (g.bucket ax ay az) ⟨-1.0, 0⟩, 1⟩ ⟨rfl, hin0, rfl, hb0⟩
    (closest g p fuelR fuel).1 (closest g p fuelR fuel).2 rfl he
  rcases this with ⟨h1, h2⟩ | ⟨_, h2, h3, h4⟩
  · exact Or.inl ⟨h1, h2⟩
  · refine Or.inr ⟨h2, h3, fun q hq => ?_⟩
    have := h4 q hq
    rw [h3] at this
    exact this

/-- the covered-radius bound is a theorem when every stored point lies in the cell of its
bucket and the query lies in its anchor cell (`Geo`): `hcover` of
`nearest_is_bruteforce_partial` can be discharged -/
theorem nearest_covered_radius_bound (g : BGrid ℝ) (p : V3 ℝ) (ax ay az : Int) (hg : Geo g p ax ay az)
    (L k q : Nat) (hL : 1 ≤ L) (hin : Inside ax ay az g.n g.n g.n (iter k)) (hlev : (L : Int) ≤ (iter k).level)
    (hq : q ∈ bucketAt g ax ay az (iter k)) :
    maxRadius2 (boundsAt g p ax ay az L) ≤ d2 g p q :=
  cover_bound g p ax ay az hg L k q hL hin hlev hq

/-- hence: the search returns the brute-force nearest neighbour whenever the points lie in their
buckets and the query in its anchor cell (exact arithmetic; fuel of the model loops not
exhausted) -/
theorem nearest_is_bruteforce (g : BGrid ℝ) (p : V3 ℝ) (fuelR fuel : Nat)
    (hg : Geo g p (anchorIndex p.x g.anchor.x g.cs.x) (anchorIndex p.y g.anchor.y g.cs.y)
      (anchorIndex p.z g.anchor.z g.cs.z))
    (hfuelR : ∀ k, Inside (anchorIndex p.x g.anchor.x g.cs.x) (anchorIndex p.y g.anchor.y g.cs.y)
      (anchorIndex p.z g.anchor.z g.cs.z) g.n g.n g.n (iter k) → k ≤ fuelR)
    (he : (closest g p fuelR fuel).2 ≠ .fuel) :
    let r := (closest g p fuelR fuel).1.best
    let pts := AllPts g (anchorIndex p.x g.anchor.x g.cs.x) (anchorIndex p.y g.anchor.y g.cs.y)
      (anchorIndex p.z g.anchor.z g.cs.z)
    (r.r2 < 0 ∧ ∀ q, ¬ pts q) ∨
    (pts r.idx ∧ r.r2 = dist2 (g.pos r.idx) p ∧ ∀ q, pts q → dist2 (g.pos r.idx) p ≤ dist2 (g.pos q) p) :=
  nearest_is_bruteforce_partial g p fuelR fuel ⟨hg.hax, hg.hay, hg.haz⟩ hfuelR
    (fun L k q hL hin hlev hq => cover_bound g p _ _ _ hg L k q hL hin hlev hq) he

/-- non-vacuity: a one-bucket grid over the unit box with one stored point satisfies `Geo` -/
example : Geo (⟨⟨0, 0, 0⟩, ⟨1, 1, 1⟩, 1, fun ix iy iz => if ix = 0 ∧ iy = 0 ∧ iz = 0 then [0] else [],
      fun _ => ⟨0.25, 0.5, 0.75⟩⟩ : BGrid ℝ) ⟨0.3, 0.3, 0.3⟩ 0 0 0 := by
  refine ⟨by norm_num, by norm_num, by norm_num, by norm_num, by norm_num, by norm_num,
    by norm_num, by norm_num, by norm_num, ?_⟩
  intro ix iy iz q hq
  simp only at hq
  split_ifs at hq with h
  · obtain ⟨rfl, rfl, rfl⟩ := h; norm_num
  · simp at hq

/-- for the grid the constructor builds (explicit box, `bucketsFrom`: position `i` is pushed to
the bucket with its three truncated indices): with all positions and the query in the half-open
box, `Geo` is a theorem, the buckets hold exactly the indices `< npts`, and `get_closest_neighbour`
returns the brute-force nearest neighbour of ALL positions.  The only remaining hypotheses are the
fuel bounds of the two model loops (an exhausted fuel is printed by the run). -/
theorem nearest_is_bruteforce_built (n : Int) (a s : V3 ℝ) (pos : Nat → V3 ℝ) (npts : Nat) (p : V3 ℝ)
    (fuelR fuel : Nat) (hn : 0 < n) (hb : PosBox (boxOf a s))
    (hpts : ∀ i < npts, InBox (boxOf a s) (pos i)) (hp : InBox (boxOf a s) p)
    (hfuelR : ∀ k, Inside (anchorIndex p.x (build n a s pos npts).anchor.x (build n a s pos npts).cs.x)
      (anchorIndex p.y (build n a s pos npts).anchor.y (build n a s pos npts).cs.y)
      (anchorIndex p.z (build n a s pos npts).anchor.z (build n a s pos npts).cs.z) n n n (iter k) → k ≤ fuelR)
    (he : (closest (build n a s pos npts) p fuelR fuel).2 ≠ .fuel) :
    let r := (closest (build n a s pos npts) p fuelR fuel).1.best
    (r.r2 < 0 ∧ npts = 0) ∨
    (r.idx < npts ∧ r.r2 = dist2 (pos r.idx) p ∧ ∀ q < npts, dist2 (pos r.idx) p ≤ dist2 (pos q) p) := by
  intro r
  have hg := build_geo n a s pos npts p hn hb hpts hp
  have hall := build_allPts n a s pos npts
    (anchorIndex p.x (build n a s pos npts).anchor.x (build n a s pos npts).cs.x)
    (anchorIndex p.y (build n a s pos npts).anchor.y (build n a s pos npts).cs.y)
    (anchorIndex p.z (build n a s pos npts).anchor.z (build n a s pos npts).cs.z) hn hb hpts
  rcases nearest_is_bruteforce (build n a s pos npts) p fuelR fuel hg hfuelR he with ⟨h1, h2⟩ | ⟨h1, h2, h3⟩
  · left
    refine ⟨h1, ?_⟩
    by_contra hne
    exact h2 0 ((hall 0).mpr (Nat.pos_of_ne_zero hne))
  · right
    exact ⟨(hall _).mp h1, h2, fun q hq => h3 q ((hall q).mpr hq)⟩

/-- non-vacuity: two positions and a query in the unit box, a 2³ bucket grid -/
example : PosBox (boxOf (⟨0, 0, 0⟩ : V3 ℝ) ⟨1, 1, 1⟩) ∧
    (∀ i < 2, InBox (boxOf (⟨0, 0, 0⟩ : V3 ℝ) ⟨1, 1, 1⟩)
      ((fun i => if i = 0 then (⟨0.25, 0.25, 0.25⟩ : V3 ℝ) else ⟨0.75, 0.5, 0.5⟩) i)) ∧
    InBox (boxOf (⟨0, 0, 0⟩ : V3 ℝ) ⟨1, 1, 1⟩) ⟨0.3, 0.3, 0.3⟩ := by
  simp only [PosBox, InBox, boxOf]
  refine ⟨by norm_num, fun i hi => ?_, by norm_num⟩
  have : i = 0 ∨ i = 1 := by omega
  rcases this with rfl | rfl <;> norm_num

end Buckets

/-! ## Photon traversal of the AMR grid (`AMRDensityGrid::interact`, `get_wall_intersection`) -/
namespace AMRT
open CMacVerif.GridNum CMacVerif.AMR

/-- The hypotheses of the geometric theorems (what the code needs):
* `wf`, `box`, `start`: a well-formed grid (any trees of depth ≤ 10 in the blocks — no 2:1 balance
  between neighbouring leaves is needed: a coarser neighbour is always a leaf), a box with
  positive sides, a start position in the half-open box;
* `dir`: the direction is not the zero vector;
* `narrow`: no leaf spans the whole box along a periodic axis (a single cell across a periodic
  axis is its own neighbour: the code then never wraps the position and spins with `ds = 0`);
* `big`: `DBL_MAX` exceeds every wall distance that occurs. -/
structure RayHyp (big : ℝ) (G : AGrid ℝ) (p d : V3 ℝ) : Prop where
  wf : G.g.WF
  box : PosBox G.box
  start : InBox G.box p
  dir : ∃ a, a < 3 ∧ vget d a ≠ 0
  narrow : ∀ r, cellAt G.g r = some .leaf → ∀ a, a < 3 → per G a = true → bsd (refBox G r) a < bsd G.box a
  big : ∀ r o, cellAt G.g r = some .leaf → Closed (refBox G r) o → ∀ a, a < 3 → vget d a ≠ 0 →
    wp big (refBox G r) o d a < big

theorem RayHyp.ok {big : ℝ} {G : AGrid ℝ} {p d : V3 ℝ} (h : RayHyp big G p d) : TravOK big G d :=
  ⟨h.dir, fun r hl hg => ngb_geo G h.box h.wf.nx_pos h.wf.ny_pos h.wf.nz_pos h.narrow r hl hg, h.narrow, h.big⟩

/-- the traversal invariant after any number of iterations of the loop of `interact`: the state the loop starts
from satisfies it -/
theorem RayHyp.trav {big : ℝ} {G : AGrid ℝ} {p d : V3 ℝ} (h : RayHyp big G p d) (m : Medium ℝ) {tau : ℝ}
    (htau : 0 ≤ tau) (fuel : Nat) :
    TravInv G p d (loop big G m d fuel ⟨p, some (locate G p), tau, [], none⟩).1 ∧
      AllGood G d (loop big G m d fuel ⟨p, some (locate G p), tau, [], none⟩).1.path := by
  obtain ⟨l1, l2, l3, l4⟩ := locate_spec G h.wf h.box p h.start
  refine loop_trav big G m p d h.ok fuel _
    ⟨?_, fun hn => absurd htau (not_le.mpr hn), ?_⟩ fun e he => by simp at he
  · intro r hr; simp only [Option.some.injEq] at hr; subst hr; exact ⟨l1, l2, l3, l4⟩
  · exact ⟨0, le_refl _, by simp [pathSum], fun a _ => ⟨0, by simp, fun _ => rfl⟩⟩

/-- Σ path · d/|d| = displacement, up to whole box lengths on periodic axes only; every path length
is ≥ 0.  For every tree (hence every tree reachable by refinements), every photon, every number of
loop iterations. -/
theorem amr_path_sum (big : ℝ) (G : AGrid ℝ) (m : Medium ℝ) (p d : V3 ℝ) (tau : ℝ) (fuel : Nat)
    (h : RayHyp big G p d) (htau : 0 ≤ tau) :
    let r := interact big G m p d tau fuel
    (∀ a, a < 3 → ∃ w : Int, vget r.pos a = vget p a + vget d a * (pathSum r.path / Real.sqrt (dnorm2 d))
      + w * bsd G.box a ∧ (per G a = false → w = 0)) ∧
    ∀ e ∈ r.path, 0 ≤ e.2 := by
  intro r
  obtain ⟨hinv, hgood⟩ := h.trav m htau fuel
  set st := (loop big G m d fuel ⟨p, some (locate G p), tau, [], none⟩).1
  have hN : 0 < Real.sqrt (dnorm2 d) := Real.sqrt_pos.mpr (dnorm2_pos d h.dir)
  obtain ⟨T, _, hsum, hpos⟩ := hinv.disp
  refine ⟨fun a ha => ?_, fun e he => ?_⟩
  · obtain ⟨w, hw, hw0⟩ := hpos a ha
    refine ⟨w, ?_, hw0⟩
    show vget st.pos a = vget p a + vget d a * (pathSum st.path / Real.sqrt (dnorm2 d)) + _
    rw [hw, hsum, mul_div_cancel_right₀ _ hN.ne']
  · obtain ⟨o, _, _, l, hl, hlen, _⟩ := hgood e he
    rw [hlen]; exact mul_nonneg hl hN.le

/-- optical depth accounting (no geometric hypothesis needed): absorbed ⇒ Σ κ·path = τ exactly;
escaped ⇒ τ − Σ κ·path = remaining ≥ 0 -/
theorem amr_tau_account (big : ℝ) (G : AGrid ℝ) (m : Medium ℝ) (p d : V3 ℝ) (tau : ℝ) (fuel : Nat)
    (htau : 0 < tau) :
    let r := interact big G m p d tau fuel
    r.finished = true →
      (r.cell.isSome → tauSum m r.path = tau ∧ r.od ≤ 0) ∧
      (r.cell = none → 0 ≤ r.od ∧ tauSum m r.path = tau - r.od) := by
  intro r hfin
  have h0 : TauInv m tau (⟨p, some (locate G p), tau, [], none⟩ : St ℝ) :=
    ⟨fun _ => by simp [tauSum], fun hn => absurd htau (not_lt.mpr hn.le), by simp⟩
  obtain ⟨hinv, hexit⟩ := loop_tau big G m tau d fuel _ h0 hfin
  set st := (loop big G m d fuel ⟨p, some (locate G p), tau, [], none⟩).1
  have hcell : r.cell = match st.cur with | none => none | some _ => st.last := rfl
  rw [hcell]
  show (_ → tauSum m st.path = tau ∧ st.od ≤ 0) ∧ (_ → 0 ≤ st.od ∧ tauSum m st.path = tau - st.od)
  cases hc : st.cur with
  | none =>
    have hnn : 0 ≤ st.od := not_lt.1 fun h => by
      have := (hinv.neg h).2
      rw [hc] at this; simp at this
    exact ⟨fun h => by simp at h, fun _ => ⟨hnn, by linarith [hinv.nonneg hnn]⟩⟩
  | some c =>
    -- with a cell still current at exit the optical depth is used up
    have hle : st.od ≤ 0 := hexit.resolve_left (by rw [hc]; simp)
    obtain ⟨hsum, hsome⟩ := used_up htau hinv.nonneg (fun h => (hinv.neg h).1)
      (fun hl => by rw [hinv.last.mp hl]; rfl) hle
    exact ⟨fun _ => ⟨hsum, hle⟩, fun hl => absurd hl hsome⟩

/-- the returned cell contains the final position (the statement that failed before d8e5613):
an absorbed photon (optical depth exceeded inside a cell, `od < 0`) ends in the closed box of the
leaf that is returned; in every case the final position lies in the closed box of the current
leaf of the grid -/
theorem amr_absorbed_cell_contains_end (big : ℝ) (G : AGrid ℝ) (m : Medium ℝ) (p d : V3 ℝ) (tau : ℝ) (fuel : Nat)
    (h : RayHyp big G p d) (htau : 0 ≤ tau) :
    let r := interact big G m p d tau fuel
    ∀ c, r.cell = some c →
      (∃ cur, cellAt G.g cur = some .leaf ∧ InGrid G cur ∧ Closed (refBox G cur) r.pos ∧ (r.od < 0 → cur = c)) := by
  intro r c hc
  obtain ⟨hinv, _⟩ := h.trav m htau fuel
  set st := (loop big G m d fuel ⟨p, some (locate G p), tau, [], none⟩).1
  have hcell : r.cell = match st.cur with | none => none | some _ => st.last := rfl
  rw [hcell] at hc
  cases hcur : st.cur with
  | none => rw [hcur] at hc; simp at hc
  | some cur =>
    rw [hcur] at hc
    simp only at hc
    obtain ⟨l1, l2, _, l4⟩ := hinv.cur cur hcur
    refine ⟨cur, l1, l2, l4, fun hneg => ?_⟩
    have := hinv.negod hneg
    rw [hcur, hc] at this
    exact Option.some.inj this

/-- every deposit goes to the leaf that contains the segment (the statement that failed before
39f0cc7): each recorded `(cell, length)` is a forward segment of that length, starting at a point
of the closed box of the leaf `cell` and staying inside it -/
theorem amr_segments_in_cells (big : ℝ) (G : AGrid ℝ) (m : Medium ℝ) (p d : V3 ℝ) (tau : ℝ) (fuel : Nat)
    (h : RayHyp big G p d) (htau : 0 ≤ tau) :
    ∀ e ∈ (interact big G m p d tau fuel).path, ∃ o, GoodDeposit G d o e.1 e.2 :=
  (h.trav m htau fuel).2

/-- the neighbour pointers built by `set_ngbs` are geometric for every leaf of every grid -/
theorem amr_neighbours_geometric (G : AGrid ℝ) (hb : PosBox G.box) (hx : 0 < G.g.nx) (hy : 0 < G.g.ny)
    (hz : 0 < G.g.nz)
    (hnarrow : ∀ r', cellAt G.g r' = some .leaf → ∀ a, a < 3 → per G a = true → bsd (refBox G r') a < bsd G.box a)
    (r : Ref) (hleaf : cellAt G.g r = some .leaf) (hg : InGrid G r) : NgbGeo G r :=
  ngb_geo G hb hx hy hz hnarrow r hleaf hg

/-- non-vacuity: two unrefined blocks over the box [0,2]×[0,1]×[0,1], open boundaries, a photon at
(0.5, 0.5, 0.5) moving along +x, `big = 10` -/
example : RayHyp 10 (⟨⟨2, 1, 1, fun _ _ _ => .leaf⟩, ⟨0, 0, 0, 2, 1, 1⟩, false, false, false⟩ : AGrid ℝ)
    ⟨0.5, 0.5, 0.5⟩ ⟨1, 0, 0⟩ := by
  refine ⟨⟨by decide, by decide, by decide, by decide, by decide, by decide, fun _ _ _ => by show depth Tree.leaf ≤ 10; decide⟩,
    by unfold PosBox; norm_num, by unfold InBox; norm_num, ⟨0, by decide, by simp [vget]⟩,
    fun r _ a _ hp => by simp [per] at hp, ?_⟩
  intro r o hleaf ho a ha hne
  have ha' : a = 0 ∨ a = 1 ∨ a = 2 := by omega
  rcases ha' with rfl | rfl | rfl
  · -- the only moving axis: the distance to the upper wall is at most the side of the block
    have hpath : r.path = [] := by
      unfold cellAt at hleaf
      cases hp : r.path with
      | nil => rfl
      | cons i rest => rw [hp] at hleaf; simp [treeAt] at hleaf
    have h0 := ho 0 (by decide)
    simp only [refBox, hpath, boxOfPath, blockBox, ofNat_real, blo, bsd, vget] at h0 ⊢
    simp only [wp, wallParam, lit0, blo, bsd, vget]
    norm_num at h0 ⊢
    linarith
  · simp [vget] at hne
  · simp [vget] at hne

end AMRT

/-! ## Octree (`Octree::get_ngbs`, `get_ngbs_sphere`) -/
namespace Oct
open CMacVerif.GridNum

/-- under the covering hypotheses of the tree boxes (below every node the box distance is a lower
bound of the distances of the stored points and the node variable an upper bound of their
variables) the pruned search returns exactly the brute-force answer over the stored points, in
traversal order.  `pd`/`bd` are arbitrary: this covers the periodic distances as well, *given*
the hypotheses. -/
theorem octree_search_is_bruteforce (pd : Nat → ℝ) (bd : Box3 ℝ → ℝ) (h : Nat → ℝ) (radius : Option ℝ)
    (hr : ∀ r, radius = some r → 0 ≤ r) (t : OT ℝ) (hc : Covered pd bd h t) :
    searchRoot pd bd h radius t = (leavesOf t).filter (fun i => decide (pd i ≤ limOf h radius i)) :=
  searchRoot_eq_filter pd bd h radius t hc

/-- non-periodic tree as built by the constructor (`add_position` for 1 … n-1, then
`set_auxiliaries(max)`), positions in the half-open box, any number of positions (a one-position
tree has a leaf as root: the walks start at the root itself, `get_first_node`): the covering
hypotheses hold, hence a stored index is returned iff the centre lies within its smoothing length
(+ radius), and only indices `< n` are returned.  Partial: "stored" — that every index `< n` is
stored needs the positions to separate within the 64 levels of the model's recursion fuel (the
code recurses without bound; equal positions never separate). -/
theorem octree_build_search_partial (pos : Nat → V3 ℝ) (n : Nat) (box : Box3 ℝ) (h : Nat → ℝ) (c : V3 ℝ)
    (radius : Option ℝ) (hr : ∀ r, radius = some r → 0 ≤ r) (hb : PosBox box)
    (hin : ∀ i < n, InBox box (pos i)) (i : Nat) :
    (i ∈ searchRoot (fun i => dist (pos i) c) (fun b => boxDist b c) h radius (build pos n box h) ↔
      i ∈ leavesOf (build pos n box h) ∧ dist (pos i) c ≤ limOf h radius i) ∧
    (i ∈ leavesOf (build pos n box h) → i < n) := by
  obtain ⟨hc, hlt⟩ := build_spec pos n box h c hb hin
  refine ⟨?_, hlt i⟩
  rw [searchRoot_eq_filter _ _ h radius _ hc, List.mem_filter, decide_eq_true_eq]

/-- the one-position tree: the stored point is returned iff it is within range (the statement
that failed before the fix of `get_first_node`) -/
theorem octree_single_position (pos : Nat → V3 ℝ) (box : Box3 ℝ) (h : Nat → ℝ) (c : V3 ℝ)
    (radius : Option ℝ) :
    searchRoot (fun i => dist (pos i) c) (fun b => boxDist b c) h radius (build pos 1 box h) =
      if dist (pos 0) c ≤ limOf h radius 0 then [0] else [] := by
  cases radius <;> rfl

/-- the full statement for separated positions: if no two positions are closer than `2⁻⁶²` box
sides on all three axes (`¬ Close box 62`), `add_position` never descends deeper than 63 levels,
every index is stored (`build_all_stored`), and the pruned searches return exactly the brute-force
answer over ALL positions -/
theorem octree_build_search (pos : Nat → V3 ℝ) (n : Nat) (box : Box3 ℝ) (h : Nat → ℝ) (c : V3 ℝ)
    (radius : Option ℝ) (hr : ∀ r, radius = some r → 0 ≤ r) (hb : PosBox box)
    (hin : ∀ i < n, InBox box (pos i))
    (sep : ∀ i j, i < n → j < n → i ≠ j → ¬ Close box 62 (pos i) (pos j)) (i : Nat) :
    i ∈ searchRoot (fun i => dist (pos i) c) (fun b => boxDist b c) h radius (build pos n box h) ↔
      i < n ∧ dist (pos i) c ≤ limOf h radius i := by
  obtain ⟨h1, h2⟩ := octree_build_search_partial pos n box h c radius hr hb hin i
  rw [h1]
  constructor
  · rintro ⟨a, b⟩; exact ⟨h2 a, b⟩
  · rintro ⟨a, b⟩; exact ⟨build_all_stored pos n box h hb hin sep i a, b⟩

/-- the separation hypothesis is satisfiable: two positions half a box apart -/
example : ∀ i j, i < 2 → j < 2 → i ≠ j → ¬ Close (⟨0, 0, 0, 1, 1, 1⟩ : Box3 ℝ) 62
    ((fun i => if i = 0 then (⟨0.25, 0.25, 0.25⟩ : V3 ℝ) else ⟨0.75, 0.5, 0.5⟩) i)
    ((fun i => if i = 0 then (⟨0.25, 0.25, 0.25⟩ : V3 ℝ) else ⟨0.75, 0.5, 0.5⟩) j) := by
  intro i j hi hj hne hc
  have hp : (1 / 2 : ℝ) ^ 62 ≤ 1 / 4 := by
    have : (1 / 2 : ℝ) ^ 62 ≤ (1 / 2 : ℝ) ^ 2 := pow_le_pow_of_le_one (by norm_num) (by norm_num) (by norm_num)
    linarith [this, (by norm_num : (1 / 2 : ℝ) ^ 2 = 1 / 4)]
  have hi' : i = 0 ∨ i = 1 := by omega
  have hj' : j = 0 ∨ j = 1 := by omega
  obtain ⟨hx, _, _⟩ := hc
  rcases hi' with rfl | rfl <;> rcases hj' with rfl | rfl
  · exact hne rfl
  · norm_num at hx
  · norm_num at hx
  · exact hne rfl

/-- `add_position` never loses a stored index and adds at most the new one -/
theorem octree_add_position_leaves (pos : Nat → V3 ℝ) (index fuel : Nat) (t : OT ℝ) (box : Box3 ℝ) (i : Nat) :
    (i ∈ leavesOf (addPos pos index fuel t box) → i ∈ leavesOf t ∨ i = index) ∧
    (i ∈ leavesOf t → i ∈ leavesOf (addPos pos index fuel t box)) :=
  addPos_leaves pos index fuel t box i

/-- the hypotheses are satisfiable: two positions in the unit box -/
example : PosBox (⟨0, 0, 0, 1, 1, 1⟩ : Box3 ℝ) ∧
    (∀ i < 2, InBox (⟨0, 0, 0, 1, 1, 1⟩ : Box3 ℝ) ((fun i => if i = 0 then ⟨0.25, 0.25, 0.25⟩ else ⟨0.75, 0.5, 0.5⟩) i)) := by
  simp only [PosBox, InBox]
  refine ⟨by norm_num, fun i hi => ?_⟩
  have : i = 0 ∨ i = 1 := by omega
  rcases this with rfl | rfl <;> norm_num

end Oct

end CMacVerif
