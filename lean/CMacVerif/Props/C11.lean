import CMacVerif.Lemmas.ExactRiemann
import CMacVerif.Lemmas.ExactRiemannNewton
/-!
# C11 — the exact Riemann solver returns the solution of the Riemann problem

Model: `Model/ExactRiemann.lean`, vacuum samplers: `Model/RiemannVacuum.lean`, instantiated at `ℝ`
(`ArithFns.sqrt = Real.sqrt`, `ArithFns.pow = Real.rpow`).  `g` is the constructor argument,
`mkConsts g` the constants the constructor derives (it clamps `γ` to `≥ 1.00000001`, so NO hypothesis
on `g` is needed).  A state `(ρ, u, P)` enters with the
quantities `solve` derives from it: `Pinv = 1.0 / P`, `a = soundspeed c (1.0 / ρ) P`,
`A = c.tdgp1 * (1.0 / ρ)`, `B = c.gm1dgp1 * P`, `afac = c.tdgm1 * a`.

What is NOT a theorem (and why the property is claimed as "proof, partial"):
* convergence of the Newton and of the Brent iteration in floating point, and the number of
  iterations — `brent_bracket` holds for every fuel, the accuracy statement needs the loop to leave
  through its own exit test within `1e4` iterations (`pstar_accurate_partial`; the Newton exit IS
  proved accurate, `newton_exit_accurate`, by concavity of `f`: `f_concave_fprime_slope`);
* termination of the Newton loop (the C++ loop has no counter): `newton_exit_accurate` is a
  statement about the loop once it has terminated;
* IEEE rounding (DESIGN §2.1).
-/
namespace CMacVerif.ExactRiemann
open CMacVerif Set

/-! ## 1. the pressure function -/

/-- `fb` of one state is strictly increasing in the star pressure on `[0, ∞)` -/
theorem fb_strictMono (g ρ P : ℝ) (hρ : 0 < ρ) (hP : 0 < P) :
    StrictMonoOn (fb (mkConsts g) P ((mkConsts g).tdgp1 * (1.0 / ρ)) ((mkConsts g).gm1dgp1 * P)
      (1.0 / P) ((mkConsts g).tdgm1 * soundspeed (mkConsts g) (1.0 / ρ) P)) (Ici 0) := by
  exact (fb_newtonHyp (mk_rel g) (sideOK_of_solve (mk_rel g) hρ hP)).strictMonoOn

/-- `fb` is continuous: the shock branch and the rarefaction branch are continuous and take the
same value (zero) at `p = P` -/
theorem fb_continuous_branches_agree (g P : ℝ) (hP : 0 < P) (A afac : ℝ) :
    Continuous (fb (mkConsts g) P A ((mkConsts g).gm1dgp1 * P) (1.0 / P) afac) ∧
    (P - P) * Real.sqrt (A / (P + (mkConsts g).gm1dgp1 * P)) = 0 ∧
    afac * ((P * (1.0 / P)) ^ (mkConsts g).gm1d2g - 1) = 0 ∧
    fb (mkConsts g) P A ((mkConsts g).gm1dgp1 * P) (1.0 / P) afac P = 0 := by
  have hc := mk_rel g
  have hPi : P * (1.0 / P) = 1 := mul_one_div_lit hP.ne'
  exact ⟨fb_continuous hc hPi hP (mul_nonneg hc.gm1dgp1_pos.le hP.le), by rw [sub_self, zero_mul],
    raref_at_P _ _ hPi, fb_at_P hPi⟩

/-- the pressure function `f(p) = f_L(p) + f_R(p) + u_R - u_L` that `solve` iterates on is
continuous and strictly increasing on `[0, ∞)`: it has at most one root there -/
theorem f_strictMono_continuous (g ρL uL PL ρR uR PR : ℝ) (hρL : 0 < ρL) (hPL : 0 < PL)
    (hρR : 0 < ρR) (hPR : 0 < PR) :
    StrictMonoOn (pressureFn (mkConsts g) ρL uL PL ρR uR PR) (Ici 0) ∧
    Continuous (pressureFn (mkConsts g) ρL uL PL ρR uR PR) ∧
    (∀ p q, 0 ≤ p → 0 ≤ q → pressureFn (mkConsts g) ρL uL PL ρR uR PR p = 0 →
      pressureFn (mkConsts g) ρL uL PL ρR uR PR q = 0 → p = q) := by
  have hm := (pressureFn_newtonHyp (mk_rel g) uL uR hρL hPL hρR hPR).strictMonoOn
  exact ⟨hm, pressureFn_continuous (mk_rel g) hρL hPL hρR hPR,
    fun p q hp hq h1 h2 => hm.injOn hp hq (h1.trans h2.symm)⟩

/-- `f(0) = u_R - u_L - 2a_L/(γ-1) - 2a_R/(γ-1)`: `f(0) < 0` exactly when `solve` does not take its
vacuum-generation exit (line 918) -/
theorem f_zero_neg_iff (g ρL uL PL ρR uR PR : ℝ) (hPL : 0 < PL) (hPR : 0 < PR) :
    pressureFn (mkConsts g) ρL uL PL ρR uR PR 0 < 0 ↔
      ¬ ((mkConsts g).tdgm1 * soundspeed (mkConsts g) (1.0 / ρL) PL
          + (mkConsts g).tdgm1 * soundspeed (mkConsts g) (1.0 / ρR) PR ≤ uR - uL) := by
  rw [pressureFn_zero (mk_rel g) hPL hPR, not_le, sub_sub, sub_neg]

/-- whenever `solve` enters its iterative part (two non-vacuum states, no vacuum generation) the
pressure equation `f(p) = 0` has exactly one solution `p ≥ 0` (and it is positive): "the" star
pressure the iteration is after exists and is unique -/
theorem pressure_root_exists_unique (g ρL uL PL ρR uR PR : ℝ) (hρL : 0 < ρL) (hPL : 0 < PL)
    (hρR : 0 < ρR) (hPR : 0 < PR)
    (hnovac : ¬ ((mkConsts g).tdgm1 * soundspeed (mkConsts g) (1.0 / ρL) PL
          + (mkConsts g).tdgm1 * soundspeed (mkConsts g) (1.0 / ρR) PR ≤ uR - uL)) :
    ∃! p : ℝ, 0 ≤ p ∧ pressureFn (mkConsts g) ρL uL PL ρR uR PR p = 0 := by
  have h0 := (f_zero_neg_iff g ρL uL PL ρR uR PR hPL hPR).mpr hnovac
  obtain ⟨p, hp, hp0⟩ := pressureFn_root (mk_rel g) hρL hPL hρR hPR h0
  refine ⟨p, ⟨hp.le, hp0⟩, fun q hq => ?_⟩
  exact (f_strictMono_continuous g ρL uL PL ρR uR PR hρL hPL hρR hPR).2.2 q p hq.1 hp.le hq.2 hp0

/-! ## 2. Brent's method keeps the bracket -/

/-- `brent_bracket`: for EVERY function `F`, every initial bracket with `F Plow · F Phigh ≤ 0`
and every number of iterations: the interval `[a,b]` of the loop stays inside the initial bracket
and keeps the sign change; the loop ends with `fuel = 0 ∨ F b = 0 ∨ |a - b| ≤ 5e-9 (a + b)`;
if `F` is continuous on the initial bracket a root of `F` lies between `a` and the returned `b`,
at distance `≤ |a - b|` from it. -/
theorem brent_bracket (F : ℝ → ℝ) (Plow Phigh : ℝ) (fuel : ℕ) (hsign : F Plow * F Phigh ≤ 0) :
    let r := brentLoop F fuel (brentInit Plow Phigh (F Plow) (F Phigh))
    uIcc r.1.a r.1.b ⊆ uIcc Plow Phigh ∧ F r.1.a * F r.1.b ≤ 0 ∧
    (r.2 = 0 ∨ F r.1.b = 0 ∨ |r.1.a - r.1.b| ≤ 5e-9 * (r.1.a + r.1.b)) ∧
    (ContinuousOn F (uIcc Plow Phigh) →
      ∃ p ∈ uIcc r.1.a r.1.b, F p = 0 ∧ |r.1.b - p| ≤ |r.1.a - r.1.b|) := by
  intro r
  obtain ⟨hinv, hexit⟩ := brentLoop_inv F fuel (brentInit_inv F Plow Phigh hsign)
  have hs : F r.1.a * F r.1.b ≤ 0 := by rw [← hinv.fa_eq, ← hinv.fb_eq]; exact hinv.sign
  refine ⟨hinv.inside, hs, ?_, fun hF => ?_⟩
  · rcases hexit with h0 | hne
    · exact Or.inl h0
    · rcases brent_exit hne with hb | hb
      · exact Or.inr (Or.inl (by rw [← hinv.fb_eq]; exact hb))
      · exact Or.inr (Or.inr hb)
  · obtain ⟨p, hp, hp0⟩ := root_of_sign_change F (hF.mono hinv.inside) hs
    exact ⟨p, hp, hp0, (abs_sub_right_of_mem_uIcc hp).trans_eq (abs_sub_comm _ _)⟩

/-- `solve_brent` as called (`none` = `cmac_error`): with a sign change it never errors, returns a
point of the initial bracket, and when it did not use up its `1e4` iterations the returned value is
a root or within `1.00000001e-8` (relative) of a root of the continuous function -/
theorem solve_brent_root (F : ℝ → ℝ) (hF : Continuous F) (Plow Phigh : ℝ) (fuel : ℕ)
    (h0 : 0 ≤ Plow) (h1 : 0 ≤ Phigh) (hsign : F Plow * F Phigh ≤ 0) :
    ∃ b left, solveBrent F fuel Plow Phigh (F Plow) (F Phigh) = some (b, left) ∧
      b ∈ uIcc Plow Phigh ∧
      (left ≠ 0 → ∃ p, F p = 0 ∧ 0 ≤ p ∧ |b - p| ≤ 1.00000001e-8 * p) := by
  have hn : ¬ (0.0:ℝ) < F Plow * F Phigh := by rw [lit0]; exact not_lt.mpr hsign
  obtain ⟨hin, _, hexit, hroot⟩ := brent_bracket F Plow Phigh fuel hsign
  simp only [solveBrent, if_neg hn]
  refine ⟨_, _, rfl, hin right_mem_uIcc, fun hleft => ?_⟩
  obtain ⟨p, hp, hp0, _⟩ := hroot hF.continuousOn
  have nonneg : ∀ x ∈ uIcc Plow Phigh, (0:ℝ) ≤ x := fun x hx => (le_min h0 h1).trans hx.1
  rcases hexit with he | he | he
  · exact absurd he hleft
  · exact ⟨_, he, nonneg _ (hin right_mem_uIcc), by
      rw [sub_self, abs_zero]; exact mul_nonneg (by norm_num) (nonneg _ (hin right_mem_uIcc))⟩
  · exact ⟨p, hp0, nonneg _ (hin hp),
      relative_accuracy hp (nonneg _ (hin left_mem_uIcc)) (nonneg _ (hin right_mem_uIcc)) he⟩

/-! ## 3. the root finding of `solve` -/

/-- When `solve` hands over to Brent (path 2) — the model never reaches the `cmac_error` of
`solve_brent` — the bracket is in `p ≥ 0`, a root `p` of the pressure function lies between some
`a ≥ 0` and the returned `p* ≥ 0`, and `fuel = 0 ∨ f(p*) = 0 ∨ |a - p*| ≤ 5e-9 (a + p*)`. -/
theorem star_brent_root (g ρL uL PL ρR uR PR : ℝ) (nf bf : ℕ) (hρL : 0 < ρL) (hPL : 0 < PL)
    (hρR : 0 < ρR) (hPR : 0 < PR)
    (hnovac : ¬ ((mkConsts g).tdgm1 * soundspeed (mkConsts g) (1.0 / ρL) PL
          + (mkConsts g).tdgm1 * soundspeed (mkConsts g) (1.0 / ρR) PR ≤ uR - uL)) :
    let s := star (mkConsts g) nf bf ρL uL PL ρR uR PR
    let F := pressureFn (mkConsts g) ρL uL PL ρR uR PR
    s.res.err = false ∧
    (s.res.path = 2 → ∃ a : ℝ, 0 ≤ a ∧ 0 ≤ s.pstar ∧
      (∃ p ∈ uIcc a s.pstar, F p = 0 ∧ |s.pstar - p| ≤ |a - s.pstar|) ∧
      (s.res.brentLeft = 0 ∨ F s.pstar = 0 ∨ |a - s.pstar| ≤ 5e-9 * (a + s.pstar))) := by
  intro s F
  have hc := mk_rel g
  have hF : Continuous F := pressureFn_continuous hc hρL hPL hρR hPR
  have h0 : F 0 < 0 := (f_zero_neg_iff g ρL uL PL ρR uR PR hPL hPR).mpr hnovac
  rw [star_pstar, star_res nf bf]
  unfold findPstar
  obtain ⟨hi, _⟩ := newtonPhase_inv F _ (pressureFn_newtonHyp hc uL uR hρL hPL hρR hPR).pos nf
    (guessP_pos (mkConsts g) hPL hPR) h0
  generalize newtonPhase F _ nf _ = r at hi ⊢
  have hm := le_min hi.nonneg (hi.nonneg.trans hi.lt.le)
  by_cases hcnd : notConverged r.1 ∧ (0.0 : ℝ) < r.1.fPguess
  swap
  · rw [handOver_of_not hcnd]; exact ⟨rfl, fun h => absurd h (show (1 : ℕ) ≠ 2 by decide)⟩
  · -- Brent runs on `[Pstar, Pguess]`, whose end values `f(Pstar) < 0 < f(Pguess)` change sign
    have hpos : 0 < r.1.fPguess := by have := hcnd.2; rwa [lit0] at this
    have hs := (mul_neg_of_neg_of_pos hi.neg hpos).le
    rw [handOver_of_brent hcnd (by rw [lit0]; exact not_lt.mpr hs)]
    rw [hi.fPstar_eq, hi.fPguess_eq] at hs ⊢
    obtain ⟨hin, _, hexit, hroot⟩ := brent_bracket F r.1.Pstar r.1.Pguess bf hs
    exact ⟨rfl, fun _ => ⟨_, hm.trans (hin left_mem_uIcc).1, hm.trans (hin right_mem_uIcc).1,
      hroot hF.continuousOn, hexit⟩⟩

/-- the pressure function and the derivative AS CODED (`fprime`) satisfy what Newton's method
needs: `fprime > 0`; `f` is concave and `fprime p` is the slope of a supporting line at `p`
(`f q ≤ f p + fprime p · (q - p)` for all `p > 0`, `q ≥ 0`, across the shock / rarefaction branch
switch on both sides); `p · fprime p` is non-decreasing -/
theorem f_concave_fprime_slope (g ρL uL PL ρR uR PR : ℝ) (hρL : 0 < ρL) (hPL : 0 < PL)
    (hρR : 0 < ρR) (hPR : 0 < PR) :
    NewtonHyp (pressureFn (mkConsts g) ρL uL PL ρR uR PR) (pressureFn' (mkConsts g) ρL PL ρR PR) :=
  pressureFn_newtonHyp (mk_rel g) uL uR hρL hPL hρR hPR

/-- `newton_exit`: when `solve` returns the last Newton iterate (path 1; the loop has terminated,
i.e. the fuel of the model did not run out) the returned `p*` is never above the root of the
pressure equation and at most `1.1e-16 · root` below it (every Newton iterate from a point with
`f < 0` stays left of the root of the concave `f`; a last step of relative length `≤ 5e-9 (p+p')`
leaves a second-order remainder).  The same holds when the loop stops because `f = 0`. -/
theorem newton_exit_accurate (g ρL uL PL ρR uR PR : ℝ) (nf bf : ℕ) (hρL : 0 < ρL) (hPL : 0 < PL)
    (hρR : 0 < ρR) (hPR : 0 < PR)
    (hnovac : ¬ ((mkConsts g).tdgm1 * soundspeed (mkConsts g) (1.0 / ρL) PL
          + (mkConsts g).tdgm1 * soundspeed (mkConsts g) (1.0 / ρR) PR ≤ uR - uL))
    (hpath : (star (mkConsts g) nf bf ρL uL PL ρR uR PR).res.path = 1)
    (hleft : (star (mkConsts g) nf bf ρL uL PL ρR uR PR).res.newtonLeft ≠ 0) :
    ∃ p, 0 < p ∧ pressureFn (mkConsts g) ρL uL PL ρR uR PR p = 0 ∧
      0 ≤ p - (star (mkConsts g) nf bf ρL uL PL ρR uR PR).pstar ∧
      p - (star (mkConsts g) nf bf ρL uL PL ρR uR PR).pstar ≤ 1.1e-16 * p := by
  have hc := mk_rel g
  have h0 := (f_zero_neg_iff g ρL uL PL ρR uR PR hPL hPR).mpr hnovac
  obtain ⟨p, hp, hp0⟩ := pressureFn_root hc hρL hPL hρR hPR h0
  have hN := f_concave_fprime_slope g ρL uL PL ρR uR PR hρL hPL hρR hPR
  rw [star_res nf bf] at hpath hleft
  rw [star_pstar, star_res nf bf]
  unfold findPstar at hpath hleft ⊢
  rw [handOver_newtonLeft] at hleft
  obtain ⟨hi, nexit⟩ := newtonPhase_inv _ _ hN.pos nf (guessP_pos (mkConsts g) hPL hPR) h0
  obtain ⟨a, b⟩ := handOver_newton hN bf _ hi (nexit hleft) hp hp0 hpath
  exact ⟨p, hp, hp0, a, b⟩

/-- PARTIAL (explicit extra hypotheses: both loops terminated through their own exit tests — the
Newton loop's fuel, a device of the model, did not run out, and IF Brent's method was used it did
not exhaust its `1e4` iterations): then on BOTH paths the returned `p*` is within
`1.00000001e-8` (relative) of THE root of the pressure equation.  The two premises are evaluated on
every correspondence case (driver tags `NEWTON-FUEL-OUT`, `brent-fuel-out`); that Brent's method
needs at most `1e4` iterations is not proved (in doubles it does not hold when the root underflows,
known finding `riemann:star-pressure-underflow`). -/
theorem pstar_accurate_partial (g ρL uL PL ρR uR PR : ℝ) (nf bf : ℕ) (hρL : 0 < ρL) (hPL : 0 < PL)
    (hρR : 0 < ρR) (hPR : 0 < PR)
    (hnovac : ¬ ((mkConsts g).tdgm1 * soundspeed (mkConsts g) (1.0 / ρL) PL
          + (mkConsts g).tdgm1 * soundspeed (mkConsts g) (1.0 / ρR) PR ≤ uR - uL))
    (hnewton : (star (mkConsts g) nf bf ρL uL PL ρR uR PR).res.newtonLeft ≠ 0)
    (hbrent : (star (mkConsts g) nf bf ρL uL PL ρR uR PR).res.path = 2 →
      (star (mkConsts g) nf bf ρL uL PL ρR uR PR).res.brentLeft ≠ 0) :
    ∃ p, 0 ≤ p ∧ pressureFn (mkConsts g) ρL uL PL ρR uR PR p = 0 ∧
      |(star (mkConsts g) nf bf ρL uL PL ρR uR PR).pstar - p| ≤ 1.00000001e-8 * p := by
  have hpath : (star (mkConsts g) nf bf ρL uL PL ρR uR PR).res.path = 1 ∨
      (star (mkConsts g) nf bf ρL uL PL ρR uR PR).res.path = 2 := by
    rw [star_res nf bf]; unfold findPstar; exact handOver_path _ _ _
  rcases hpath with h1 | h2
  · obtain ⟨p, hp, hp0, a, b⟩ :=
      newton_exit_accurate g ρL uL PL ρR uR PR nf bf hρL hPL hρR hPR hnovac h1 hnewton
    refine ⟨p, hp.le, hp0, ?_⟩
    rw [abs_sub_comm, abs_of_nonneg a]
    have : (1.1e-16:ℝ) * p ≤ 1.00000001e-8 * p := by
      apply mul_le_mul_of_nonneg_right _ hp.le; norm_num
    linarith
  · obtain ⟨_, h⟩ := star_brent_root g ρL uL PL ρR uR PR nf bf hρL hPL hρR hPR hnovac
    obtain ⟨a, ha, hb, ⟨p, hp, hp0, _⟩, hexit⟩ := h h2
    rcases hexit with he | he | he
    · exact absurd he (hbrent h2)
    · exact ⟨_, hb, he, by rw [sub_self, abs_zero]; exact mul_nonneg (by norm_num) hb⟩
    · exact ⟨p, (le_min ha hb).trans hp.1, hp0, relative_accuracy hp ha hb he⟩

/-- non-vacuity of `NewtonHyp`: `F p = p - 1`, `F' = 1` satisfies it (an increasing concave
function with a root) -/
example : NewtonHyp (fun p : ℝ => p - 1) (fun _ => 1) :=
  ⟨fun _ _ => one_pos, fun p q _ _ => by simp, fun p q _ h => by simpa using h⟩

/-- identical left and right states: `solve` returns `p* = P` and `u* = u` EXACTLY, through the
Newton exit without a single iteration (the guess is the root).  This also shows that the
hypotheses `path = 1`, `newtonLeft ≠ 0` of `newton_exit_accurate` are satisfiable. -/
theorem identical_states_exact (g ρ u P : ℝ) (n bf : ℕ) (hP : 0 < P) :
    let s := star (mkConsts g) (n + 1) bf ρ u P ρ u P
    s.pstar = P ∧ s.ustar = u ∧ s.res.path = 1 ∧ s.res.newtonLeft ≠ 0 := by
  intro s
  obtain ⟨hr, hp, hu⟩ := star_identical (mkConsts g) (n + 1) bf (rho := ρ) u hP
  exact ⟨hp, hu, by rw [hr], by rw [hr]; exact Nat.succ_ne_zero n⟩

/-! ## 4. the star velocity -/

/-- `ustar_defect` (makes `ustar_identity` a corollary): for EVERY returned `p*`, root or not, the
star velocity differs from `u_R + f_R(p*)` and from `u_L - f_L(p*)` by exactly half the residual
of the pressure equation -/
theorem ustar_defect (g ρL uL PL ρR uR PR : ℝ) (nf bf : ℕ) :
    let s := star (mkConsts g) nf bf ρL uL PL ρR uR PR
    s.ustar = uR + s.fR - pressureFn (mkConsts g) ρL uL PL ρR uR PR s.pstar / 2 ∧
    s.ustar = uL - s.fL + pressureFn (mkConsts g) ρL uL PL ρR uR PR s.pstar / 2 := by
  intro s
  have hf : pressureFn (mkConsts g) ρL uL PL ρR uR PR s.pstar = s.fL + s.fR + (uR - uL) := rfl
  have hu : s.ustar = ustarOf uL uR s.fL s.fR := rfl
  rw [hf, hu, ustarOf, lit05]
  constructor <;> ring

/-- `ustar_identity`: at a root of the pressure equation the formula of line 985,
`u* = ½((u_L + u_R) + (f_R - f_L))`, equals both `u_R + f_R(p*)` and `u_L - f_L(p*)` -/
theorem ustar_identity (g ρL uL PL ρR uR PR : ℝ) (nf bf : ℕ) :
    let s := star (mkConsts g) nf bf ρL uL PL ρR uR PR
    pressureFn (mkConsts g) ρL uL PL ρR uR PR s.pstar = 0 →
      s.ustar = uR + s.fR ∧ s.ustar = uL - s.fL := by
  intro s h
  obtain ⟨d1, d2⟩ := ustar_defect g ρL uL PL ρR uR PR nf bf
  exact ⟨by rw [d1, h, zero_div, sub_zero], by rw [d2, h, zero_div, add_zero]⟩

/-- at a root the star data that `solve` passes to its samplers satisfy the hypotheses `StarR` /
`StarL` of sections 6–7 (rarefaction side) and the `u* = u ± f(p*)` form of `shock_RH_*` (shock
side): those hypotheses are consequences of `f(p*) = 0`, not assumptions -/
theorem star_feeds_samplers (g ρL uL PL ρR uR PR : ℝ) (nf bf : ℕ) :
    let c := mkConsts g
    let s := star c nf bf ρL uL PL ρR uR PR
    pressureFn c ρL uL PL ρR uR PR s.pstar = 0 →
      (¬ PR < s.pstar → StarR c uR s.aR (1.0 / PR) s.ustar s.pstar) ∧
      (¬ PL < s.pstar → StarL c uL s.aL (1.0 / PL) s.ustar s.pstar) ∧
      s.ustar = uR + fb c PR (c.tdgp1 * (1.0 / ρR)) (c.gm1dgp1 * PR) (1.0 / PR) (c.tdgm1 * s.aR) s.pstar ∧
      s.ustar = uL - fb c PL (c.tdgp1 * (1.0 / ρL)) (c.gm1dgp1 * PL) (1.0 / PL) (c.tdgm1 * s.aL) s.pstar := by
  intro c s h
  obtain ⟨h1, h2⟩ := ustar_identity g ρL uL PL ρR uR PR nf bf h
  have hR : s.fR = fb c PR (c.tdgp1 * (1.0 / ρR)) (c.gm1dgp1 * PR) (1.0 / PR) (c.tdgm1 * s.aR) s.pstar := rfl
  have hL : s.fL = fb c PL (c.tdgp1 * (1.0 / ρL)) (c.gm1dgp1 * PL) (1.0 / PL) (c.tdgm1 * s.aL) s.pstar := rfl
  refine ⟨fun hn => ?_, fun hn => ?_, by rw [← hR]; exact h1, by rw [← hL]; exact h2⟩
  · unfold StarR; rw [h1, hR, fb_raref (not_lt.mp hn)]
  · unfold StarL; rw [h2, hL, fb_raref (not_lt.mp hn)]

/-- `solve_iterative_iff`: over the reals (`ovf = 0`) and for admissible inputs `ρ, P ≥ 0` (the
`cmac_assert`s of `solve`), `solve` takes its iterative part EXACTLY when both states are
non-vacuum and no vacuum is generated — the domain hypotheses `0 < ρ`, `0 < P`, `hnovac` of the
theorems above are the dispatch conditions of the code, and in that case `solve` is `sampleStar`
applied to `star`, the two functions the theorems are about -/
theorem solve_iterative_iff (g ρL uL PL ρR uR PR ξ : ℝ) (nf bf : ℕ) (hρL : 0 ≤ ρL) (hPL : 0 ≤ PL)
    (hρR : 0 ≤ ρR) (hPR : 0 ≤ PR) :
    (RiemannVacuum.solveIfVacuum 0 g ρL uL PL ρR uR PR ξ = none ↔
      0 < ρL ∧ 0 < PL ∧ 0 < ρR ∧ 0 < PR ∧
      ¬ ((mkConsts g).tdgm1 * soundspeed (mkConsts g) (1.0 / ρL) PL
          + (mkConsts g).tdgm1 * soundspeed (mkConsts g) (1.0 / ρR) PR ≤ uR - uL)) ∧
    (RiemannVacuum.solveIfVacuum 0 g ρL uL PL ρR uR PR ξ = none →
      solve 0 g nf bf ρL uL PL ρR uR PR ξ =
      ((sampleStar (mkConsts g) (star (mkConsts g) nf bf ρL uL PL ρR uR PR) ρL uL PL ρR uR PR ξ).1,
       (sampleStar (mkConsts g) (star (mkConsts g) nf bf ρL uL PL ρR uR PR) ρL uL PL ρR uR PR ξ).2,
       some (star (mkConsts g) nf bf ρL uL PL ρR uR PR))) := by
  refine ⟨?_, fun h => by unfold solve; rw [h]⟩
  rw [RiemannVacuum.solveIfVacuum_eq_none_iff, RiemannVacuum.not_vacuumExit_iff hρL hPL hρR hPR,
    and_assoc, and_assoc]
  rfl

/-- and `sampleStar` at the reals (no infinite `f`) is the side selection by the contact:
`sample_right_state` for `u* < ξ` (flag 1), `sample_left_state` otherwise (flag -1), called with
`a`, `1/P`, `u*`, `p*` of `star` -/
theorem sampleStar_real (c : Consts ℝ) (s : Star ℝ) (ρL uL PL ρR uR PR ξ : ℝ) :
    sampleStar c s ρL uL PL ρR uR PR ξ =
      if s.ustar < ξ then (1, sampleRightState c ρR uR PR s.aR (1.0 / PR) s.ustar s.pstar ξ)
      else (-1, sampleLeftState c ρL uL PL s.aL (1.0 / PL) s.ustar s.pstar ξ) := by
  exact sampleStar_eq c s ρL uL PL ρR uR PR ξ

/-! ## 5. shocks: the sampled state satisfies the Rankine–Hugoniot conditions -/

/-- `shock_RH` (right): for `p* > P_R`, `u* = u_R + f_R(p*)` and any speed behind the shock, the
state returned by `sample_right_shock_wave` and the shock speed `S_R` it uses satisfy conservation
of mass, momentum and energy across the shock (frame of the shock; `(E + P) v` with
`E = P/(γ-1) + ρv²/2`) -/
theorem shock_RH_right (g ρ u P p ξ : ℝ) (hρ : 0 < ρ) (hP : 0 < P) (hp : P < p) :
    let c := mkConsts g
    let a := soundspeed c (1.0 / ρ) P
    let ustar := u + fb c P (c.tdgp1 * (1.0 / ρ)) (c.gm1dgp1 * P) (1.0 / P) (c.tdgm1 * a) p
    let S := shockSpeedR c u a (1.0 / P) p
    let s := sampleRightShock c ρ u P a (1.0 / P) ustar p ξ
    ξ < S →
      s.rho * (s.u - S) = ρ * (u - S) ∧
      s.rho * (s.u - S) ^ 2 + s.P = ρ * (u - S) ^ 2 + P ∧
      (s.P * c.gamma / (c.gamma - 1) + s.rho * (s.u - S) ^ 2 / 2) * (s.u - S)
        = (P * c.gamma / (c.gamma - 1) + ρ * (u - S) ^ 2 / 2) * (u - S) := by
  intro c a ustar S s hξ
  have hc := mk_rel g
  have hs : s = ⟨shockDensity c ρ (1.0 / P) p, ustar, p, 1⟩ := by
    simp only [s, sampleRightShock]; rw [if_pos hξ]
  rw [hs]
  have := shock_RH hc (stateOK_of_solve hc hρ hP) (σ := 1) (A := c.tdgp1 * (1.0 / ρ))
    (afac := c.tdgm1 * a) u (one_mul 1) rfl rfl hp
  rw [one_mul, one_mul] at this
  exact this

/-- `shock_RH` (left): `p* > P_L`, `u* = u_L - f_L(p*)`, speed behind the left shock -/
theorem shock_RH_left (g ρ u P p ξ : ℝ) (hρ : 0 < ρ) (hP : 0 < P) (hp : P < p) :
    let c := mkConsts g
    let a := soundspeed c (1.0 / ρ) P
    let ustar := u - fb c P (c.tdgp1 * (1.0 / ρ)) (c.gm1dgp1 * P) (1.0 / P) (c.tdgm1 * a) p
    let S := shockSpeedL c u a (1.0 / P) p
    let s := sampleLeftShock c ρ u P a (1.0 / P) ustar p ξ
    S < ξ →
      s.rho * (s.u - S) = ρ * (u - S) ∧
      s.rho * (s.u - S) ^ 2 + s.P = ρ * (u - S) ^ 2 + P ∧
      (s.P * c.gamma / (c.gamma - 1) + s.rho * (s.u - S) ^ 2 / 2) * (s.u - S)
        = (P * c.gamma / (c.gamma - 1) + ρ * (u - S) ^ 2 / 2) * (u - S) := by
  intro c a ustar S s hξ
  have hc := mk_rel g
  have hs : s = ⟨shockDensity c ρ (1.0 / P) p, ustar, p, 6⟩ := by
    simp only [s, sampleLeftShock]; rw [if_pos hξ]
  rw [hs]
  have := shock_RH hc (stateOK_of_solve hc hρ hP) (σ := -1) (A := c.tdgp1 * (1.0 / ρ))
    (afac := c.tdgm1 * a) u (by norm_num) rfl rfl hp
  simp only [neg_one_mul, ← sub_eq_add_neg] at this
  exact this

/-! ## 6. rarefactions -/

/-- `rarefaction_isentropic`: inside the fan and behind it (star state) the sampled state has the
entropy of the undisturbed state, `P / ρ^γ` constant (stated without division:
`P' ρ^γ = P ρ'^γ`), at EVERY sampling speed (the code clamps the fan base at zero); right and left
rarefaction -/
theorem rarefaction_isentropic (g ρ u P p ustar ξ : ℝ) (hρ : 0 < ρ) (hP : 0 < P) (hp : 0 ≤ p) :
    let c := mkConsts g
    let a := soundspeed c (1.0 / ρ) P
    (fanR c ρ u P a ξ 5).P * ρ ^ c.gamma = P * (fanR c ρ u P a ξ 5).rho ^ c.gamma ∧
    (fanL c ρ u P a ξ 9).P * ρ ^ c.gamma = P * (fanL c ρ u P a ξ 9).rho ^ c.gamma ∧
    (starRarefaction c ρ (1.0 / P) ustar p 4).P * ρ ^ c.gamma
      = P * (starRarefaction c ρ (1.0 / P) ustar p 4).rho ^ c.gamma := by
  intro c a
  have hc := mk_rel g
  refine ⟨?_, ?_, ?_⟩
  · rw [fanR_eq]; exact isentropic_of_base hc hρ.le (baseR_nonneg c u a ξ)
  · rw [fanL_eq]; exact isentropic_of_base hc hρ.le (baseL_nonneg c u a ξ)
  · exact isentropic_star hc (stateOK_of_solve hc hρ hP) hp

/-- `rarefaction_invariant` and `fan_characteristic` (right): inside the right fan (where the
`base` of the formula — clamped at zero by the code — is positive) the sound speed of the sampled state is `a · base`, the
Riemann invariant `u - 2a/(γ-1)` has the value of the right state, and `u + a = ξ` -/
theorem fan_right (g ρ u P ξ : ℝ) (hρ : 0 < ρ) (hP : 0 < P) :
    let c := mkConsts g
    let a := soundspeed c (1.0 / ρ) P
    let s := fanR c ρ u P a ξ 5
    0 < baseR c u a ξ →
      soundspeed c (1.0 / s.rho) s.P = a * baseR c u a ξ ∧
      s.u - c.tdgm1 * soundspeed c (1.0 / s.rho) s.P = u - c.tdgm1 * a ∧
      s.u + soundspeed c (1.0 / s.rho) s.P = ξ := by
  intro c a s hb
  have hc := mk_rel g
  have hst := stateOK_of_solve hc hρ hP
  have hs : soundspeed c (1.0 / s.rho) s.P = a * baseR c u a ξ := by
    simp only [s, fanR_eq]; exact soundspeed_of_base hc hst hb
  refine ⟨hs, ?_, ?_⟩
  · rw [hs]; simp only [s, fanR_eq]; exact fanR_invariant hc hst.a_pos u hb
  · rw [hs]; simp only [s, fanR_eq]; exact fanR_characteristic hc hst.a_pos u hb

/-- the same for the left fan: `u + 2a/(γ-1)` constant and `u - a = ξ` -/
theorem fan_left (g ρ u P ξ : ℝ) (hρ : 0 < ρ) (hP : 0 < P) :
    let c := mkConsts g
    let a := soundspeed c (1.0 / ρ) P
    let s := fanL c ρ u P a ξ 9
    0 < baseL c u a ξ →
      soundspeed c (1.0 / s.rho) s.P = a * baseL c u a ξ ∧
      s.u + c.tdgm1 * soundspeed c (1.0 / s.rho) s.P = u + c.tdgm1 * a ∧
      s.u - soundspeed c (1.0 / s.rho) s.P = ξ := by
  intro c a s hb
  have hc := mk_rel g
  have hst := stateOK_of_solve hc hρ hP
  have hs : soundspeed c (1.0 / s.rho) s.P = a * baseL c u a ξ := by
    simp only [s, fanL_eq]; exact soundspeed_of_base hc hst hb
  refine ⟨hs, ?_, ?_⟩
  · rw [hs]; simp only [s, fanL_eq]; exact fanL_invariant hc hst.a_pos u hb
  · rw [hs]; simp only [s, fanL_eq]; exact fanL_characteristic hc hst.a_pos u hb

/-- inside the fan the `base` IS positive: between tail and head of a right rarefaction with
`p* > 0`, `u* = u_R + f_R(p*)` (so the hypothesis of `fan_right` holds wherever the sampler
evaluates the fan) -/
theorem fan_right_base_pos (g ρ u P p ustar ξ : ℝ) (hρ : 0 < ρ) (hP : 0 < P) (hp : 0 < p) :
    let c := mkConsts g
    let a := soundspeed c (1.0 / ρ) P
    StarR c u a (1.0 / P) ustar p → tailR c a (1.0 / P) ustar p ≤ ξ → 0 < baseR c u a ξ := by
  intro c a hs hξ
  exact baseR_pos (mk_rel g) (stateOK_of_solve (mk_rel g) hρ hP) hp hs hξ

/-- the same for the left fan: between head and tail of a left rarefaction with `p* > 0`,
`u* = u_L - f_L(p*)` -/
theorem fan_left_base_pos (g ρ u P p ustar ξ : ℝ) (hρ : 0 < ρ) (hP : 0 < P) (hp : 0 < p) :
    let c := mkConsts g
    let a := soundspeed c (1.0 / ρ) P
    StarL c u a (1.0 / P) ustar p → ξ ≤ tailL c a (1.0 / P) ustar p → 0 < baseL c u a ξ := by
  intro c a hs hξ
  exact baseL_pos (mk_rel g) (stateOK_of_solve (mk_rel g) hρ hP) hp hs hξ

/-- the invariant also holds for the star state behind a right / left rarefaction -/
theorem rarefaction_invariant_star (g ρ u P p : ℝ) (hρ : 0 < ρ) (hP : 0 < P) (hp : 0 < p) :
    let c := mkConsts g
    let a := soundspeed c (1.0 / ρ) P
    (∀ ustar, StarR c u a (1.0 / P) ustar p →
      let s := starRarefaction c ρ (1.0 / P) ustar p 4
      s.u - c.tdgm1 * soundspeed c (1.0 / s.rho) s.P = u - c.tdgm1 * a) ∧
    (∀ ustar, StarL c u a (1.0 / P) ustar p →
      let s := starRarefaction c ρ (1.0 / P) ustar p 10
      s.u + c.tdgm1 * soundspeed c (1.0 / s.rho) s.P = u + c.tdgm1 * a) := by
  intro c a
  have hc := mk_rel g
  have hst := stateOK_of_solve hc hρ hP
  have hs := soundspeed_star hc hst hp
  constructor
  · intro ustar h s
    simp only [s, starRarefaction, pow_real]; rw [hs, h]; ring
  · intro ustar h s
    simp only [s, starRarefaction, pow_real]; rw [hs, h]; ring

/-! ## 7. the sampled solution is continuous at heads and tails -/

/-- `sample_continuous_at_head` / `_at_tail`: the fan formula returns the undisturbed state at the
head and the star state at the tail (right and left rarefaction) -/
theorem sample_continuous_at_head_tail (g ρ u P p ustar : ℝ) (hρ : 0 < ρ) (hP : 0 < P)
    (hp : 0 ≤ p) (br : ℕ) :
    let c := mkConsts g
    let a := soundspeed c (1.0 / ρ) P
    fanR c ρ u P a (headR u a) br = ⟨ρ, u, P, br⟩ ∧
    fanL c ρ u P a (headL u a) br = ⟨ρ, u, P, br⟩ ∧
    (StarR c u a (1.0 / P) ustar p →
      fanR c ρ u P a (tailR c a (1.0 / P) ustar p) br = starRarefaction c ρ (1.0 / P) ustar p br) ∧
    (StarL c u a (1.0 / P) ustar p →
      fanL c ρ u P a (tailL c a (1.0 / P) ustar p) br = starRarefaction c ρ (1.0 / P) ustar p br) := by
  intro c a
  have hc := mk_rel g
  have hst := stateOK_of_solve hc hρ hP
  exact ⟨fanR_head hc hst.a_pos u br, fanL_head hc hst.a_pos u br,
    fun h => fanR_tail hc hst hp h br, fun h => fanL_tail hc hst hp h br⟩

/-- consequently the whole sampler of a right rarefaction is a continuous function of the sampling
speed (density, velocity and pressure), for every `0 ≤ p* ≤ P_R` with `u* = u_R + f_R(p*)` -/
theorem sample_right_rarefaction_continuous (g ρ u P p ustar : ℝ) (hρ : 0 < ρ) (hP : 0 < P)
    (hp0 : 0 ≤ p) (hp : p ≤ P) :
    let c := mkConsts g
    let a := soundspeed c (1.0 / ρ) P
    StarR c u a (1.0 / P) ustar p →
      Continuous (fun ξ => (sampleRightRarefaction c ρ u P a (1.0 / P) ustar p ξ).rho) ∧
      Continuous (fun ξ => (sampleRightRarefaction c ρ u P a (1.0 / P) ustar p ξ).u) ∧
      Continuous (fun ξ => (sampleRightRarefaction c ρ u P a (1.0 / P) ustar p ξ).P) := by
  intro c a hs
  have hc := mk_rel g
  have hst := stateOK_of_solve hc hρ hP
  have hcl := sampleRightRarefaction_clamp hc hst hp0 hp hs
  obtain ⟨c1, c2, c3⟩ := fanR_continuous hc ρ u P a 0
  exact ⟨continuous_of_eq_clamp c1 fun ξ => (hcl ξ).1, continuous_of_eq_clamp c2 fun ξ => (hcl ξ).2.1,
    continuous_of_eq_clamp c3 fun ξ => (hcl ξ).2.2⟩

/-- the same for the left rarefaction, `u* = u_L - f_L(p*)` -/
theorem sample_left_rarefaction_continuous (g ρ u P p ustar : ℝ) (hρ : 0 < ρ) (hP : 0 < P)
    (hp0 : 0 ≤ p) (hp : p ≤ P) :
    let c := mkConsts g
    let a := soundspeed c (1.0 / ρ) P
    StarL c u a (1.0 / P) ustar p →
      Continuous (fun ξ => (sampleLeftRarefaction c ρ u P a (1.0 / P) ustar p ξ).rho) ∧
      Continuous (fun ξ => (sampleLeftRarefaction c ρ u P a (1.0 / P) ustar p ξ).u) ∧
      Continuous (fun ξ => (sampleLeftRarefaction c ρ u P a (1.0 / P) ustar p ξ).P) := by
  intro c a hs
  have hc := mk_rel g
  have hst := stateOK_of_solve hc hρ hP
  have hcl := sampleLeftRarefaction_clamp hc hst hp0 hp hs
  obtain ⟨c1, c2, c3⟩ := fanL_continuous hc ρ u P a 0
  exact ⟨continuous_of_eq_clamp c1 fun ξ => (hcl ξ).1, continuous_of_eq_clamp c2 fun ξ => (hcl ξ).2.1,
    continuous_of_eq_clamp c3 fun ξ => (hcl ξ).2.2⟩

/-- across the contact pressure and velocity are continuous: both `sample_right_state` and
`sample_left_state` return `(u*, p*)` in their star regions (shock or rarefaction) -/
theorem contact_continuous (c : Consts ℝ) (ρR uR PR aR ρL uL PL aL ustar p ξ : ℝ) :
    (PR < p → ξ < shockSpeedR c uR aR (1.0 / PR) p →
      (sampleRightState c ρR uR PR aR (1.0 / PR) ustar p ξ).u = ustar ∧
      (sampleRightState c ρR uR PR aR (1.0 / PR) ustar p ξ).P = p) ∧
    (¬ PR < p → ξ < headR uR aR → ξ < tailR c aR (1.0 / PR) ustar p →
      (sampleRightState c ρR uR PR aR (1.0 / PR) ustar p ξ).u = ustar ∧
      (sampleRightState c ρR uR PR aR (1.0 / PR) ustar p ξ).P = p) ∧
    (PL < p → shockSpeedL c uL aL (1.0 / PL) p < ξ →
      (sampleLeftState c ρL uL PL aL (1.0 / PL) ustar p ξ).u = ustar ∧
      (sampleLeftState c ρL uL PL aL (1.0 / PL) ustar p ξ).P = p) ∧
    (¬ PL < p → headL uL aL < ξ → ¬ ξ < tailL c aL (1.0 / PL) ustar p →
      (sampleLeftState c ρL uL PL aL (1.0 / PL) ustar p ξ).u = ustar ∧
      (sampleLeftState c ρL uL PL aL (1.0 / PL) ustar p ξ).P = p) := by
  refine ⟨fun h1 h2 => ?_, fun h1 h2 h3 => ?_, fun h1 h2 => ?_, fun h1 h2 h3 => ?_⟩
  · simp only [sampleRightState, if_pos h1, sampleRightShock, if_pos h2, and_self]
  · simp only [sampleRightState, if_neg h1, sampleRightRarefaction, if_pos h2, if_pos h3,
      starRarefaction, and_self]
  · simp only [sampleLeftState, if_pos h1, sampleLeftShock, if_pos h2, and_self]
  · simp only [sampleLeftState, if_neg h1, sampleLeftRarefaction, if_pos h2, if_neg h3,
      starRarefaction, and_self]

/-! ## 8. vacuum solutions join continuously onto the rarefaction fans -/

/-- `vacuum_joins_fan` (vacuum on the right / on the left of a gas; `RiemannVacuum` samplers of
the current, fixed code): at every sampling speed density and pressure are the fan formula at the
speed clamped to `[head, front]` — hence continuous functions of the speed that reach `0` exactly at
the vacuum front and the undisturbed state at the head — and so is the velocity on the gas side of
the front (inside the vacuum the code returns `u = 0`, which has no meaning) -/
theorem vacuum_joins_fan (g ρ u P a : ℝ) (ha : 0 < a) :
    let c := mkConsts g
    (Continuous (fun ξ => (RiemannVacuum.sampleRightVacuum (RiemannVacuum.effGamma g) ρ u P a ξ).rho) ∧
     Continuous (fun ξ => (RiemannVacuum.sampleRightVacuum (RiemannVacuum.effGamma g) ρ u P a ξ).P) ∧
     (∀ ξ, u + c.tdgm1 * a ≤ ξ →
       (RiemannVacuum.sampleRightVacuum (RiemannVacuum.effGamma g) ρ u P a ξ).rho = 0 ∧
       (RiemannVacuum.sampleRightVacuum (RiemannVacuum.effGamma g) ρ u P a ξ).P = 0) ∧
     (∀ ξ, ξ < u + c.tdgm1 * a →
       (RiemannVacuum.sampleRightVacuum (RiemannVacuum.effGamma g) ρ u P a ξ).u
         = (fanL c ρ u P a (clamp (headL u a) (u + c.tdgm1 * a) ξ) 0).u)) ∧
    (Continuous (fun ξ => (RiemannVacuum.sampleLeftVacuum (RiemannVacuum.effGamma g) ρ u P a ξ).rho) ∧
     Continuous (fun ξ => (RiemannVacuum.sampleLeftVacuum (RiemannVacuum.effGamma g) ρ u P a ξ).P) ∧
     (∀ ξ, ξ ≤ u - c.tdgm1 * a →
       (RiemannVacuum.sampleLeftVacuum (RiemannVacuum.effGamma g) ρ u P a ξ).rho = 0 ∧
       (RiemannVacuum.sampleLeftVacuum (RiemannVacuum.effGamma g) ρ u P a ξ).P = 0) ∧
     (∀ ξ, u - c.tdgm1 * a < ξ →
       (RiemannVacuum.sampleLeftVacuum (RiemannVacuum.effGamma g) ρ u P a ξ).u
         = (fanR c ρ u P a (clamp (u - c.tdgm1 * a) (headR u a) ξ) 0).u)) := by
  intro c
  have hc : CRel c := mk_rel g
  have hR := sampleRightVacuum_clamp g ρ u P ha
  have hL := sampleLeftVacuum_clamp g ρ u P ha
  obtain ⟨l1, _, l3⟩ := fanL_continuous hc ρ u P a 0
  obtain ⟨r1, _, r3⟩ := fanR_continuous hc ρ u P a 0
  refine ⟨⟨continuous_of_eq_clamp l1 fun ξ => (hR ξ).1, continuous_of_eq_clamp l3 fun ξ => (hR ξ).2.1,
      fun ξ hξ => ?_, fun ξ hξ => (hR ξ).2.2 hξ⟩,
    ⟨continuous_of_eq_clamp r1 fun ξ => (hL ξ).1, continuous_of_eq_clamp r3 fun ξ => (hL ξ).2.1,
      fun ξ hξ => ?_, fun ξ hξ => (hL ξ).2.2 hξ⟩⟩
  · have hcl := clamp_of_ge (headL_le_front hc ha u) hξ
    have z := fanL_front g ρ u P ha 0
    exact ⟨by rw [(hR ξ).1, hcl]; exact z.1, by rw [(hR ξ).2.1, hcl]; exact z.2⟩
  · have hcl := clamp_of_le (headR u a) hξ
    have z := fanR_front g ρ u P ha 0
    exact ⟨by rw [(hL ξ).1, hcl]; exact z.1, by rw [(hL ξ).2.1, hcl]; exact z.2⟩

/-- `vacuum_joins_fan` for vacuum GENERATED between two gases (`S_L ≤ S_R`, the condition under
which `solve` calls the sampler): density and pressure are continuous in the sampling speed -/
theorem vacuum_generation_joins_fans (g ρL uL PL aL ρR uR PR aR : ℝ) (haL : 0 < aL) (haR : 0 < aR)
    (hgen : (mkConsts g).tdgm1 * aL + (mkConsts g).tdgm1 * aR ≤ uR - uL) :
    Continuous (fun ξ => (RiemannVacuum.sampleVacuumGeneration (RiemannVacuum.effGamma g)
      ρL uL PL aL ρR uR PR aR ξ).rho) ∧
    Continuous (fun ξ => (RiemannVacuum.sampleVacuumGeneration (RiemannVacuum.effGamma g)
      ρL uL PL aL ρR uR PR aR ξ).P) := by
  have hc : CRel (mkConsts g) := mk_rel g
  have h := sampleVacuumGeneration_clamp g ρL uL PL ρR uR PR haL haR (by linarith)
  obtain ⟨l1, _, l3⟩ := fanL_continuous hc ρL uL PL aL 0
  obtain ⟨r1, _, r3⟩ := fanR_continuous hc ρR uR PR aR 0
  have kL := clamp_continuous (headL uL aL) (uL + (mkConsts g).tdgm1 * aL)
  have kR := clamp_continuous (uR - (mkConsts g).tdgm1 * aR) (headR uR aR)
  constructor
  · exact ((l1.comp kL).add (r1.comp kR)).congr fun ξ => ((h ξ).1).symm
  · exact ((l3.comp kL).add (r3.comp kR)).congr fun ξ => ((h ξ).2).symm

/-! ## non-vacuity: the hypotheses used above are satisfiable -/

/-- a continuous function with a sign change satisfies the hypotheses of `brent_bracket` /
`solve_brent_root` -/
example : (fun x : ℝ => x - 1) 0 * (fun x : ℝ => x - 1) 2 ≤ 0 ∧ Continuous (fun x : ℝ => x - 1) :=
  ⟨by norm_num, continuous_id.sub continuous_const⟩

/-- `StarR` / `StarL` (the star velocity relation on the rarefaction branch) hold for
`u* = u_R + f_R(p*)`, `u* = u_L - f_L(p*)`: this is how `ustar_identity` feeds sections 6–7 -/
example (c : Consts ℝ) (u a Pinv p : ℝ) :
    StarR c u a Pinv (u + c.tdgm1 * a * ((p * Pinv) ^ c.gm1d2g - 1)) p ∧
    StarL c u a Pinv (u - c.tdgm1 * a * ((p * Pinv) ^ c.gm1d2g - 1)) p := ⟨rfl, rfl⟩

/-- Sod-like data satisfy the domain hypotheses of the state theorems; the shock hypothesis
`P < p` and the rarefaction hypothesis `0 ≤ p ≤ P` are both inhabited -/
example : (0:ℝ) < 0.125 ∧ (0:ℝ) < 0.1 ∧ (0.1:ℝ) < 0.30313 ∧ (0:ℝ) ≤ 0.30313 ∧ (0.30313:ℝ) ≤ 1 := by
  norm_num

/-- the vacuum-generation hypothesis of `vacuum_generation_joins_fans` is satisfiable for every γ -/
example (g : ℝ) : ∃ uL uR : ℝ, (mkConsts g).tdgm1 * 1 + (mkConsts g).tdgm1 * 1 ≤ uR - uL :=
  ⟨0, (mkConsts g).tdgm1 * 1 + (mkConsts g).tdgm1 * 1, by linarith⟩

/-- the domain hypotheses (`0 < ρ`, `0 < P`, no vacuum generation) of the iterative-part theorems —
the right-hand side of `solve_iterative_iff` — hold for every pair of non-vacuum states with equal
velocities -/
example (g ρ P u : ℝ) (hρ : 0 < ρ) (hP : 0 < P) :
    ¬ ((mkConsts g).tdgm1 * soundspeed (mkConsts g) (1.0 / ρ) P
        + (mkConsts g).tdgm1 * soundspeed (mkConsts g) (1.0 / ρ) P ≤ u - u) := by
  have hc := mk_rel g
  have := mul_pos hc.tdgm1_pos (stateOK_of_solve hc hρ hP).a_pos
  rw [sub_self]; linarith

end CMacVerif.ExactRiemann
