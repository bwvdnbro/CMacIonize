import CMacVerif.Lemmas.SubgridLayout
import CMacVerif.Lemmas.SubgridCopies
import CMacVerif.Lemmas.SplitInvariance
import CMacVerif.Lemmas.SplitCopies
import Mathlib.Algebra.Order.Field.Rat
import Mathlib.Tactic.NormNum
import Mathlib.Tactic.FieldSimp
import Mathlib.Tactic.NormNum.OfScientific
import Mathlib.Algebra.Field.Basic
import Mathlib.Algebra.Group.Basic
import Mathlib.Algebra.Group.Pi.Basic
/-!
# C03 — ray tracing does not depend on the subgrid split

Property theorems, the specification terms they are stated with, non-vacuity examples.  Models:
`CMacVerif/Gen/TravelDirections.lean` (regenerated from the headers on every run), `Model/SubgridLayout.lean`,
`Model/Handover.lean`.

Directions are numbers `d < 27` (`TravelDirection`), sign patterns of a travel direction are numbers
`s < 27` with `s = 9 (sx+1) + 3 (sy+1) + (sz+1)`.  A layout `L` has `nx ny nz` subgrids of `mx my mz` cells
and periodicity flags; all layout theorems hold for every `L` with at least one cell per subgrid (the
number of subgrids per axis is unbounded; a subgrid index `s < L.size` forces `nx, ny, nz ≥ 1`).
-/
open CMacVerif.SubgridLayout CMacVerif.Handover CMacVerif.Gen.TravelDirections
namespace CMacVerif.C03

/-! ## 1. the 27-direction tables (by evaluation of the generated tables) -/

/-- `output_to_input_direction` is an involution on the 27 directions … -/
theorem outToIn_involution : ∀ d, d < 27 → outToInDir d < 27 ∧ outToInDir (outToInDir d) = d := by decide

/-- … whose only fixed point is `INSIDE` -/
theorem outToIn_fixes_only_inside : ∀ d, d < 27 → (outToInDir d = d ↔ d = 0) := by decide

/-- sign pattern number → the three signs -/
def signOf (s : Nat) : Int × Int × Int := (((s / 9 : Nat) : Int) - 1, (((s / 3) % 3 : Nat) : Int) - 1, ((s % 3 : Nat) : Int) - 1)

/-- a travel direction with sign `sg` on an axis can cross the wall with offset `a` on that axis -/
def axisCompatible (a sg : Int) : Bool := a == 0 || a == sg

/-- `is_compatible_output_direction` is exactly "every wall named by the direction is approached" and
`is_compatible_input_direction` "every wall named by the direction is left behind" -/
theorem compat_is_sign_condition : ∀ s, s < 27 → ∀ d, d < 27 →
    compatOutAt s d = (axisCompatible (offsetOf d).1 (signOf s).1 && axisCompatible (offsetOf d).2.1 (signOf s).2.1
        && axisCompatible (offsetOf d).2.2 (signOf s).2.2)
    ∧ compatInAt s d = (axisCompatible (offsetOf d).1 (-(signOf s).1) && axisCompatible (offsetOf d).2.1 (-(signOf s).2.1)
        && axisCompatible (offsetOf d).2.2 (-(signOf s).2.2)) := by decide +kernel

/-- what can leave through `o` can enter through `output_to_input_direction(o)`, and nothing else: the two
compatibility functions agree for all 27 sign patterns and all 27 directions -/
theorem compat_in_out : ∀ s, s < 27 → ∀ o, o < 27 → compatInAt s (outToInDir o) = compatOutAt s o := by
  intro s hs o ho
  have hneg : ∀ a sg : Int, axisCompatible (-a) (-sg) = axisCompatible a sg := fun a sg => by
    rw [Bool.eq_iff_iff]
    simp only [axisCompatible, Bool.or_eq_true, beq_iff_eq, Int.neg_eq_zero, Int.neg_inj]
  rw [(compat_is_sign_condition s hs _ (outToIn_lt o ho)).2, (compat_is_sign_condition s hs o ho).1,
    offsetOf_outToInDir o ho, hneg, hneg, hneg]

/-- every direction has an offset in {-1,0,1}³, `INSIDE` has offset 0, and `output_to_input_direction`
negates the offset -/
theorem offset_outToIn : ∀ d, d < 27 → offsetOf d ∈ loopOffsets ∧ (offsetOf d = (0, 0, 0) ↔ d = 0) ∧
    offsetOf (outToInDir d) = (-(offsetOf d).1, -(offsetOf d).2.1, -(offsetOf d).2.2) :=
  fun d hd => ⟨offsetOf_mem d hd, (by decide : ∀ d, d < 27 → (offsetOf d = (0, 0, 0) ↔ d = 0)) d hd,
    offsetOf_outToInDir d hd⟩

/-- the offsets read off the code (`exitDir`: which index class `get_output_direction` maps to which label) are
the offsets the label NAMES document (P = upper limit, N = lower limit; table `namedOffset`) -/
theorem offset_matches_names : ∀ d, d < 27 → offsetOf d = namedOffset.getD d (2, 2, 2) := by decide

/-- the mask table of `get_output_direction` is the inverse of the offset: the mask built from the offset of
`d` is mapped to `d`, and every valid mask is the mask of the offset of its direction (all other masks are
rejected with `-1`) -/
theorem mask_inverse_offset :
    (∀ d, d < 27 → maskDir (maskOfOffset (offsetOf d)) = (d : Int)) ∧
    (∀ m, m < 64 → maskDir m = -1 ∨ ((maskDir m).toNat < 27 ∧ maskOfOffset (offsetOf (maskDir m).toNat) = m)) ∧
    (∀ o ∈ loopOffsets, offsetOf (dirOfOffset o) = o) :=
  ⟨fun d hd => by rw [maskDir_maskOfOffset _ (offsetOf_mem d hd), dirOfOffset_offsetOf d hd], by decide,
    offsetOf_dirOfOffset⟩

/-- class number 9(a+1)+3(b+1)+(c+1) → offset -/
def offsetOfClass (c : Nat) : Int × Int × Int := signOf c

/-- the real `DensitySubGrid::get_output_direction`, evaluated on representatives of the 27 index classes,
is the mask construction of the model followed by the mask table -/
theorem exitDir_is_mask_of_class : ∀ c, c < 27 → exitDirAt c = maskDir (maskOfOffset (offsetOfClass c)) := by decide

/-- `update_photon_position` pins exactly the coordinates the offset of the input direction names, to the
wall it names, and `get_{x,y,z}_index` fix the start index on exactly the same axes -/
theorem pins_agree_with_offset : ∀ d, d < 27 → ∀ ax, ax < 3 →
    pinAt d ax = clsOfOffset (comp (offsetOf d) ax) ∧ idxClassAt d ax = clsOfOffset (comp (offsetOf d) ax) :=
  classes_agree_with_offset

/-! ## 2. neighbour wiring of `create_subgrid`, all layouts -/

/-- subgrid index ↔ grid position is a bijection between `[0, nx·ny·nz)` and the box of positions -/
theorem gridPosition_bijection (L : Layout) :
    (∀ s, s < L.size → (gridPosition L s).1 < L.nx ∧ (gridPosition L s).2.1 < L.ny ∧ (gridPosition L s).2.2 < L.nz
      ∧ indexOf L (gridPosition L s).1 (gridPosition L s).2.1 (gridPosition L s).2.2 = s) ∧
    (∀ x y z, x < L.nx → y < L.ny → z < L.nz → indexOf L x y z < L.size ∧ gridPosition L (indexOf L x y z) = (x, y, z)) :=
  ⟨fun s hs => ⟨(gridPosition_lt L s hs).1, (gridPosition_lt L s hs).2.1, (gridPosition_lt L s hs).2.2,
      indexOf_gridPosition L s⟩,
   fun x y z hx hy hz => ⟨indexOf_lt L x y z hx hy hz, gridPosition_indexOf L x y z hy hz⟩⟩

/-- **neighbour_geometric.**  For every layout, periodicity, subgrid `s` and direction `d`, the entry `d` of
the neighbour table built by `create_subgrid` is the subgrid at `pos s + offset d`, each coordinate taken
modulo the number of subgrids on a periodic axis, and `NEIGHBOUR_OUTSIDE` when a coordinate falls outside on
a non-periodic axis (`geomNeighbour`, `geomAxis`). -/
theorem neighbour_geometric (L : Layout) (hx : 0 < L.mx) (hy : 0 < L.my) (hz : 0 < L.mz)
    (s d : Nat) (hs : s < L.size) (hd : d < 27) :
    ngb L s d = geomNeighbour L s d := by
  rw [ngb_eq_ngbAt L hx hy hz s d hd, ngbAt_geom L s d hs hd]

/-- `geomAxis` spelled out -/
theorem geomAxis_spec (p : Bool) (n : Nat) (c : Int) (x : Nat) :
    geomAxis p n c = some x ↔
      ((0 ≤ c ∧ c < n ∧ (x : Int) = c) ∨ (¬(0 ≤ c ∧ c < (n : Int)) ∧ p = true ∧ x = (c % (n : Int)).toNat)) := by
  unfold geomAxis
  by_cases h : 0 ≤ c ∧ c < (n : Int)
  · rw [if_pos h]
    constructor
    · intro e; injection e with e; left; exact ⟨h.1, h.2, by omega⟩
    · rintro (⟨_, _, e⟩ | ⟨hn, _⟩)
      · congr 1; omega
      · exact absurd h hn
  · rw [if_neg h]
    cases p
    · simp only [Bool.false_eq_true, ↓reduceIte, false_and, and_false, or_false, reduceCtorEq, false_iff, not_and]
      intro h1 h2; exact absurd ⟨h1, h2⟩ h
    · simp only [↓reduceIte, Option.some.injEq, true_and]
      constructor
      · intro e; right; exact ⟨h, e.symm⟩
      · rintro (⟨h1, h2, _⟩ | ⟨_, e⟩)
        · exact absurd ⟨h1, h2⟩ h
        · exact e.symm

/-- **neighbour_mutual.**  Whenever subgrid `s` has a neighbour `t` in direction `d`, `t` is a subgrid of the
layout and its neighbour in direction `output_to_input_direction(d)` is `s` — for every layout, including 1
and 2 subgrids on a periodic axis (where several directions lead to the same neighbour). -/
theorem neighbour_mutual (L : Layout) (hx : 0 < L.mx) (hy : 0 < L.my) (hz : 0 < L.mz)
    (s d t : Nat) (hs : s < L.size) (hd : d < 27) (h : ngb L s d = some t) :
    t < L.size ∧ ngb L t (outToInDir d) = some s := by
  refine ⟨ngb_lt L hx hy hz s d t hd h, ?_⟩
  rw [ngb_eq_ngbAt L hx hy hz s d hd] at h
  rw [ngb_eq_ngbAt L hx hy hz t _ (outToIn_lt d hd), offsetOf_outToInDir d hd]
  exact ngbAt_mutual L s hs _ (comp_small d hd) t h

/-- the neighbour table has 27 entries and entry `INSIDE` is the subgrid itself -/
theorem neighbour_table_shape (L : Layout) (hx : 0 < L.mx) (hy : 0 < L.my) (hz : 0 < L.mz) (s : Nat) (hs : s < L.size) :
    (createSubgrid L s).length = 27 ∧ ngb L s 0 = some s :=
  ⟨createSubgrid_length L hx hy hz s, ngb_self L hx hy hz s hs⟩

/-- `get_neighbours` (used to smooth the copy levels) lists exactly the face neighbours of the neighbour table,
in the order x-, x+, y-, y+, z-, z+ -/
theorem getNeighbours_faces (L : Layout) (hx : 0 < L.mx) (hy : 0 < L.my) (hz : 0 < L.mz) (s : Nat) (hs : s < L.size) :
    getNeighbours L s = [22, 21, 24, 23, 26, 25].filterMap (ngb L s) ∧
    dirNames.getD 22 "" = "FACE_X_N" ∧ dirNames.getD 21 "" = "FACE_X_P" ∧ dirNames.getD 24 "" = "FACE_Y_N"
      ∧ dirNames.getD 23 "" = "FACE_Y_P" ∧ dirNames.getD 26 "" = "FACE_Z_N" ∧ dirNames.getD 25 "" = "FACE_Z_P" :=
  ⟨getNeighbours_faces_aux L hx hy hz s hs, by decide⟩

/-- non-vacuity / the degenerate layouts: one subgrid on a periodic axis is its own neighbour in both
directions, two subgrids are each other's neighbour in both directions, and mutuality still holds -/
example : let L : Layout := ⟨1, 2, 3, 1, 1, 1, true, true, false⟩
    ngb L 0 21 = some 0 ∧ ngb L 0 22 = some 0 ∧ ngb L 0 23 = some 3 ∧ ngb L 0 24 = some 3 ∧ ngb L 0 26 = none
      ∧ ngb L 3 (outToInDir 23) = some 0 := by decide

/-! ## 3. copies -/

/-- number of subgrids after `create_copies`, and the shape of `_copies` / `_originals` -/
theorem copies_counts (L : Layout) (prev levels : List Nat) (hlen : levels.length = L.size) :
    let C := createCopies L prev levels
    C.rows.length = L.size + ((levels.map fun l => 2 ^ l - 1).sum) ∧ C.originals.length = C.rows.length - L.size
      ∧ C.copies.length = L.size := by
  simp only []
  rw [createCopies_rows_length, createCopies_originals, createCopies_copies, buildCopies_length]
  unfold buildOriginals
  rw [buildBlocks_length]
  have e : pre levels levels.length = (levels.map fun l => 2 ^ l - 1).sum := by
    unfold pre; rw [List.take_length]; rfl
  rw [e]; exact ⟨rfl, by omega, hlen⟩

/-- **copies_wiring.**  For every layout, every assignment of copy levels and every previous content of
`_copies`: take the `k`-th copy (1 ≤ k < 2^level) of an original `s`.  Its table entry `INSIDE` is the copy
itself.  In every other direction `d`: if the original has no neighbour, neither has the copy; if the
original's neighbour is `t`, the copy's neighbour is member `c` of the family of `t` (`c = 0` the original `t`
itself, `c ≥ 1` its `c`-th copy) with `c < 2^level t`; that index is a valid subgrid index and the subgrid
there belongs to the original `t` (`_originals`). -/
theorem copies_wiring (L : Layout) (hx : 0 < L.mx) (hy : 0 < L.my) (hz : 0 < L.mz)
    (prev levels : List Nat) (hlen : levels.length = L.size)
    (s k d : Nat) (hs : s < L.size) (hk1 : 1 ≤ k) (hk : k < 2 ^ levels.getD s 0) (hd : d < 27) :
    let C := createCopies L prev levels
    let copy := member C.copies s k
    let e := (C.rows.getD copy []).getD d none
    copy < C.rows.length ∧ originalOf C copy = s ∧
    (d = 0 → e = some copy) ∧
    (d ≠ 0 → ngb L s d = none → e = none) ∧
    (d ≠ 0 → ∀ t, ngb L s d = some t →
      ∃ c, c < 2 ^ levels.getD t 0 ∧ e = some (member C.copies t c) ∧ member C.copies t c < C.rows.length
        ∧ originalOf C (member C.copies t c) = t) := by
  simp only []
  rw [entry_member L prev levels hlen s k d hs hk hd]
  obtain ⟨hnone, hsome⟩ := familyNgb_spec L hx hy hz levels (createCopies L prev levels).copies s k d hs hk
  refine ⟨member_lt_rows L prev levels hlen s k hs hk, originalOf_member L prev levels hlen s k hs hk,
    fun h0 => h0 ▸ familyNgb_zero L hx hy hz levels _ s k hs, fun _ => hnone, fun _ t ht => ?_⟩
  obtain ⟨c, hc, he⟩ := hsome t ht
  have htl := ngb_lt L hx hy hz s d t hd ht
  exact ⟨c, hc, he, member_lt_rows L prev levels hlen t c htl hc, originalOf_member L prev levels hlen t c htl hc⟩

/-- **copies_wiring, onto part.**  When the neighbour `t` has at most as many copies as `s`, every member of
the family of `t` (the original and each copy) is the neighbour of some member of the family of `s`: no copy
of `t` is left without incoming packets from that side. -/
theorem copies_wiring_onto (L : Layout) (levels copies : List Nat) (s d t : Nat)
    (hd : d ≠ 0) (ht : ngb L s d = some t) (hle : levels.getD t 0 ≤ levels.getD s 0)
    (c : Nat) (hc : c < 2 ^ levels.getD t 0) :
    ∃ k, k < 2 ^ levels.getD s 0 ∧ familyNgb L levels copies s k d = some (member copies t c) :=
  familyNgb_onto L levels copies s d t hd ht hle c hc

/-- `familyNgb` is the table entry (ties the onto statement to the tables the code builds) -/
theorem familyNgb_is_table_entry (L : Layout) (prev levels : List Nat) (hlen : levels.length = L.size)
    (s k d : Nat) (hs : s < L.size) (hk : k < 2 ^ levels.getD s 0) (hd : d < 27) :
    let C := createCopies L prev levels
    (C.rows.getD (member C.copies s k) []).getD d none = familyNgb L levels C.copies s k d :=
  entry_member L prev levels hlen s k d hs hk hd

/-- the originals keep their tables -/
theorem copies_leave_originals (L : Layout) (prev levels : List Nat) (s : Nat) (hs : s < L.size) :
    (createCopies L prev levels).rows.getD s [] = createSubgrid L s := row_original L prev levels s hs

/-- non-vacuity of `copies_wiring`: the pinned test's assignment (levels 1 and 2 on neighbouring subgrids
of a 4x4x8 layout) -/
example : let L : Layout := ⟨2, 1, 2, 1, 1, 1, false, false, true⟩
    let C := createCopies L (List.replicate 4 noCopy) [1, 2, 0, 0]
    C.copies = [4, 5, noCopy, noCopy] ∧ C.originals = [0, 1, 1, 1] ∧ C.rows.length = 8
      ∧ (C.rows.getD 4 []).getD 25 none = some 5 ∧ (C.rows.getD 6 []).getD 26 none = some 4 := by decide

/-! ## 4. folding the copies back -/

/-- **fold_once.**  `update_original_counters` (and `update_copy_properties`, the same walk) calls
`update_intensities(original, copy)` for exactly the pairs (`_originals[c - n]`, `c`), `c` running once
through all copies `n ≤ c < size` — every copy exactly once, under its own original, no original subgrid as
a copy.  Holds after `create_copies` and after any number of `update_copies` (`prev`: entries of `_copies`
left behind by an earlier assignment are old vector sizes, hence `≥ n`). -/
theorem fold_once (L : Layout) (prev levels : List Nat) (hlen : levels.length = L.size)
    (hprev : ∀ p ∈ prev, p = noCopy ∨ L.size ≤ p)
    (hbound : L.size + ((levels.map fun l => 2 ^ l - 1).sum) < noCopy) :
    let C := createCopies L prev levels
    foldVisits C = C.originals.zip (List.range' L.size C.originals.length) ∧
    (foldVisits C).map Prod.snd = List.range' L.size (C.rows.length - L.size) ∧
    (∀ v ∈ foldVisits C, originalOf C v.2 = v.1 ∧ v.1 < L.size ∧ L.size ≤ v.2 ∧ v.2 < C.rows.length) := by
  simp only []
  have hcounts := copies_counts L prev levels hlen
  simp only [] at hcounts
  have hmain : foldVisits (createCopies L prev levels)
      = (createCopies L prev levels).originals.zip (List.range' L.size (createCopies L prev levels).originals.length) := by
    unfold foldVisits
    rw [createCopies_copies, buildCopies_length, hlen, createCopies_originals]
    have h := foldVisitsFrom_spec L.size levels [] 0 prev (by simp) (by
      simp only [List.length_nil, Nat.add_zero]
      have := hcounts.2.1; rw [hcounts.1, createCopies_originals] at this; omega)
    simpa using h
  refine ⟨hmain, ?_, ?_⟩
  · rw [hmain, List.map_snd_zip (by simp), hcounts.2.1]
  · intro v hv
    rw [hmain] at hv
    obtain ⟨i, hi, hv1, hv2⟩ : ∃ i, i < (createCopies L prev levels).originals.length
        ∧ v.1 = (createCopies L prev levels).originals.getD i 0 ∧ v.2 = L.size + i := by
      obtain ⟨i, hi, he⟩ := List.getElem_of_mem hv
      simp only [List.length_zip, List.length_range', Nat.min_self] at hi
      refine ⟨i, hi, ?_, ?_⟩
      · rw [← he]; simp [List.getD_eq_getElem?_getD, hi]
      · rw [← he]; simp [List.getElem_range']
    have hlt : v.1 < L.size := by
      rw [hv1, createCopies_originals, List.getD_eq_getElem?_getD]
      rw [createCopies_originals] at hi
      have hmem : (buildOriginals 0 levels)[i] ∈ buildOriginals 0 levels := List.getElem_mem hi
      have := buildOriginals_mem 0 levels _ hmem
      simp only [hi, List.getElem?_eq_getElem, Option.getD_some]
      omega
    refine ⟨?_, hlt, by omega, by rw [hcounts.1]; have := hcounts.2.1; rw [hcounts.1] at this; omega⟩
    unfold originalOf
    rw [createCopies_copies, buildCopies_length, hlen, if_neg (by omega), hv2, hv1]
    congr 1; omega

/-- non-vacuity of `fold_once`, including entries of `_copies` left behind by an earlier assignment -/
example : let L : Layout := ⟨2, 1, 2, 1, 1, 1, false, false, true⟩
    foldVisits (createCopies L [4, 5, noCopy, noCopy] [0, 0, 2, 1]) = [(2, 4), (2, 5), (2, 6), (3, 7)] := by decide


/-- **fold_once over any history.**  The hypothesis of `fold_once` about entries of `_copies` left behind is
not an assumption: after the constructor and ANY sequence of level assignments (`create_copies` once,
`update_copies` afterwards) every entry of `_copies` is `0xffffffff` or an old vector size `≥ n`
(`copiesAfter_inv`), so the fold visits every copy of the newest assignment exactly once under its own
original. -/
theorem fold_once_history (L : Layout) (hist : List (List Nat)) (levels : List Nat) (hlen : levels.length = L.size)
    (hbound : L.size + ((levels.map fun l => 2 ^ l - 1).sum) < noCopy) :
    let C := createCopies L (copiesAfter L hist) levels
    C.copies = copiesAfter L (hist ++ [levels]) ∧
    foldVisits C = C.originals.zip (List.range' L.size C.originals.length) ∧
    (foldVisits C).map Prod.snd = List.range' L.size (C.rows.length - L.size) ∧
    (∀ v ∈ foldVisits C, originalOf C v.2 = v.1 ∧ v.1 < L.size ∧ L.size ≤ v.2 ∧ v.2 < C.rows.length) := by
  refine ⟨?_, fold_once L (copiesAfter L hist) levels hlen (copiesAfter_inv L hist) hbound⟩
  simp [copiesAfter, createCopies_copies]

/-- **fold_cells.**  Cell level of "folding duplicates back adds every contribution exactly once".  Every
subgrid holds one counter per cell (`mx·my·mz` of them).  After `update_original_counters` (the fold walk with
`update_intensities`, whose loop runs over `_number_of_cells[3] * _number_of_cells[0]` cells) cell `j` of the
original `s` holds its own counter plus the counter of cell `j` of each of its copies — the copies of `s` are
the subgrids `n + k` with `_originals[k] = s`, each taken once — for EVERY cell `j` of the subgrid, and the
copies are unchanged. -/
theorem fold_cells (L : Layout) (prev levels : List Nat) (hlen : levels.length = L.size)
    (hprev : ∀ p ∈ prev, p = noCopy ∨ L.size ≤ p)
    (hbound : L.size + ((levels.map fun l => 2 ^ l - 1).sum) < noCopy)
    (cells : List (List Nat)) (hcl : cells.length = (createCopies L prev levels).rows.length)
    (hM : ∀ i, i < cells.length → (cells.getD i []).length = L.mx * L.my * L.mz) :
    let C := createCopies L prev levels
    (∀ s, s < L.size → ∀ j, j < L.mx * L.my * L.mz →
      ((foldCells L C cells).getD s []).getD j 0
        = (cells.getD s []).getD j 0
          + (((C.originals.zip (List.range' L.size C.originals.length)).filter (fun v => v.1 = s)).map
              (fun v => (cells.getD v.2 []).getD j 0)).sum) ∧
    (∀ i, L.size ≤ i → (foldCells L C cells).getD i [] = cells.getD i []) := by
  simp only []
  obtain ⟨hmain, _, hvis⟩ := fold_once L prev levels hlen hprev hbound
  have hcounts := copies_counts L prev levels hlen
  have hN : L.size ≤ cells.length := by rw [hcl, hcounts.1]; omega
  -- a visit reads the copy (`≥ size`) and writes the original (`< size`)
  have hgen := foldl_write_getD Prod.fst (fun v cs => cs.getD v.2 []) (fun _ => updateIntensities L) []
    (foldVisits (createCopies L prev levels))
    (fun v hv u hu cs x => getD_set_ne cs x [] (by have := hvis v hv; have := hvis u hu; omega))
    cells (fun v hv => by have := hvis v hv; omega)
  have htot : L.totNcell = L.mx * L.my * L.mz := by unfold Layout.totNcell; ring
  constructor
  · intro s hs j hj
    unfold foldCells
    rw [hgen s, ← List.foldl_map, foldl_updateIntensities_getD L _ _ j (by rw [hM s (by omega)]; exact hj) (by rw [htot]; exact hj),
      List.map_map, hmain]
    rfl
  · intro i hi
    unfold foldCells
    rw [hgen i, List.filter_eq_nil_iff.mpr fun v hv => by have := hvis v hv; simp; omega]; rfl

/-- **push_cells.**  "Push the new state to the copies": after `update_copy_properties` (the same walk with
`update_neutral_fractions`) every copy holds, in EVERY cell, the state of its own original, and the originals
are unchanged. -/
theorem push_cells (L : Layout) (prev levels : List Nat) (hlen : levels.length = L.size)
    (hprev : ∀ p ∈ prev, p = noCopy ∨ L.size ≤ p)
    (hbound : L.size + ((levels.map fun l => 2 ^ l - 1).sum) < noCopy)
    (cells : List (List Nat)) (hcl : cells.length = (createCopies L prev levels).rows.length)
    (hM : ∀ i, i < cells.length → (cells.getD i []).length = L.mx * L.my * L.mz) :
    let C := createCopies L prev levels
    (∀ i, L.size ≤ i → i < C.rows.length → (pushCells L C cells).getD i [] = cells.getD (originalOf C i) []) ∧
    (∀ s, s < L.size → (pushCells L C cells).getD s [] = cells.getD s []) := by
  simp only []
  obtain ⟨_, hsnd, hvis⟩ := fold_once L prev levels hlen hprev hbound
  have htot : L.totNcell = L.mx * L.my * L.mz := by unfold Layout.totNcell; ring
  -- a visit reads the original (`< size`) and writes the copy (`≥ size`)
  have hgen := foldl_write_getD Prod.snd (fun v cs => cs.getD v.1 []) (fun _ => updateNeutralFractions L) []
    (foldVisits (createCopies L prev levels))
    (fun v hv u hu cs x => getD_set_ne cs x [] (by have := hvis v hv; have := hvis u hu; omega))
    cells (fun v hv => by rw [hcl]; exact (hvis v hv).2.2.2)
  constructor
  · intro i hi hlt
    obtain ⟨v, hv, rfl⟩ : ∃ v ∈ foldVisits (createCopies L prev levels), v.2 = i := by
      have : i ∈ (foldVisits (createCopies L prev levels)).map Prod.snd := by
        rw [hsnd, List.mem_range']; exact ⟨i - L.size, by omega, by omega⟩
      simpa using this
    have hvv := hvis v hv
    unfold pushCells
    -- every copy is visited once
    rw [hgen, filter_key_of_nodup Prod.snd _ (by rw [hsnd]; exact List.nodup_range' ..) v hv, hvv.1]
    exact updateNeutralFractions_eq L _ _ (by rw [hM _ (by rw [hcl]; exact hvv.2.2.2), htot])
      (by rw [hM _ (by rw [hcl]; omega), htot])
  · intro s hs
    unfold pushCells
    rw [hgen s, List.filter_eq_nil_iff.mpr fun v hv => by have := hvis v hv; simp; omega]; rfl

/-- non-vacuity of `fold_cells` / `push_cells`: 2x1x2 subgrids of 1x2x1 cells, levels 0 0 2 1 -/
example : let L : Layout := ⟨2, 1, 2, 1, 2, 1, false, false, true⟩
    let C := createCopies L (List.replicate 4 noCopy) [0, 0, 2, 1]
    foldCells L C [[1, 2], [3, 4], [5, 6], [7, 8], [10, 20], [30, 40], [50, 60], [70, 80]]
        = [[1, 2], [3, 4], [95, 126], [77, 88], [10, 20], [30, 40], [50, 60], [70, 80]]
    ∧ pushCells L C [[1, 2], [3, 4], [5, 6], [7, 8], [10, 20], [30, 40], [50, 60], [70, 80]]
        = [[1, 2], [3, 4], [5, 6], [7, 8], [5, 6], [5, 6], [5, 6], [7, 8]] := by decide


/-! ## 5. the hand-over -/

section position
variable {K : Type} [Field K] [CharZero K]

/-- **handover_position.**  Box anchor `A`, subgrid sides `S`, cell sizes `hc = S / m` (componentwise).  A
packet leaves subgrid `s` through `d` into `t = get_neighbour(d)`, sitting on every wall it crosses
(`hexit`; on the other axes anywhere).  Let `P` be its position.  What `interact` in `t` starts from —
`P - anchor t`, then `update_photon_position(output_to_input_direction(d))`, seen in absolute coordinates
— is `P` again on every axis, up to one whole box length `n·S` on an axis that is periodic and wrapped. -/
theorem handover_position (L : Layout) (hx : 0 < L.mx) (hy : 0 < L.my) (hz : 0 < L.mz)
    (s d t : Nat) (hs : s < L.size) (hd : d < 27) (h : ngb L s d = some t)
    (A S hc loc : K × K × K)
    (hcell : ∀ ax, ax < 3 → compK hc ax = compK S ax / (axM L ax : K))
    (hexit : ∀ ax, ax < 3 → (comp (offsetOf d) ax = 1 → compK loc ax = (axM L ax : K) * compK hc ax)
        ∧ (comp (offsetOf d) ax = -1 → compK loc ax = 0))
    (ax : Nat) (hax : ax < 3) :
    let anchor := fun (u : Nat) (b : Nat) => compK A b + (posAx (gridPosition L u) b : K) * compK S b
    let P := fun b => anchor s b + compK loc b
    let rel : K × K × K := (P 0 - anchor t 0, P 1 - anchor t 1, P 2 - anchor t 2)
    let Q := anchor t ax + compK (updatePosition (outToInDir d) ((L.mx : K), (L.my : K), (L.mz : K)) hc rel) ax
    ∃ w : Int, (w = 0 ∨ (axP L ax = true ∧ (w = 1 ∨ w = -1))) ∧ Q = P ax + (w : K) * ((axN L ax : K) * compK S ax) := by
  intro anchor P rel Q
  have hstep := ngb_axis L hx hy hz s d t hd h ax hax
  have hi := posAx_lt L s hs ax hax
  have hm := axM_pos L hx hy hz ax
  have ha := comp_small d hd ax
  have hcls : pinAt (outToInDir d) ax = clsOfOffset (-(comp (offsetOf d) ax)) := by
    rw [(classes_agree_with_offset _ (outToIn_lt d hd) ax hax).1, comp_outToIn d hd]
  have hmS : (axM L ax : K) * compK hc ax = compK S ax := by
    rw [hcell ax hax]; exact mul_div_cancel₀ _ (Nat.cast_ne_zero.mpr hm.ne')
  have e1 := Axis.forall_lt_three (P := fun ax => compK ((L.mx : K), (L.my : K), (L.mz : K)) ax = (axM L ax : K)) rfl rfl rfl ax hax
  have e2 := Axis.forall_lt_three (P := fun ax => compK rel ax = P ax - anchor t ax) rfl rfl rfl ax hax
  obtain ⟨k, hk, hk01⟩ := wrap_amount (axP L ax) (axN L ax) _ _ _ hi ha hstep
  refine ⟨k, hk01, ?_⟩
  show anchor t ax + compK (updatePosition _ _ _ _) ax = _
  rw [compK_updatePosition _ _ _ _ ax hax, hcls, e1, e2,
    updatePosAxis_handover (axM L ax) _ _ _ (compK loc ax) ha (hexit ax hax) fun h0 => by
      -- an axis that is not crossed: the neighbour has the same coordinate
      rw [h0, axisStep_zero _ _ _ hi] at hstep
      simp only [P, anchor, ← Option.some.inj hstep]; ring]
  have hkK : ((posAx (gridPosition L t) ax : Nat) : K)
      = (posAx (gridPosition L s) ax : K) + ((comp (offsetOf d) ax : Int) : K) + (k : K) * (axN L ax : K) := by
    exact_mod_cast congrArg (Int.cast (R := K)) hk
  simp only [P, anchor]
  rw [hmS, hkK]; ring
end position

/-- **handover_cell.**  The march in subgrid `s` stepped to the local cell index `idx` (each component in
`[-1, m]`, i.e. at most one cell outside).  `d = get_output_direction(idx)` is a direction whose offset is the
exit class of `idx`.  If `s` has a neighbour `t` in that direction, the cell in which the march restarts
there (`get_start_index` with input direction `output_to_input_direction(d)`; on an axis that is not crossed
the computed index is the current one) is, on every axis, the cell `(pos s)·m + idx` of the undivided grid —
wrapped to the other end on a periodic axis (`wrapAxis` on the undivided grid is what the single-block run
does) and inside the undivided grid.  If there is no neighbour, the index is outside the undivided grid on
a non-periodic axis: the packet leaves the box in both runs. -/
theorem handover_cell (L : Layout) (hx : 0 < L.mx) (hy : 0 < L.my) (hz : 0 < L.mz)
    (s : Nat) (hs : s < L.size) (idx : Int × Int × Int)
    (hidx : ∀ ax, ax < 3 → -1 ≤ comp idx ax ∧ comp idx ax ≤ (axM L ax : Int)) :
    let d := (outputDirection L.cells idx).toNat
    d < 27 ∧ (∀ ax, ax < 3 → comp (offsetOf d) ax = exitClass (axM L ax) (comp idx ax)) ∧
    (∀ t, ngb L s d = some t → ∀ ax, ax < 3 →
      let g := (posAx (gridPosition L s) ax : Int) * (axM L ax : Int) + comp idx ax
      (posAx (gridPosition L t) ax : Int) * (axM L ax : Int) + comp (startIndex (outToInDir d) L.cells idx) ax
          = wrapAxis (axP L ax) (axN L ax * axM L ax) g
        ∧ 0 ≤ wrapAxis (axP L ax) (axN L ax * axM L ax) g
        ∧ wrapAxis (axP L ax) (axN L ax * axM L ax) g < ((axN L ax * axM L ax : Nat) : Int)) ∧
    (ngb L s d = none → ∃ ax, ax < 3 ∧ axP L ax = false ∧
      ((posAx (gridPosition L s) ax : Int) * (axM L ax : Int) + comp idx ax < 0
        ∨ ((axN L ax * axM L ax : Nat) : Int) ≤ (posAx (gridPosition L s) ax : Int) * (axM L ax : Int) + comp idx ax)) := by
  intro d
  obtain ⟨hd, hoff⟩ : d < 27 ∧ offsetOf d = _ := outputDirection_offset L.cells hx hy hz idx
  have hcomp : ∀ ax, ax < 3 → comp (offsetOf d) ax = exitClass (axM L ax) (comp idx ax) := by
    rw [hoff]; exact Axis.forall_lt_three rfl rfl rfl
  have hstart : ∀ ax, ax < 3 → comp (startIndex (outToInDir d) L.cells idx) ax
      = startIndexAxis (clsOfOffset (-(exitClass (axM L ax) (comp idx ax)))) (axM L ax) (comp idx ax) := by
    intro ax hax
    rw [comp_startIndex _ L idx ax hax, (classes_agree_with_offset _ (outToIn_lt d hd) ax hax).2, comp_outToIn d hd,
      hcomp ax hax]
  refine ⟨hd, hcomp, ?_, ?_⟩
  · intro t ht ax hax g
    have hstep := ngb_axis L hx hy hz s d t hd ht ax hax
    rw [hcomp ax hax] at hstep
    rw [hstart ax hax]
    exact handover_cell_axis (axP L ax) (axN L ax) (axM L ax) (posAx (gridPosition L s) ax) (comp idx ax)
      (posAx_lt L s hs ax hax) (axM_pos L hx hy hz ax) (hidx ax hax) _ hstep
  · intro hn
    obtain ⟨ax, hax, h1⟩ := ngb_none_axis L hx hy hz s d hd hn
    rw [hcomp ax hax] at h1
    exact ⟨ax, hax, handover_cell_axis_none _ _ _ _ _ (posAx_lt L s hs ax hax) (hidx ax hax) h1⟩

/-- non-vacuity of `handover_cell`: leaving the last subgrid of a periodic axis of two subgrids through the
upper x face and the lower y edge -/
example : let L : Layout := ⟨2, 2, 1, 3, 3, 3, true, false, false⟩
    (outputDirection L.cells (3, -1, 1)).toNat = 18 ∧ ngb L 3 18 = some 0
      ∧ startIndex (outToInDir 18) L.cells (3, -1, 1) = (0, 2, 1) := by decide


/-! ## 6. split invariance -/

section split
variable {P σ δ M O : Type} [AddCommMonoid M]

/-- the same grid as a single block -/
def wholeLayout (L : Layout) : Layout := ⟨1, 1, 1, L.nx * L.mx, L.ny * L.my, L.nz * L.mz, L.px, L.py, L.pz⟩

/-- What a ray-march model (C02, `Model/RayMarch.lean`) has to provide for every layout: one cell step of
`interact` in subgrid `s`, the re-entry computation, the contribution of a deposit to the per-cell totals,
where a packet `pk` (absolute position, direction, optical depth) starts, and what is observed at the end
(absorbed / escaped, final position, remaining optical depth). -/
structure MarchModel (P σ δ M O : Type) where
  localStep : Layout → Nat → σ → LocalStep σ δ
  enter : Layout → Nat → Nat → σ → σ
  val : Layout → Nat → δ → M
  start : Layout → P → ChainState σ
  outcome : Layout → ChainState σ → O

def MarchModel.step (mm : MarchModel P σ δ M O) (L : Layout) : ChainState σ → Option (M × ChainState σ) :=
  splitStep L (mm.localStep L) (mm.enter L) (mm.val L)

/-- split invariance for one layout: whenever the chained run through the subgrids of `L` is over within
`f` steps, so is the run through the same grid as one block, with the same per-cell totals and the same
observed outcome -/
def SplitInvariantOn (mm : MarchModel P σ δ M O) (L : Layout) : Prop :=
  ∀ (pk : P) (f : Nat), Halts (mm.step L) f (mm.start L pk) →
    Halts (mm.step (wholeLayout L)) f (mm.start (wholeLayout L) pk) ∧
    (runSum (mm.step L) f (mm.start L pk)).1 = (runSum (mm.step (wholeLayout L)) f (mm.start (wholeLayout L) pk)).1 ∧
    mm.outcome L (runSum (mm.step L) f (mm.start L pk)).2
      = mm.outcome (wholeLayout L) (runSum (mm.step (wholeLayout L)) f (mm.start (wholeLayout L) pk)).2

/-- **split_invariance — abstract statement** (for any march model; proved for C02's model in section 7,
`split_invariance`, in the corrected form "whenever both runs are over": the undivided run can need MORE
steps than the split run, so "over within the same `f`" as written in `SplitInvariantOn` is too strong).  For the ray-march model of C02 (exact
arithmetic) and every layout with at least one cell per subgrid, chained subgrid marches give the same
per-cell totals, absorption/escape decision and final position as the march over the undivided grid.
(Totals, not deposit lists: after re-entering exactly on a cell wall while moving in the negative direction
the split run makes one extra deposit of length zero.) -/
def SplitInvariance (mm : MarchModel P σ δ M O) : Prop :=
  ∀ L : Layout, 0 < L.mx → 0 < L.my → 0 < L.mz → 0 < L.size → SplitInvariantOn mm L

/-- **split_invariance_partial.**  Split invariance for the layout `L` follows from the single-step
commutation hypothesis `StepCommutes` for a state correspondence `R` that holds initially and determines the
observed outcome.  The hypothesis is what the ray-march model has to discharge: a cell step in a subgrid is
the cell step of the undivided grid under the index embedding (its discrete and exact-arithmetic content at
a hand-over is `handover_cell` and `handover_position`, the wiring facts are `neighbour_geometric` /
`neighbour_mutual`), or deposits nothing. -/
theorem split_invariance_partial (mm : MarchModel P σ δ M O) (L : Layout)
    (R : ChainState σ → ChainState σ → Prop)
    (hstep : StepCommutes (mm.step L) (mm.step (wholeLayout L)) R)
    (hstart : ∀ pk, R (mm.start L pk) (mm.start (wholeLayout L) pk))
    (hout : ∀ a b, R a b → mm.outcome L a = mm.outcome (wholeLayout L) b) :
    SplitInvariantOn mm L := by
  intro pk f hh
  obtain ⟨h1, h2, h3⟩ := sim_totals (mm.step L) (mm.step (wholeLayout L)) R hstep f _ _ (hstart pk) hh
  exact ⟨h3, h1, hout _ _ h2⟩

theorem split_invariance_of_step_commutes (mm : MarchModel P σ δ M O)
    (h : ∀ L : Layout, 0 < L.mx → 0 < L.my → 0 < L.mz → 0 < L.size →
      ∃ R, StepCommutes (mm.step L) (mm.step (wholeLayout L)) R ∧ (∀ pk, R (mm.start L pk) (mm.start (wholeLayout L) pk))
        ∧ (∀ a b, R a b → mm.outcome L a = mm.outcome (wholeLayout L) b)) :
    SplitInvariance mm := by
  intro L hx hy hz hs
  obtain ⟨R, h1, h2, h3⟩ := h L hx hy hz hs
  exact split_invariance_partial mm L R h1 h2 h3

/-- the chained run stops exactly in the states "absorbed" and "escaped" -/
theorem splitStep_none_iff (L : Layout) (localStep : Nat → σ → LocalStep σ δ) (enter : Nat → Nat → σ → σ)
    (val : Nat → δ → M) (x : ChainState σ) :
    splitStep L localStep enter val x = none ↔ ∀ s st, x ≠ .inGrid s st := by
  unfold splitStep
  cases x with
  | inGrid s st =>
    simp only [chainStep, ne_eq, Option.map_eq_none_iff]
    constructor
    · intro h; exfalso
      cases hl : localStep s st with
      | move dep st' => simp [hl] at h
      | absorbed dep st' => simp [hl] at h
      | exit dep d st' => cases hn : ngb L s d <;> simp [hl, hn] at h
    · intro h; exact absurd rfl (h s st)
  | absorbedIn s st => simp [chainStep]
  | escaped s d st => simp [chainStep]
end split

/-- non-vacuity of `split_invariance_partial`: the hypotheses are satisfiable — a toy march that crosses `k`
cells depositing 1 in each and is then absorbed, on a layout of two subgrids, with equality as correspondence -/
example : ∃ (mm : MarchModel Nat Nat Nat Nat Nat) (L : Layout) (R : ChainState Nat → ChainState Nat → Prop),
    StepCommutes (mm.step L) (mm.step (wholeLayout L)) R ∧ (∀ pk, R (mm.start L pk) (mm.start (wholeLayout L) pk))
      ∧ (∀ a b, R a b → mm.outcome L a = mm.outcome (wholeLayout L) b)
      ∧ (runSum (mm.step L) 10 (mm.start L 3)).1 = 4 := by
  let mm : MarchModel Nat Nat Nat Nat Nat :=
    ⟨fun _ _ st => if st = 0 then .absorbed 1 st else .move 1 (st - 1), fun _ _ _ st => st, fun _ _ d => d,
      fun _ pk => .inGrid 0 pk, fun _ _ => 0⟩
  -- the toy march never leaves a subgrid, so its step does not depend on the layout
  have hfun : ∀ (L L' : Layout) (x : ChainState Nat), mm.step L x = mm.step L' x := by
    intro L L' x
    cases x with
    | inGrid s st => simp only [MarchModel.step, splitStep, chainStep, mm]; by_cases h : st = 0 <;> simp [h]
    | absorbedIn s st => rfl
    | escaped s d st => rfl
  refine ⟨mm, ⟨2, 1, 1, 1, 1, 1, false, false, false⟩, Eq, ⟨?_, ?_⟩, fun _ => rfl, fun _ _ _ => rfl, by decide⟩
  · intro a b hR ha; subst hR
    exact (hfun _ _ a).symm.trans ha
  · intro a b m a' hR ha; subst hR
    exact Or.inl ⟨a', (hfun _ _ a).symm.trans ha, rfl⟩


/-! ## 7. split invariance for C02's ray march (full theorem) -/

section full
set_option linter.unusedSectionVars false
open CMacVerif.RayMarch CMacVerif.Split
variable {K : Type} [Field K] [LinearOrder K] [IsStrictOrderedRing K]

/-- the `MarchModel` of section 6 filled in with C02's model of `DensitySubGrid::interact`
(`Model/RayMarch.lean`): one loop pass `step` in the block of subgrid `s`, re-entry `initSt`, deposits = the
path length at the global cell, start = `get_subgrid(position)` + `initSt … INSIDE` -/
def rayModel (g : Geom K) (field : Int × Int × Int → Cell K) :
    MarchModel (Photon K) (Photon K × St K) (Visit K) (Int × Int × Int → K) Unit where
  localStep := localStep g field
  enter := enterStep g
  val := valOf
  start := fun L pk => startOf g L pk
  outcome := fun _ _ => ()

theorem rayModel_step (g : Geom K) (field : Int × Int × Int → Cell K) (L : Layout) :
    (rayModel g field).step L = aStep g field L := rfl

theorem wholeLayout_eq (L : Layout) : wholeLayout L = whole L := rfl

/-- the cell step of the chained run in subgrid `s` IS C02's `step` on the block `create_subgrid` builds
(cell size `h`, anchor = box anchor + offset of the subgrid), which in exact arithmetic is C02's `mkBlock`
of that anchor with side `m·h` -/
theorem blockOf_is_mkBlock (g : Geom K) (L : Layout) (s : Nat) (hm : ∀ a, 0 < (mV L).get a) (a : Ax) :
    (blockOf g L s).cs.get a
        = (mkBlock (blockOf g L s).anchor (V3.of fun a => ((mV L).get a : K) * g.h.get a) (mV L)).cs.get a
    ∧ (blockOf g L s).inv.get a
        = (mkBlock (blockOf g L s).anchor (V3.of fun a => ((mV L).get a : K) * g.h.get a) (mV L)).inv.get a := by
  have hmK : ((mV L).get a : K) ≠ 0 := by exact_mod_cast (hm a).ne'
  simp only [blockOf, mkBlock, V3.get_of, ofNat_eq]
  constructor
  · field_simp
  · by_cases hh : g.h.get a = 0
    · simp [hh]
    · field_simp

/-- **split_invariance (full theorem).**  Exact arithmetic over any linearly ordered field.  For every
layout `L` (any number of subgrids and cells per subgrid, any periodicity), any cell contents with
non-negative opacity, every packet that starts inside the box with a non-zero direction (`Ok`: C02's
standing assumptions incl. the `DBL_MAX` sentinel condition; `StartInside`): whenever the chained run
through the subgrids of `L` — C02's loop pass `step` and entry code `initSt` in every subgrid, C03's
hand-over through `get_neighbour` / `output_to_input_direction` — and the run through the same grid as ONE
block are both over, they have deposited the same total path length in every cell of the grid and ended
the same way (both absorbed or both escaped, same remaining optical depth, same point — up to whole box
lengths on periodic axes).  This includes the zero-length extra deposits the split run makes after an index
was recomputed on a cell wall (`Split.step_stutter`); the single-step commutation hypothesis of
`split_invariance_partial` is discharged by `Split.step_commutes`. -/
theorem split_invariance (g : Geom K) (L : Layout) (field : Int × Int × Int → Cell K) (pk : Photon K)
    (hok : Ok g L field pk) (hn : ∀ a, 0 < (nV L).get a) (hs : StartInside g L pk) (f f' : Nat)
    (hA : Halts ((rayModel g field).step L) f ((rayModel g field).start L pk))
    (hB : Halts ((rayModel g field).step (wholeLayout L)) f' ((rayModel g field).start (wholeLayout L) pk)) :
    (runSum ((rayModel g field).step L) f ((rayModel g field).start L pk)).1
        = (runSum ((rayModel g field).step (wholeLayout L)) f' ((rayModel g field).start (wholeLayout L) pk)).1
    ∧ FinalAgree (envOf g L field pk) (runSum ((rayModel g field).step L) f ((rayModel g field).start L pk)).2
        (runSum ((rayModel g field).step (wholeLayout L)) f' ((rayModel g field).start (wholeLayout L) pk)).2 :=
  Split.split_invariance hok hn hs f f' hA hB

/-- **split_invariance with termination transfer.**  Same assumptions.  If the chained run through the
subgrids of `L` is over within `f` steps, then the run through the same grid as one block is over as well —
after some `f'` steps, in general a different number: the undivided run can need more steps, e.g. one
zero-length pass after its own periodic wrap where the split run pinned the coordinate — and both have the
same per-cell totals and the same end.  (Uses that the chained run makes at most two zero-length passes in
a row: `Split.rank`, `Split.step_stutter`.) -/
theorem split_invariance_halts (g : Geom K) (L : Layout) (field : Int × Int × Int → Cell K) (pk : Photon K)
    (hok : Ok g L field pk) (hn : ∀ a, 0 < (nV L).get a) (hs : StartInside g L pk) (f : Nat)
    (hA : Halts ((rayModel g field).step L) f ((rayModel g field).start L pk)) :
    ∃ f', Halts ((rayModel g field).step (wholeLayout L)) f' ((rayModel g field).start (wholeLayout L) pk)
      ∧ (runSum ((rayModel g field).step L) f ((rayModel g field).start L pk)).1
          = (runSum ((rayModel g field).step (wholeLayout L)) f' ((rayModel g field).start (wholeLayout L) pk)).1
      ∧ FinalAgree (envOf g L field pk) (runSum ((rayModel g field).step L) f ((rayModel g field).start L pk)).2
          (runSum ((rayModel g field).step (wholeLayout L)) f' ((rayModel g field).start (wholeLayout L) pk)).2 :=
  Split.split_invariance_halts hok (ok_whole hok hn) (NV_whole L) rfl hs f hA

/-- **split_invariance_copies.**  The duplicate clause of the property for the march itself.  Assumptions of
`split_invariance`; any assignment of copy levels (`create_copies`, or `update_copies` on any previous
`_copies`), every copy holding the cell contents of its original (`push_cells`), the packet starting in ANY
member `k0 < 2^level` of the family of its start subgrid.  The chained run follows the neighbour tables of
`create_copies` through originals and copies (`Split.aStepC`; by `copies_wiring` every step stays in the family
of the geometric neighbour) and deposits in whatever copy it is; the totals count each deposit for the cell of
the ORIGINAL, which is what the counters hold after `update_original_counters` (`fold_cells`).  If that run is
over, the run through the same grid as one block is over as well, with the same per-cell totals and the same
end.  (Proof: relabelling copies by their originals maps the run, step by step and deposit by deposit, onto the
run through the originals alone — `Split.copies_square`.) -/
theorem split_invariance_copies (g : Geom K) (L : Layout) (field : Int × Int × Int → Cell K) (pk : Photon K)
    (hok : Ok g L field pk) (hn : ∀ a, 0 < (nV L).get a) (hs : StartInside g L pk)
    (prev levels : List Nat) (hlen : levels.length = L.size) (k0 : Nat)
    (hk0 : k0 < 2 ^ levels.getD (subgridOf g L pk.pos) 0) (f : Nat)
    (hA : Halts (aStepC g field L (createCopies L prev levels)) f (startOfC g L (createCopies L prev levels) pk k0)) :
    ∃ f', Halts ((rayModel g field).step (wholeLayout L)) f' ((rayModel g field).start (wholeLayout L) pk)
      ∧ (runSum (aStepC g field L (createCopies L prev levels)) f (startOfC g L (createCopies L prev levels) pk k0)).1
          = (runSum ((rayModel g field).step (wholeLayout L)) f' ((rayModel g field).start (wholeLayout L) pk)).1
      ∧ FinalAgree (envOf g L field pk)
          (proj (createCopies L prev levels)
            (runSum (aStepC g field L (createCopies L prev levels)) f (startOfC g L (createCopies L prev levels) pk k0)).2)
          (runSum ((rayModel g field).step (wholeLayout L)) f' ((rayModel g field).start (wholeLayout L) pk)).2 :=
  Split.split_invariance_copies hok (ok_whole hok hn) (NV_whole L) rfl hs prev levels hlen k0 hk0 f hA

/-- the commutation hypothesis of `split_invariance_partial`, discharged for C02's march against the
reference run on the unfolded lattice (one-sided: every pass of the chained run is a pass of the reference
run with the same deposit, or deposits nothing) -/
theorem step_commutes_rayModel (g : Geom K) (L : Layout) (field : Int × Int × Int → Cell K) (pk : Photon K)
    (hok : Ok g L field pk) :
    StepCommutes ((rayModel g field).step L) (cstep (envOf g L field pk)) (Split.R g (envOf g L field pk) L) :=
  Split.step_commutes hok

/-- every estimator a visit adds to a cell is a fixed multiple of its path length (C02, `visit`), so equal
path totals per cell give equal mean-intensity and heating totals per cell -/
theorem estimators_are_path_multiples (ph : Photon K) (i : V3 Int) (ac : Int) (dist : K) :
    (visit ph i ac dist).jH = dist * ph.sigH * ph.w ∧ (visit ph i ac dist).jHe = dist * ph.sigHe * ph.w
      ∧ (visit ph i ac dist).jX = dist * ph.sigX * ph.w
      ∧ (visit ph i ac dist).hH = dist * ph.sigH * ph.w * (ph.nu - 3.288e15)
      ∧ (visit ph i ac dist).hHe = dist * ph.sigHe * ph.w * (ph.nu - 5.948e15) := ⟨rfl, rfl, rfl, rfl, rfl⟩

end full

/-! non-vacuity of `split_invariance`: two one-cell subgrids against one two-cell block over ℚ; the
hypotheses hold, both runs are over after 3 resp. 2 steps, escaped, with path 1/2 and 1 in the two cells -/
section example_full
open CMacVerif.RayMarch CMacVerif.Split

def exL : Layout := ⟨2, 1, 1, 1, 1, 1, false, false, false⟩
def exG : Geom ℚ := ⟨⟨0, 0, 0⟩, ⟨1, 1, 1⟩⟩
def exF : Int × Int × Int → Cell ℚ := fun _ => ⟨1, 1, 0⟩
def exPk : Photon ℚ :=
  { pos := ⟨1 / 2, 1 / 2, 1 / 2⟩, dir := ⟨1, 0, 0⟩, tau := 10, sigH := 1, sigHe := 0, sigX := 0, w := 1, nu := 4 }

example : Ok exG exL exF exPk ∧ StartInside exG exL exPk := by
  refine ⟨⟨?_, ?_, ⟨.x, by decide +kernel⟩, ?_, ?_, by decide +kernel⟩, ⟨?_, ?_, ?_⟩⟩
  · intro a; cases a <;> decide +kernel
  · intro a; cases a <;> decide +kernel
  · intro a ha
    cases a
    · show (1 : ℚ) < dblMax * |(1 : ℚ)|
      unfold dblMax; norm_num
    · exact absurd rfl ha
    · exact absurd rfl ha
  · intro k; unfold kappa exF; norm_num [exPk]
  · intro a; cases a <;> decide +kernel
  · intro a; cases a <;> decide +kernel
  · intro a; cases a <;> decide +kernel

set_option maxRecDepth 100000 in
example :
    (aStep exG exF exL (runSum (aStep exG exF exL) 3 (startOf exG exL exPk)).2).isNone = true
    ∧ (aStep exG exF (whole exL) (runSum (aStep exG exF (whole exL)) 2 (startOf exG (whole exL) exPk)).2).isNone = true
    ∧ (runSum (aStep exG exF exL) 3 (startOf exG exL exPk)).1 (0, 0, 0) = 1 / 2
    ∧ (runSum (aStep exG exF exL) 3 (startOf exG exL exPk)).1 (1, 0, 0) = 1
    ∧ (runSum (aStep exG exF (whole exL)) 2 (startOf exG (whole exL) exPk)).1 (0, 0, 0) = 1 / 2
    ∧ (runSum (aStep exG exF (whole exL)) 2 (startOf exG (whole exL) exPk)).1 (1, 0, 0) = 1 := by
  decide +kernel

/-- non-vacuity of `split_invariance_copies`: the same grid with subgrid 0 duplicated once and subgrid 1 three
times, the packet starts in the copy of subgrid 0 and continues in a copy of subgrid 1 -/
example :
    let C := createCopies exL (List.replicate 2 noCopy) [1, 2]
    (aStepC exG exF exL C (runSum (aStepC exG exF exL C) 3 (startOfC exG exL C exPk 1)).2).isNone = true
    ∧ (runSum (aStepC exG exF exL C) 3 (startOfC exG exL C exPk 1)).1 (0, 0, 0) = 1 / 2
    ∧ (runSum (aStepC exG exF exL C) 3 (startOfC exG exL C exPk 1)).1 (1, 0, 0) = 1
    ∧ (match (runSum (aStepC exG exF exL C) 1 (startOfC exG exL C exPk 1)).2 with
        | .inGrid i _ => i
        | _ => 99) = 3 := by
  decide +kernel

end example_full

end CMacVerif.C03
