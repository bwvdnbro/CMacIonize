import CMacVerif.Lemmas.YamlText
import CMacVerif.Lemmas.Units
import CMacVerif.Lemmas.Snapshot
import CMacVerif.Lemmas.SnapshotFields
/-!
# C20 — parameter files and units round-trip

Models: `CMacVerif/Model/Yaml.lean` (lexer, parser, printer of `YAMLDictionary`),
`CMacVerif/Model/Units.lean` + generated `CMacVerif/Gen/Units.lean` (`Unit`, `UnitConverter`).

The HDF5 snapshot clause is covered at the level of INDEX MAPS (`CMacVerif/Model/Snapshot.lean`:
which file position every cell is written to, which position every reader fetches); HDF5 itself,
the floating point position → index computations and the stored doubles are not modelled.
-/

namespace CMacVerif.Yaml

/-! ## YAML dictionary: parse ∘ print = id -/

/-- **Main theorem.**  For EVERY dictionary (any number of keys, any nesting depth, any nesting
jumps; `Sorted` = it is the content of a `std::map`, keys strictly increasing in `std::string`
order) whose values are non-empty, parsing what `print_contents` prints gives the dictionary back.
Keys are arbitrary strings: they are cut at every ':' by the printer and glued again by the
parser (`joinKey_splitKey`), so at the level of tokens no restriction on the names is needed; the
restriction "no '#', no leading/trailing blank" belongs to the text level (`parseText_printText`). -/
theorem parse_print (d : Dict) (hs : Sorted d) (hv : ∀ kv ∈ d, kv.2 ≠ []) :
    parse (print d) = some d :=
  (print_rendering d hs).parse_eq hs hv

/-- a dictionary with nesting jumps of three levels in both directions, a name that is both a key
and a group, names on both sides of ':' -/
def exampleDict : Dict :=
  [("a".toList, "1".toList), ("a0".toList, "x".toList), ("a:b:c:k".toList, "2 m".toList),
   ("a:x:y:z:k".toList, "[1, 2, 3]".toList), ("a:x:y:z:l".toList, "true".toList),
   ("a;".toList, "y".toList), ("k".toList, "3".toList)]

/-- non-vacuity: the hypotheses of `parse_print` hold for `exampleDict` -/
example : Sorted exampleDict ∧ (∀ kv ∈ exampleDict, kv.2 ≠ []) := by
  refine ⟨by unfold Sorted; decide +kernel, by decide +kernel⟩

/-- the printer's stack really keeps stale entries after a jump (DESIGN §8: examined, harmless):
stack `[a,b,c]`, next key `a:x:y:z:k` → the shrinking loop pops once, stack `[a,b,x,y,z]` -/
example : (printEntry [['a'], ['b'], ['c']] ['a',':','x',':','y',':','z',':','k'] ['v']).1 =
    [['a'], ['b'], ['x'], ['y'], ['z']] := by
  decide +kernel

/-- **Print ∘ parse is idempotent on every file the parser accepts**: whatever token sequence
`ls` was read (any indentation widths, re-opened groups, duplicate keys …), printing the resulting
dictionary and parsing that again yields the same keys and values. -/
theorem print_parse_print (ls : List Line) (d : Dict) (h : parse ls = some d) :
    parse (print d) = some d :=
  let hw := parse_wellFormed ls d h
  parse_print d hw.1 hw.2

/-- and therefore the printed text is a fixed point: print (parse (print d)) = print d -/
theorem print_idempotent (ls : List Line) (d : Dict) (h : parse ls = some d) :
    (parse (print d)).map print = some (print d) := by
  rw [print_parse_print ls d h]; rfl

/-- the used-values dump (`print_contents(stream, true)`) at token level: parsing it gives every
key with the text printed for it -/
theorem parse_printUsed (used d : Dict) (hs : Sorted d) :
    parse (printUsed used d) = some (d.map fun kv => (kv.1, usedText used kv.1 kv.2)) :=
  parse_print _ (hs.map_values (usedText used)) <| List.forall_mem_map.2 fun _ _ =>
    List.append_ne_nil_of_right_ne_nil _ (List.cons_ne_nil _ _)

/-! ### the same at the level of text lines -/

/-- **Round trip through the text**: for every dictionary whose key components contain no '#'
and neither begin nor end with a blank (a component never contains ':', it is cut at ':'), and
whose values are non-empty, without '#', without blank at either end: lexing and parsing the
printed lines (`indent name: value`) gives the dictionary back. -/
theorem parseText_printText (d : Dict) (hs : Sorted d) (hk : CleanKeys d)
    (hv : ∀ kv ∈ d, kv.2 ≠ [] ∧ Clean kv.2) :
    parseText (printText d) = some d := by
  have hl : ∀ kv ∈ d, lexVal kv.2 = kv.2 :=
    fun kv hkv => lexVal_clean kv.2 (hv kv hkv).1 (hv kv hkv).2
  rw [printText, (print_rendering d hs).parseText_eq hs hk fun kv hkv => by
    rw [hl kv hkv]; exact (hv kv hkv).1]
  exact congrArg some ((List.map_congr_left fun kv hkv => by rw [hl kv hkv]; rfl).trans (List.map_id d))

/-- non-vacuity of the text-level hypotheses -/
example : CleanKeys [(['a',':','b',' ','c',':','k'], ['1',' ','m'])] ∧
    Clean ['1',' ','m'] := by
  unfold CleanKeys
  decide +kernel

/-- **The used-values dump fed back** (`print_contents(stream, true)` → constructor): every key
of the dictionary comes back with the value that was actually used — the text before ` # (…)` —
or with "value not used"; the original value in the trailing comment is dropped.  Hypotheses:
clean key components, used values non-empty, without '#', without blank at either end. -/
theorem parseText_printUsedText (used d : Dict) (hs : Sorted d) (hk : CleanKeys d)
    (hu : ∀ kv ∈ d, usedValue used kv.1 ≠ [] ∧ Clean (usedValue used kv.1)) :
    parseText (printUsedText used d) = some (d.map fun kv => (kv.1, usedValue used kv.1)) := by
  have hl : ∀ kv ∈ d, lexVal (usedText used kv.1 kv.2) = usedValue used kv.1 :=
    fun kv hkv => lexVal_used _ _ (hu kv hkv).1 (hu kv hkv).2
  show parseText ((print (d.map fun kv => (kv.1, usedText used kv.1 kv.2))).map renderLine) = _
  rw [(print_rendering _ (hs.map_values (usedText used))).parseText_eq (hs.map_values _)
    (hk.map_values _) (List.forall_mem_map.2 fun x hx => by rw [hl x hx]; exact (hu x hx).1), List.map_map]
  exact congrArg some (List.map_congr_left fun kv hkv => congrArg (Prod.mk kv.1) (hl kv hkv))

end CMacVerif.Yaml

namespace CMacVerif.Snapshot

/-! ## HDF5 snapshot: index maps of writer and readers -/

/-- **Writer layout**, for EVERY block size `B > 0`, every number and shape of subgrids: cell `ci`
of subgrid `g` is stored at file position `g * N + ci` (N = cells per subgrid) — whatever the
number of blocks a subgrid is streamed in, complete or partial — and nothing is stored beyond
`G * N`.  (One dataset; the writer uses the same offsets for every dataset, which the
correspondence checks on the real file, dataset by dataset.) -/
theorem snapshot_layout {α : Type} (B : Nat) (hB : 0 < B) (L : Layout) (field : Nat × Nat × Nat → α) :
    (∀ g ci, g < L.G → ci < L.N → snapshot B L field (g * L.N + ci) = some (field (globalCell L g ci))) ∧
    (∀ k, L.G * L.N ≤ k → snapshot B L field k = none) := by
  refine ⟨fun g ci hg hci => ?_, fun k hk => ?_⟩
  · rw [snapshot_eq B hB, if_pos (MixedRadix.lt_mul_add hg hci), MixedRadix.mul_add_div hci,
      Nat.mul_add_mod_of_lt hci]
  · rw [snapshot_eq B hB, if_neg (Nat.not_lt.2 hk)]

/-- **Buffered reader ∘ writer = id**: for every block size, every subgrid layout (cell counts per
subgrid may differ in x, y, z) and every cell of the grid, `BufferedCMacIonizeSnapshotDensityFunction`
on the same geometry fetches exactly the value the writer stored for that cell. -/
theorem buffered_roundtrip {α : Type} (B : Nat) (hB : 0 < B) (L : Layout) (hL : L.ok)
    (field : Nat × Nat × Nat → α) (c : Nat × Nat × Nat) (hc : L.inGrid c) :
    bufferedRead L (snapshot B L field) c = some (field c) := by
  rw [bufferedRead_eq L hL, snapshot_cell B hB L hL field c hc]

/-- **Plain reader ∘ writer = id**: `CMacIonizeSnapshotDensityFunction` bins every file position by
the coordinates stored at that position; when coordinates and values went through the same writer
(any block size, any layout) every cell of the grid gets its own value back. -/
theorem plain_roundtrip {α : Type} (B : Nat) (hB : 0 < B) (L : Layout) (hL : L.ok)
    (field : Nat × Nat × Nat → α) (c : Nat × Nat × Nat) (hc : L.inGrid c) :
    plainRead L.nx L.ny L.nz (L.G * L.N) (snapshot B L id) (snapshot B L field) c = some (field c) := by
  obtain ⟨hsg, hci, -⟩ := cell_decomp L hL c hc
  rw [plainRead_eq (F := fun j => some (field (three L.ny L.nz j))) (hc := hc)
    (hp := MixedRadix.lt_mul_add hsg hci) (hcp := snapshot_cell B hB L hL id c hc),
    snapshot_cell B hB L hL field c hc]
  intro i hi
  obtain ⟨c', hc', e1, e2⟩ := snapshot_coords B hB L field hi
  rw [e2, plainKey, e1]
  simp only [one]
  rw [three_oneIndex hc'.2.1 hc'.2.2]

/-- the legacy writer `write(DensityGrid&, …)` streams the whole Cartesian grid with the same block
loop (`block_offset = 0`, cell numbering `ix*ny*nz + iy*nz + iz`): it is the layout with a single
subgrid, so both theorems apply to it -/
theorem legacy_roundtrip {α : Type} (B : Nat) (hB : 0 < B) (nx ny nz : Nat) (h : 0 < nx ∧ 0 < ny ∧ 0 < nz)
    (field : Nat × Nat × Nat → α) (c : Nat × Nat × Nat) (hc : c.1 < nx ∧ c.2.1 < ny ∧ c.2.2 < nz) :
    plainRead nx ny nz (nx * ny * nz) (snapshot B ⟨1, 1, 1, nx, ny, nz⟩ id)
      (snapshot B ⟨1, 1, 1, nx, ny, nz⟩ field) c = some (field c) := by
  have := plain_roundtrip B hB ⟨1, 1, 1, nx, ny, nz⟩ h field c
    (by simpa [Layout.inGrid, Layout.nx, Layout.ny, Layout.nz] using hc)
  simpa [Layout.nx, Layout.ny, Layout.nz, Layout.G, Layout.N] using this

/-- the file does not depend on the block size -/
theorem snapshot_blocksize_irrelevant {α : Type} (B B' : Nat) (hB : 0 < B) (hB' : 0 < B') (L : Layout)
    (hL : L.ok) (field : Nat × Nat × Nat → α) : snapshot B L field = snapshot B' L field := by
  funext k
  rw [snapshot_eq B hB, snapshot_eq B' hB']

/-- non-vacuity and a concrete instance: 2 x 1 x 2 subgrids of 1 x 3 x 2 cells, blocks of 4 cells
(every subgrid is written in one full and one partial block) -/
example : Layout.ok ⟨2, 1, 2, 1, 3, 2⟩ ∧ Layout.inGrid ⟨2, 1, 2, 1, 3, 2⟩ (1, 2, 3) ∧
    bufferedRead ⟨2, 1, 2, 1, 3, 2⟩ (snapshot 4 ⟨2, 1, 2, 1, 3, 2⟩ id) (1, 2, 3) = some (1, 2, 3) :=
  ⟨by decide, by decide,
   buffered_roundtrip 4 (by decide) ⟨2, 1, 2, 1, 3, 2⟩ (by decide) id (1, 2, 3) (by decide)⟩

/-- **Readers' fallbacks, buffered reader: decode ∘ encode = id** in exact arithmetic, for EVERY
combination of stored quantities the reader accepts (number density and/or mass density,
temperature and/or pressure, with or without neutral fractions): the cell state (n, T, x_H) written
through `Hydro::ionization_to_hydro` and the selected datasets is what
`BufferedCMacIonizeSnapshotDensityFunction` reconstructs.  Hypotheses: m_p, k, n non-zero,
1 + x_H ≠ 0, and when the neutral fractions are not stored the cell has the reader's default
x_H = 1e-6 (otherwise the mean molecular weight is not recoverable). -/
theorem decodeBuffered_encode (mp k : ℚ) (hmp : mp ≠ 0) (hk : k ≠ 0) (c : Combo) (s : CellState ℚ)
    (hn : s.n ≠ 0) (hx : 1 + s.xH ≠ 0)
    (hd : c.numberDensity = true ∨ c.density = true) (ht : c.temperature = true ∨ c.pressure = true)
    (hf : c.fractions = true ∨ s.xH = 1 / 1000000) :
    decodeBuffered mp k (encode mp (k / mp) c s) = some s := by
  have hxH : (if c.fractions then some s.xH else none).getD 1.0e-6 = s.xH := by
    cases hc : c.fractions
    · rw [hc] at hf
      rw [if_neg Bool.false_ne_true, Option.getD_none, hf.resolve_left Bool.false_ne_true]
      norm_num
    · rfl
  -- the pressure of `ionization_to_hydro` times the reader's `μ / (n k)`
  have hT : k / mp * (mp * s.n) * s.T / (0.5 * (1.0 + s.xH)) * (0.5 * (1.0 + s.xH) / (s.n * k)) =
      s.T := by
    have hμ : 0.5 * (1.0 + s.xH) ≠ 0 := by rw [Units.lit_one]; exact mul_ne_zero (by norm_num) hx
    rw [← mul_assoc (k / mp), div_mul_cancel₀ k hmp, div_mul_div_cancel₀ hμ, mul_comm k s.n,
      mul_div_cancel_left₀ _ (mul_ne_zero hn hk)]
  rw [decodeBuffered_eq]
  simp only [encode]
  rw [hxH, fallback_some hd (f := (· / mp)) (mul_div_cancel_left₀ _ hmp), Option.bind_some,
    fallback_some ht (f := (· * (0.5 * (1.0 + s.xH) / (s.n * k)))) hT]
  rfl

/-- **the same for `CMacIonizeSnapshotDensityFunction`** with its two flags (`use_density` needs the
mass density to be stored, `use_pressure` the pressure) -/
theorem decodePlain_encode (mp k : ℚ) (hmp : mp ≠ 0) (hk : k ≠ 0) (c : Combo) (s : CellState ℚ)
    (useDensity usePressure : Bool)
    (hn : s.n ≠ 0) (hx : 1 + s.xH ≠ 0)
    (hd : if useDensity then c.density = true else (c.numberDensity = true ∨ c.density = true))
    (ht : if usePressure then c.pressure = true else (c.temperature = true ∨ c.pressure = true))
    (hf : c.fractions = true ∨ s.xH = 1 / 1000000) :
    decodePlain mp k useDensity usePressure (encode mp (k / mp) c s) = some s := by
  rw [decodePlain_encode_eq]
  refine decodeBuffered_encode mp k hmp hk _ s hn hx ?_ ?_ hf
  · cases useDensity
    · exact hd
    · exact Or.inr hd
  · cases usePressure
    · exact ht
    · exact Or.inr ht

/-- non-vacuity: only mass density and pressure stored (the combination where the order of the two
fallback statements matters), a cell with n = 10⁶, T = 8000, x_H = 1/4 -/
example : decodeBuffered (α := ℚ) (1 / 10 ^ 27) (1 / 10 ^ 23)
    (encode (1 / 10 ^ 27) ((1 / 10 ^ 23) / (1 / 10 ^ 27)) ⟨false, true, false, true, true⟩ ⟨10 ^ 6, 8000, 1 / 4⟩) =
    some ⟨10 ^ 6, 8000, 1 / 4⟩ :=
  decodeBuffered_encode _ _ (by norm_num) (by norm_num) _ _ (by norm_num) (by norm_num)
    (by decide) (by decide) (by decide)

end CMacVerif.Snapshot

namespace CMacVerif.Units
open CMacVerif.Gen.Units

/-! ## Units -/

/-- value of a table entry as exact rational of the double -/
def uval (name : Str) : ℚ := ((getSingleUnit name : Option (Unit ℚ)).map (·.value)).getD 0

/-- value of a table entry as printed (shortest decimal that round-trips) -/
def udec (name : Str) : ℚ :=
  ((lookup name table).map (fun e => (e.val.decMant : ℚ) * (10 : ℚ) ^ e.val.decExp)).getD 0

/-- **The built-in table agrees with itself — relations that hold EXACTLY** (on the doubles as
stored): 1 kpc = 1000 pc, 1 Myr = 10⁶ yr, 1 Gyr = 10³ Myr, 1 km = 1000 m, 1 bar = 10⁵ Pa,
1 h = 3600 s, and `eV` is the electron-volt constant used by `try_conversion`. -/
theorem units_table_consistent :
    uval ['k','p','c'] = 1000 * uval ['p','c'] ∧
    uval ['M','y','r'] = 10 ^ 6 * uval ['y','r'] ∧
    uval ['G','y','r'] = 10 ^ 3 * uval ['M','y','r'] ∧
    uval ['k','m'] = 1000 * uval ['m'] ∧
    uval ['b','a','r'] = 10 ^ 5 * uval ['P','a'] ∧
    uval ['h'] = 3600 * uval ['s'] ∧
    uval ['e','V'] = (OfDbl.ofDbl electronvolt : ℚ) := by
  decide +kernel

/-- dimension exponents of a table entry -/
def udims (name : Str) : Option (Int × Int × Int × Int × Int × Int) :=
  (lookup name table).map fun e => (e.length, e.time, e.mass, e.temperature, e.current, e.angle)

/-- the units related above (and below) measure the same quantity -/
theorem units_table_same_dimensions :
    udims ['k','p','c'] = udims ['p','c'] ∧ udims ['k','m'] = udims ['m'] ∧ udims ['c','m'] = udims ['m'] ∧
    udims ['a','n','g','s','t','r','o','m'] = udims ['m'] ∧ udims ['a','u'] = udims ['m'] ∧
    udims ['M','y','r'] = udims ['y','r'] ∧ udims ['G','y','r'] = udims ['y','r'] ∧
    udims ['h'] = udims ['s'] ∧ udims ['y','r'] = udims ['s'] ∧
    udims ['g'] = udims ['k','g'] ∧ udims ['M','s','o','l'] = udims ['k','g'] ∧
    udims ['b','a','r'] = udims ['P','a'] ∧ udims ['e','r','g'] = udims ['J'] ∧ udims ['e','V'] = udims ['J'] ∧
    udims ['d','e','g','r','e','e','s'] = udims ['r','a','d','i','a','n','s'] ∧
    udims ['m'] = some (1, 0, 0, 0, 0, 0) ∧ udims ['s'] = some (0, 1, 0, 0, 0, 0) ∧
    udims ['k','g'] = some (0, 0, 1, 0, 0, 0) ∧ udims ['K'] = some (0, 0, 0, 1, 0, 0) ∧
    udims ['r','a','d','i','a','n','s'] = some (0, 0, 0, 0, 0, 1) := by
  -- for the whole conjunction the search for the `Decidable` instance gives up; per conjunct not
  repeat' apply And.intro
  all_goals decide +kernel

/-- **Relations that hold to the printed precision only** (0.01, 0.001, 1e-7, 1e-10 are not
doubles): on the shortest round-trip decimals 100 cm = 1 m, 1000 g = 1 kg, 10⁷ erg = 1 J,
10¹⁰ angstrom = 1 m; on the doubles themselves they hold to 2⁻⁵² relative. -/
theorem units_table_consistent_decimal :
    100 * udec ['c','m'] = udec ['m'] ∧ 1000 * udec ['g'] = udec ['k','g'] ∧
    10 ^ 7 * udec ['e','r','g'] = udec ['J'] ∧
    10 ^ 10 * udec ['a','n','g','s','t','r','o','m'] = udec ['m'] ∧
    |100 * uval ['c','m'] - uval ['m']| ≤ 1 / 2 ^ 52 ∧
    |1000 * uval ['g'] - uval ['k','g']| ≤ 1 / 2 ^ 52 ∧
    |10 ^ 7 * uval ['e','r','g'] - uval ['J']| ≤ 1 / 2 ^ 52 ∧
    |10 ^ 10 * uval ['a','n','g','s','t','r','o','m'] - uval ['m']| ≤ 1 / 2 ^ 52 := by
  decide +kernel

/-- the derived units have the dimensions of their definitions and value 1 in SI:
J = kg m² s⁻², Pa = kg m⁻¹ s⁻², Hz = s⁻¹ -/
theorem units_table_dimensions :
    (getUnit ['J'] : Option (Unit ℚ)) = getUnit ['k','g',' ','m','^','2',' ','s','^','-','2'] ∧
    (getUnit ['P','a'] : Option (Unit ℚ)) = getUnit ['k','g',' ','m','^','-','1',' ','s','^','-','2'] ∧
    (getUnit ['H','z'] : Option (Unit ℚ)) = getUnit ['s','^','-','1'] := by
  decide +kernel

/-- **The SI unit of every quantity has conversion factor 1** (`get_SI_unit` evaluated on
every name returned by `get_SI_unit_name`), so `to_SI` really returns SI values. -/
theorem si_units_are_one (q : ℕ) (hq : q < siNames.length) :
    ∃ u : Unit ℚ, getSIUnit q = some u ∧ u.value = 1 := by
  have h : ∀ q < siNames.length, (getSIUnit q : Option (Unit ℚ)).map (·.value) = some 1 := by
    decide +kernel
  exact Option.map_eq_some_iff.1 (h q hq)

/-- **`operator^=`** for every unit and EVERY integer exponent (positive, negative, zero): the
value is the integer power, every dimension exponent is multiplied by the exponent.
(Until /repo commit 6c2926b the case `p = 0` kept the value of `x` instead of giving 1 — found by
this check, oracle `units-pow-zero`; the model follows the fixed code.) -/
theorem pow_spec (u : Unit ℚ) (p : ℤ) :
    (u.pow p).value = u.value ^ p ∧ (u.pow p).length = u.length * p ∧ (u.pow p).time = u.time * p ∧
    (u.pow p).mass = u.mass * p ∧ (u.pow p).temperature = u.temperature * p ∧
    (u.pow p).current = u.current * p ∧ (u.pow p).angle = u.angle * p :=
  ⟨Unit.powValue_zpow u.value p, rfl, rfl, rfl, rfl, rfl, rfl⟩

/-- in particular `x^0` is the dimensionless unit 1, e.g. `get_unit("kpc^0")` -/
theorem pow_zero_is_one :
    (∀ u : Unit ℚ, u.pow 0 = ⟨1, 0, 0, 0, 0, 0, 0⟩) ∧
    (getUnit ['k','p','c','^','0'] : Option (Unit ℚ)) = some ⟨1, 0, 0, 0, 0, 0, 0⟩ := by
  refine ⟨fun u => ?_, by decide +kernel⟩
  simp only [Unit.pow, Unit.powValue_zero, Int.mul_zero]

/-- **A compound unit is the product of its parts** (grammar of `get_unit` on tokens, exact
arithmetic): the unit of `ts1 ++ ts2` is the `*=` product of the units of `ts1` and of `ts2`. -/
theorem compound_is_product (ts1 ts2 : List Tok) (u1 u2 : Unit ℚ)
    (h1 : getUnitToks ts1 = some u1) (h2 : getUnitToks ts2 = some u2) :
    getUnitToks (ts1 ++ ts2) = some (u1.mul u2) := by
  rw [getUnitToks_append (fun e => by rw [e] at h1; cases h1) (fun e => by rw [e] at h2; cases h2),
    h1, h2]
  rfl

/-- value and dimensions of the product, spelled out -/
theorem compound_value (ts1 ts2 : List Tok) (u1 u2 : Unit ℚ)
    (h1 : getUnitToks ts1 = some u1) (h2 : getUnitToks ts2 = some u2) :
    ∃ u, getUnitToks (ts1 ++ ts2) = some u ∧ u.value = u1.value * u2.value ∧
      u.length = u1.length + u2.length ∧ u.time = u1.time + u2.time ∧ u.mass = u1.mass + u2.mass :=
  ⟨_, compound_is_product ts1 ts2 u1 u2 h1 h2, rfl, rfl, rfl, rfl⟩

/-- non-vacuity of `compound_is_product`: "g" and "cm^-3" -/
example : (getUnitToks (α := ℚ) [⟨['g'], none⟩]).isSome = true ∧
    (getUnitToks (α := ℚ) [⟨['c','m'], some (-3)⟩]).isSome = true := by
  decide +kernel

/-- **`to_SI` then `to_unit` is the identity** in exact arithmetic, for every quantity and every
unit string of the same dimension whose conversion factor is not zero. -/
theorem toSI_toUnit (q : ℕ) (v : ℚ) (s : Str) (si u : Unit ℚ)
    (h1 : getSIUnit q = some si) (h2 : getUnit s = some u)
    (hq : si.sameQuantity u = true) (h0 : u.value ≠ 0) :
    (toSI q v s).bind (fun x => toUnit q x s) = some v := by
  rw [toSI_eq h1 h2, hq, if_pos rfl, Option.bind_some, toUnit_eq h1 h2, hq, if_pos rfl,
    mul_div_cancel_right₀ _ h0]

/-- and the other way round -/
theorem toUnit_toSI (q : ℕ) (v : ℚ) (s : Str) (si u : Unit ℚ)
    (h1 : getSIUnit q = some si) (h2 : getUnit s = some u)
    (hq : si.sameQuantity u = true) (h0 : u.value ≠ 0) :
    (toUnit q v s).bind (fun x => toSI q x s) = some v := by
  rw [toUnit_eq h1 h2, hq, if_pos rfl, Option.bind_some, toSI_eq h1 h2, hq, if_pos rfl,
    div_mul_cancel₀ _ h0]

/-- **Cross-quantity conversion (`try_conversion`), photon energy ↔ frequency**: a value given in
any energy unit (factor `x ≠ 0`), read as a frequency (`ν = E/h`) and written back, is unchanged. -/
theorem toSI_toUnit_energy_as_frequency (v x : ℚ) (s : Str)
    (h2 : getUnit s = some (⟨x, 2, -2, 1, 0, 0, 0⟩ : Unit ℚ)) (h0 : x ≠ 0) :
    (toSI qFrequency v s).bind (fun y => toUnit qFrequency y s) = some v := by
  have hp : (OfDbl.ofDbl planck : ℚ) ≠ 0 := by decide +kernel
  refine toSI_toUnit_frequency_of h2 rfl ((tryConversion_eq ..).trans rfl) ?_
  rw [tryConversion_eq]
  show some _ = _
  rw [lit_one]
  congr 1
  field_simp [hp, h0]

/-- **wavelength ↔ frequency** (`ν = c/λ`), for a non-zero value -/
theorem toSI_toUnit_wavelength_as_frequency (v x : ℚ) (s : Str)
    (h2 : getUnit s = some (⟨x, 1, 0, 0, 0, 0, 0⟩ : Unit ℚ)) (h0 : x ≠ 0) (hv : v ≠ 0) :
    (toSI qFrequency v s).bind (fun y => toUnit qFrequency y s) = some v := by
  have hp : (OfDbl.ofDbl lightspeed : ℚ) ≠ 0 := by decide +kernel
  refine toSI_toUnit_frequency_of h2 rfl ((tryConversion_eq ..).trans rfl) ?_
  rw [tryConversion_eq]
  show some _ = _
  rw [lit_one]
  congr 1
  field_simp [hp, h0, hv]

/-- non-vacuity of the two cross-quantity theorems: "eV" and "angstrom" -/
example : (∃ x : ℚ, x ≠ 0 ∧ getUnit ['e','V'] = some (⟨x, 2, -2, 1, 0, 0, 0⟩ : Unit ℚ)) ∧
    (∃ x : ℚ, x ≠ 0 ∧ getUnit ['a','n','g','s','t','r','o','m'] = some (⟨x, 1, 0, 0, 0, 0, 0⟩ : Unit ℚ)) := by
  exact ⟨⟨uval ['e','V'], by decide +kernel, by decide +kernel⟩,
    ⟨uval ['a','n','g','s','t','r','o','m'], by decide +kernel, by decide +kernel⟩⟩

/-- non-vacuity: density (quantity 2) in "g cm^-3" -/
example : ∃ si u : Unit ℚ, getSIUnit 2 = some si ∧ getUnit ['g',' ','c','m','^','-','3'] = some u ∧
    si.sameQuantity u = true ∧ u.value ≠ 0 := by
  refine ⟨⟨1, -3, 0, 1, 0, 0, 0⟩, ⟨uval ['g'] / uval ['c','m'] ^ 3, -3, 0, 1, 0, 0, 0⟩, ?_⟩
  decide +kernel

end CMacVerif.Units
