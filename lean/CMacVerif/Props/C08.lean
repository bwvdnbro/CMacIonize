import CMacVerif.Lemmas.AtomicsPool
import CMacVerif.Lemmas.AtomicsMem
import CMacVerif.Lemmas.AtomicsQueue
import CMacVerif.Lemmas.AtomicsCtr
import CMacVerif.Lemmas.AtomicsRun
import CMacVerif.Lemmas.AtomicsHydro
import CMacVerif.Lemmas.AtomicsMax
import CMacVerif.Lemmas.AtomicsTask
import CMacVerif.Lemmas.AtomicsMaint
/-!
# C08 — shared scheduler containers never give one slot or task to two owners

Model: `CMacVerif/Model/Atomics.lean` — sequentially consistent shared memory, one transition =
one `AtomicValue` operation (or one piece of plain code), any thread may move next.  The invariant
theorems quantify over **every number of threads** (`progs : List (List Cmd)`, one program per
thread, of any length), **every schedule** (`sched : List Nat`, any length) and every pool size /
task table (`cfg`); `run cfg (init progs) sched` is the state reached.  The solo theorems (one thread
running alone: `pop_available`, `failed_pop_changes_nothing`, `lock_dependency_returns`, `slot_released`,
`wraparound`) start from any state `s`, the maintenance theorems from any `PhaseReach` state; the
contract of the `Task` setters speaks of no thread at all.

Vocabulary (defined next to the lemmas): `holdL cfg L th` = how many times thread `th` holds
lock `L` (in user hands, through a task whose `lock_dependency` succeeded, or transiently between
a successful CAS and the matching unlock); `holdS i th` = the same for pool slot `i` (in user
hands, or between the successful flag CAS and the return of `get_free_element`, or between the
call of `free_element` and its CAS).
-/
namespace CMacVerif.Atomics

/-- **Locks admit one holder at a time.**  In every reachable state, for every lock (resource
locks and queue locks): the holders counted over all threads are exactly `[lock flag]`. -/
theorem lock_count (cfg : Cfg) (progs : List (List Cmd)) (sched : List Nat) (L : LockId) :
    sumT (holdL cfg L) (run cfg (init progs) sched).threads
      = ((run cfg (init progs) sched).mem.locks L).toNat :=
  lockInv_run cfg progs sched L

/-- **lock_mutex**: two different threads never hold the same lock, whatever the number of
threads and the interleaving. -/
theorem lock_mutex (cfg : Cfg) (progs : List (List Cmd)) (sched : List Nat) (L : LockId)
    (t1 t2 : Nat) (a b : Thread)
    (h1 : (run cfg (init progs) sched).threads[t1]? = some a)
    (h2 : (run cfg (init progs) sched).threads[t2]? = some b) (hne : t1 ≠ t2)
    (ha : 1 ≤ holdL cfg L a) : holdL cfg L b = 0 :=
  (lockInv_run cfg progs sched).excl L h1 h2 hne ha

/-- a thread never holds a lock twice, and a held lock has its flag set -/
theorem lock_held_once (cfg : Cfg) (progs : List (List Cmd)) (sched : List Nat) (L : LockId)
    (t : Nat) (a : Thread) (h1 : (run cfg (init progs) sched).threads[t]? = some a) :
    holdL cfg L a ≤ 1 ∧ (1 ≤ holdL cfg L a → (run cfg (init progs) sched).mem.locks L = true) := by
  have hs := lock_count cfg progs sched L
  have hle := le_sumT (holdL cfg L) _ t a h1
  have := Bool.toNat_le ((run cfg (init progs) sched).mem.locks L)
  exact ⟨by omega, sumT_toNat_pos _ hs h1⟩

/-- non-vacuity: two threads race for lock 0 with `lock`; one gets it, the other one spins -/
example :
    let s := run { size := 1, cap := 200, deps := fun _ => (none, none) } (init [[.lock 0], [.lock 0]]) [0, 1, 0, 1, 1]
    s.mem.locks (.dep 0) = true ∧ (s.threads.map (·.held)) = [[0], []] := by decide

/-- In every reachable state and for every slot index: holders counted over all threads =
`[slot flag]`. -/
theorem slot_count (cfg : Cfg) (progs : List (List Cmd)) (sched : List Nat) (i : Nat) :
    sumT (holdS i) (run cfg (init progs) sched).threads
      = ((run cfg (init progs) sched).mem.flags i).toNat :=
  slotInv_run cfg progs sched i

/-- **slot_unique**: no slot index is held by two owners — for every number of threads, every
interleaving of the single atomic operations, every pool size (in particular a pool that becomes
full, and any value of the wrapping cursor). -/
theorem slot_unique (cfg : Cfg) (progs : List (List Cmd)) (sched : List Nat) (i : Nat)
    (t1 t2 : Nat) (a b : Thread)
    (h1 : (run cfg (init progs) sched).threads[t1]? = some a)
    (h2 : (run cfg (init progs) sched).threads[t2]? = some b) (hne : t1 ≠ t2)
    (ha : 1 ≤ holdS i a) : holdS i b = 0 :=
  (slotInv_run cfg progs sched).excl i h1 h2 hne ha

/-- in particular the lists of slots in the callers' hands are disjoint and duplicate-free -/
theorem owned_disjoint (cfg : Cfg) (progs : List (List Cmd)) (sched : List Nat) (i : Nat)
    (t1 t2 : Nat) (a b : Thread)
    (h1 : (run cfg (init progs) sched).threads[t1]? = some a)
    (h2 : (run cfg (init progs) sched).threads[t2]? = some b) (hne : t1 ≠ t2)
    (ha : i ∈ a.owned) : i ∉ b.owned ∧ a.owned.count i = 1 := by
  have hc : 1 ≤ a.owned.count i := List.count_pos_iff.mpr ha
  have hb := slot_unique cfg progs sched i t1 t2 a b h1 h2 hne (by unfold holdS; omega)
  have hs := slot_count cfg progs sched i
  have hle := le_sumT (holdS i) _ t1 a h1
  have := Bool.toNat_le ((run cfg (init progs) sched).mem.flags i)
  have ea : holdS i a = a.owned.count i + pcHoldS a.pc i := rfl
  have eb : holdS i b = b.owned.count i + pcHoldS b.pc i := rfl
  constructor
  · intro hi
    have : 1 ≤ b.owned.count i := List.count_pos_iff.mpr hi
    omega
  · omega

/-- non-vacuity (pool of size 2 that becomes full and wraps): thread 0 takes both slots, frees
slot 0; thread 1, preempted between its flag CAS and its counter increment, gets slot 0 -/
example :
    let s := run { size := 2, cap := 200, deps := fun _ => (none, none) } (init [[.get, .get, .free 1], [.get]])
      ([0,0,0,0,0,0,0, 0,0,0,0,0,0,0, 1,1,1,1, 0,0,0, 1,1, 1,1,1,1,1])
    (s.threads.map (·.owned)) = [[1], [0]] ∧ s.mem.cur = 5 ∧ s.mem.taken = 2 := by decide

/-- **quiescent_count**, general form: in every reachable state
`_number_taken + #(threads between flag CAS and increment) = #(flags set) + #(threads between
flag clear and decrement)`. -/
theorem count_general (cfg : Cfg) (hs : 0 < cfg.size) (progs : List (List Cmd)) (sched : List Nat) :
    let s := run cfg (init progs) sched
    s.mem.taken + (sumT incP s.threads : Int) = (cnt s.mem.flags cfg.size : Int) + (sumT decP s.threads : Int) :=
  (poolInv_run cfg hs progs sched).count

/-- **quiescent_count**: when no `get`/`free` is between its flag operation and its counter
operation (in particular when all threads are idle), the occupancy counter equals the number of
flags set. -/
theorem quiescent_count (cfg : Cfg) (hs : 0 < cfg.size) (progs : List (List Cmd)) (sched : List Nat)
    (hq : ∀ th ∈ (run cfg (init progs) sched).threads, incP th = 0 ∧ decP th = 0) :
    (run cfg (init progs) sched).mem.taken = (cnt (run cfg (init progs) sched).mem.flags cfg.size : Int) :=
  (countInv_settled cfg _ hq).mp (count_general cfg hs progs sched)

/-- **quiescent_count**, owner form: when every thread is idle, the occupancy counter equals the
total number of slots in the callers' hands. -/
theorem quiescent_count_owned (cfg : Cfg) (hs : 0 < cfg.size) (progs : List (List Cmd)) (sched : List Nat)
    (hidle : ∀ th ∈ (run cfg (init progs) sched).threads, th.pc = .idle) :
    (run cfg (init progs) sched).mem.taken
      = (sumT (fun th => th.owned.length) (run cfg (init progs) sched).threads : Int) :=
  taken_eq_owned cfg _ (poolInv_run cfg hs progs sched) hidle

/-- the occupancy counter never goes below zero in any reachable state: the unsigned
`_number_taken` of the C++ never wraps (the model uses an `Int`) -/
theorem number_taken_nonneg (cfg : Cfg) (hs : 0 < cfg.size) (progs : List (List Cmd)) (sched : List Nat) :
    0 ≤ (run cfg (init progs) sched).mem.taken :=
  taken_nonneg cfg _ (poolInv_run cfg hs progs sched)

/-- every slot index a thread holds or is about to touch is inside the pool -/
theorem slot_in_range (cfg : Cfg) (hs : 0 < cfg.size) (progs : List (List Cmd)) (sched : List Nat)
    (th : Thread) (hth : th ∈ (run cfg (init progs) sched).threads) (i : Nat) (hi : i ∈ th.owned) :
    i < cfg.size :=
  ((poolInv_run cfg hs progs sched).wf th hth).owned_lt i hi

/-- **counter_linear**, invariant form: value + net effect of all calls still to be made (or in
progress) is the same in every reachable state; `LockFree::add`'s compare-exchange loop included. -/
theorem counter_invariant (cfg : Cfg) (progs : List (List Cmd)) (sched : List Nat) (c : Nat) :
    let s := run cfg (init progs) sched
    s.mem.ctr c + sumTI (net c) s.threads = ((progs.map (progNet c)).sum : Int) := by
  have h := ctrTotal_run cfg c (init progs) sched
  simp only [ctrTotal] at h ⊢
  rw [h]
  -- an idle thread's outstanding effect is that of its program
  have : sumTI (net c) (init progs).threads = (progs.map (progNet c)).sum := by
    unfold sumTI init
    rw [List.map_map]
    exact congrArg List.sum (List.map_congr_left fun p _ => Int.zero_add _)
  rw [this]; simp [init]

/-- **counter_linear**: when all threads have completed their calls, the counter has changed by
the sum of the net effects of all calls, in whatever order the atomic operations interleaved. -/
theorem counter_linear (cfg : Cfg) (progs : List (List Cmd)) (sched : List Nat) (c : Nat)
    (hdone : ∀ th ∈ (run cfg (init progs) sched).threads, th.pc = .idle ∧ th.prog = []) :
    (run cfg (init progs) sched).mem.ctr c = ((progs.map (progNet c)).sum : Int) := by
  have h := counter_invariant cfg progs sched c
  simp only at h
  rw [sumTI_eq_zero] at h
  · simpa using h
  · intro th hth
    obtain ⟨h1, h2⟩ := hdone th hth
    simp [net, h1, h2, pcNet, progNet]

/-- a program of `n` `pre_increment`s and `m` `pre_decrement`s of counter `c` has net effect `n - m` -/
theorem progNet_inc_dec (c : Nat) (prog : List Cmd) (h : ∀ x ∈ prog, x = .inc c ∨ x = .dec c) :
    progNet c prog = (prog.count (.inc c) : Int) - (prog.count (.dec c) : Int) := by
  induction prog with
  | nil => rfl
  | cons x l ih =>
    have := ih (fun y hy => h y (by simp [hy]))
    rw [progNet_cons, this]
    rcases h x (by simp) with rfl | rfl <;>
      simp [cmdNet, indI] <;> omega

/-- **counter_linear** as in the property statement: threads that together perform `n`
`pre_increment`s and `m` `pre_decrement`s of a counter change it by `n - m`, in any interleaving. -/
theorem counter_linear_n_m (cfg : Cfg) (progs : List (List Cmd)) (sched : List Nat) (c : Nat)
    (honly : ∀ p ∈ progs, ∀ x ∈ p, x = .inc c ∨ x = .dec c)
    (hdone : ∀ th ∈ (run cfg (init progs) sched).threads, th.pc = .idle ∧ th.prog = []) :
    (run cfg (init progs) sched).mem.ctr c
      = ((progs.map fun p => ((p.count (.inc c) : Nat) : Int) - ((p.count (.dec c) : Nat) : Int)).sum : Int) := by
  rw [counter_linear cfg progs sched c hdone]
  congr 1
  exact List.map_congr_left (fun p hp => progNet_inc_dec c p (honly p hp))

/-- non-vacuity: 2 increments and 1 decrement from two threads, plus two racing `LockFree::add`s
(one compare-exchange fails and is retried) -/
example :
    let s := run { size := 1, cap := 200, deps := fun _ => (none, none) }
      (init [[.inc 0, .lfAdd 1 5, .inc 0], [.dec 0, .lfAdd 1 7]]) [0,0,1,1,0,1,0,1,1,1,0,0,0,0]
    s.mem.ctr 0 = 1 ∧ s.mem.ctr 1 = 12 ∧ s.threads.all Thread.finished = true := by decide

/-- **queue_multiset**: for every queue and task index,
(#occurrences in the queue) + (#times popped, over all threads) = (#times added, over all threads). -/
theorem queue_multiset (cfg : Cfg) (progs : List (List Cmd)) (sched : List Nat) (q x : Nat) :
    let s := run cfg (init progs) sched
    (s.mem.items q).count x + sumT (cntPop q x) s.threads = sumT (cntAdd q x) s.threads :=
  queueInv_run cfg progs sched q x

/-- **pop_unique**: a task index that was added once is handed out at most once — never to two
threads, never twice to one thread — and exactly once as soon as it is no longer in the queue. -/
theorem pop_unique (cfg : Cfg) (progs : List (List Cmd)) (sched : List Nat) (q x : Nat)
    (hadd : sumT (cntAdd q x) (run cfg (init progs) sched).threads = 1) :
    (∀ (t1 t2 : Nat) (a b : Thread), (run cfg (init progs) sched).threads[t1]? = some a →
        (run cfg (init progs) sched).threads[t2]? = some b → t1 ≠ t2 →
        (q, x) ∈ a.popLog → (q, x) ∉ b.popLog) ∧
    (∀ (t : Nat) (a : Thread), (run cfg (init progs) sched).threads[t]? = some a → a.popLog.count (q, x) ≤ 1) ∧
    (x ∉ (run cfg (init progs) sched).mem.items q →
        sumT (cntPop q x) (run cfg (init progs) sched).threads = 1) := by
  have h := queue_multiset cfg progs sched q x
  refine ⟨?_, ?_, ?_⟩
  · intro t1 t2 a b h1 h2 hne ha hb
    have hle := add_le_sumT (cntPop q x) _ t1 t2 a b h1 h2 hne
    have : 1 ≤ cntPop q x a := List.count_pos_iff.mpr ha
    have : 1 ≤ cntPop q x b := List.count_pos_iff.mpr hb
    omega
  · intro t a h1
    have hle := le_sumT (cntPop q x) _ t a h1
    have e : cntPop q x a = a.popLog.count (q, x) := rfl
    omega
  · intro hx
    have : ((run cfg (init progs) sched).mem.items q).count x = 0 := List.count_eq_zero.mpr hx
    omega

/-- non-vacuity: two threads add to and pop from one queue; task 0 needs locks 0 and 1, task 1
needs lock 1: after thread 1 popped task 1, thread 0's pop has to roll back its first lock -/
example :
    let s := run { size := 1, cap := 200, deps := fun t => if t = 0 then (some 0, some 1) else (some 1, none) }
      (init [[.addTask 0 0, .addTask 0 1, .getTask 0], [.getTask 0]])
      [0,0,0,0,0,0,0,0, 1,1,1,1,1,1,1,1, 0,0,0,0,0,0,0,0,0,0]
    (s.threads.map (·.popLog)) = [[], [(0, 1)]] ∧ s.mem.items 0 = [0] ∧
    s.mem.locks (.dep 0) = false ∧ s.mem.locks (.dep 1) = true := by decide

/-- a task whose `lock_dependency` succeeded (directly or inside a pop) has every declared lock
set, held by that thread and by no other thread -/
theorem task_holds_locks (cfg : Cfg) (progs : List (List Cmd)) (sched : List Nat)
    (t1 : Nat) (a : Thread) (x : Nat) (L : LockId)
    (h1 : (run cfg (init progs) sched).threads[t1]? = some a) (hx : x ∈ a.tasks)
    (hL : 1 ≤ depsHold cfg x L) :
    (run cfg (init progs) sched).mem.locks L = true ∧ 1 ≤ holdL cfg L a ∧
    ∀ (t2 : Nat) (b : Thread), (run cfg (init progs) sched).threads[t2]? = some b → t1 ≠ t2 →
      holdL cfg L b = 0 := by
  have hle := depsHold_le_tasksHold cfg a.tasks x L hx
  have ha : 1 ≤ holdL cfg L a := by unfold holdL; omega
  exact ⟨(lock_held_once cfg progs sched L t1 a h1).2 ha, ha,
    fun t2 b h2 hne => lock_mutex cfg progs sched L t1 t2 a b h1 h2 hne ha⟩

/-- **pop_holds_locks**: when `get_task` / `try_get_task` is about to return task `x` (it re-read
`_queue[index]` after `lock_dependency` succeeded — the queue lock's mutual exclusion makes that
the task whose locks were taken), every lock `x` declares is set and held by the popping thread
and by nobody else. -/
theorem pop_holds_locks (cfg : Cfg) (progs : List (List Cmd)) (sched : List Nat)
    (t1 q x : Nat) (a : Thread) (L : LockId)
    (h1 : (run cfg (init progs) sched).threads[t1]? = some a)
    (hpc : a.pc = .popUnlock q (some x)) (hL : 1 ≤ depsHold cfg x L) :
    (run cfg (init progs) sched).mem.locks L = true ∧ 1 ≤ holdL cfg L a ∧
    ∀ (t2 : Nat) (b : Thread), (run cfg (init progs) sched).threads[t2]? = some b → t1 ≠ t2 →
      holdL cfg L b = 0 :=
  task_holds_locks cfg progs sched t1 a x L h1
    ((stabInv_run cfg progs sched t1 a h1).2 q x hpc) hL

/-- the plain code of a queue operation runs under the queue lock: two threads are never both
inside the body of an operation on the same queue (this is what justifies treating the body as
one transition) -/
theorem queue_body_exclusive (cfg : Cfg) (progs : List (List Cmd)) (sched : List Nat) (q : Nat)
    (t1 t2 : Nat) (a b : Thread)
    (h1 : (run cfg (init progs) sched).threads[t1]? = some a)
    (h2 : (run cfg (init progs) sched).threads[t2]? = some b) (hne : t1 ≠ t2)
    (ha : 1 ≤ pcHoldL cfg a.pc (.queue q)) : pcHoldL cfg b.pc (.queue q) = 0 :=
  (lockInv_run cfg progs sched).pc_excl (.queue q) h1 h2 hne ha

/-- **rollback**: the roll-back step of a failed two-lock attempt (`_dependency[1]` was busy)
clears the first dependency; afterwards the thread holds exactly what it held before
`lock_dependency` was called (its user locks, its tasks, and the queue lock if the call came
from a pop) — no lock of the failed attempt stays held. -/
theorem rollback (cfg : Cfg) (progs : List (List Cmd)) (sched : List Nat) (tid : Nat) (th : Thread)
    (c : Ctx) (t : Nat)
    (hth : (run cfg (init progs) sched).threads[tid]? = some th) (hpc : th.pc = .tlBack c t) :
    ∃ th', (step cfg (run cfg (init progs) sched) tid).threads[tid]? = some th' ∧
      th'.held = th.held ∧ th'.tasks = th.tasks ∧ (∀ L, pcHoldL cfg th'.pc L = ctxHold c L) ∧
      (∀ a, (cfg.deps t).1 = some a →
        (step cfg (run cfg (init progs) sched) tid).mem.locks (.dep a) = false) := by
  have hf : (tlFail c t th).held = th.held ∧ (tlFail c t th).tasks = th.tasks ∧
      ∀ L, pcHoldL cfg (tlFail c t th).pc L = ctxHold c L := by
    cases c <;> exact ⟨rfl, rfl, fun _ => rfl⟩
  rcases hd : cfg.deps t with ⟨_ | a, d1⟩
  · -- nothing had been locked
    have h := step_of_exec hth ((SchedStep.rollBackNothing c t d1 hd).exec_eq hpc)
    exact ⟨_, h.1, hf.1, hf.2.1, hf.2.2, nofun⟩
  · have h := step_of_exec hth ((SchedStep.rollBack c t a d1 hd).exec_eq hpc)
    exact ⟨_, h.1, hf.1, hf.2.1, hf.2.2, fun a' ha => by cases ha; rw [h.2]; exact upd_same _ _ _⟩

/-- **pop_available** (solo / obstruction-free form): the thread has just taken the queue lock of
`get_task` / `try_get_task`; if some queued task has all its declared locks free, then the pop,
running without interference, returns a task (skipping and rolling back the candidates above it
that cannot be locked). -/
theorem pop_available (cfg : Cfg) (s : State) (tid q : Nat) (th : Thread) (x : Nat)
    (hth : s.threads[tid]? = some th) (hpc : th.pc = .popInit q)
    (hx : x ∈ s.mem.items q) (hfree : Lockable cfg s.mem.locks x) :
    Solo cfg tid s (fun s' => ∃ th' y, s'.threads[tid]? = some th' ∧ th'.pc = .popUnlock q (some y)) := by
  obtain ⟨m', th', r, h, hpc', -, hnone⟩ :=
    scan_reach cfg q _ s.mem { th with pc := .popScan q (s.mem.items q).length } rfl (Nat.le_refl _)
  refine (Reach.sched (.scanFromTop q) hpc h).solo hth fun s' _ h' => ?_
  obtain ⟨j, hj⟩ := List.getElem?_of_mem hx
  cases r with
  | none =>
    obtain ⟨-, -, -, hnolock⟩ := hnone rfl
    exact absurd hfree (hnolock j x (getElem?_lt _ _ _ hj) hj)
  | some y => exact ⟨th', y, h', hpc'⟩

/-- non-vacuity of `pop_available`: the top entry needs a busy lock, the entry below is free -/
example :
    let cfg : Cfg := { size := 1, cap := 200, deps := fun t => if t = 0 then (some 0, none) else (some 1, some 0) }
    let s : State := { mem := { items := fun _ => [0, 1], locks := fun L => L = .dep 1 || L = .queue 0 },
                       threads := [{ pc := .popInit 0 }] }
    (run cfg s (List.replicate 8 0)).threads.map (·.pc) = [.popUnlock 0 (some 0)] := by decide

/-- **slot_released**: the CAS of `free_element(i)` clears the flag of slot `i`, and from then on
(in fact: whenever some slot of the pool is free) a `get_free_element` search loop that runs
without interference obtains a slot that was free. -/
theorem slot_released (cfg : Cfg) (s : State) (tid i : Nat) (th : Thread)
    (hth : s.threads[tid]? = some th) (hpc : th.pc = .freeUnlock i) (hi : i < cfg.size) :
    (step cfg s tid).mem.flags i = false ∧
    ∀ (u : Nat) (thu : Thread) (r : Option Nat), (step cfg s tid).threads[u]? = some thu →
      thu.pc = .getInc r →
      ∃ n k th', n ≤ 2 * cfg.size ∧
        (run cfg (step cfg s tid) (List.replicate n u)).threads[u]? = some th' ∧
        th'.pc = .getCount k r ∧ (step cfg s tid).mem.flags k = false := by
  have hf : (step cfg s tid).mem.flags i = false := by
    rw [(step_of_exec hth ((PoolStep.releaseSlot i).exec_eq hpc)).2]; exact upd_same _ _ _
  refine ⟨hf, fun u thu r hu hpcu => ?_⟩
  obtain ⟨n, k, m', hn, -, hfe, hit, -⟩ := search_free cfg r _ thu hpcu i hi hf
  exact ⟨n, k, _, hn, (run_of_iter hu hit).1, rfl, hfe⟩

/-- **wraparound**: for every value of the cursor (it only ever grows; the index is taken modulo
the size) and a pool that is full except for slot `j`: the search loop, running without
interference, obtains exactly slot `j` within `2·size` transitions. -/
theorem wraparound (cfg : Cfg) (s : State) (u j : Nat) (thu : Thread) (r : Option Nat)
    (hu : s.threads[u]? = some thu) (hpc : thu.pc = .getInc r) (hj : j < cfg.size)
    (hfree : s.mem.flags j = false) (hfull : ∀ k, k < cfg.size → k ≠ j → s.mem.flags k = true) :
    ∃ n th', n ≤ 2 * cfg.size ∧ (run cfg s (List.replicate n u)).threads[u]? = some th' ∧
      th'.pc = .getCount j r ∧ (run cfg s (List.replicate n u)).mem.flags j = true := by
  obtain ⟨n, k, m', hn, hk, hfe, hit, hm'⟩ := search_free cfg r s.mem thu hpc j hj hfree
  -- the slot that was found free is `j`, the only free one
  have hkj : k = j :=
    Decidable.by_contra fun h => by have := hfull _ hk h; rw [hfe] at this; cases this
  subst hkj
  have h := run_of_iter hu hit
  exact ⟨n, _, hn, h.1, rfl, by rw [h.2]; exact hm'⟩

/-- non-vacuity of `wraparound`: size 3, cursor 7 (wrapped twice), only slot 0 free -/
example :
    let cfg : Cfg := { size := 3, cap := 200, deps := fun _ => (none, none) }
    let s : State := { mem := { cur := 7, flags := fun i => i != 0 }, threads := [{ pc := .getInc none }] }
    (run cfg s (List.replicate 6 0)).threads.map (·.pc) = [.getCount 0 none] := by decide

/-- ghost accounting that holds for every client: packets handed to `add_photons` = packets
stored in pool buffers + packets in flight (taken from the input buffer, new buffer not yet
filled) + packets discarded by `free_buffer` + `lost`, where `lost` counts what the copy loop
would silently drop if the target buffer already held more than `PHOTONBUFFER_SIZE` packets. -/
theorem photon_accounting (cfg : Cfg) (hs : 0 < cfg.size) (progs : List (List Cmd)) (sched : List Nat) :
    let s := run cfg (init progs) sched
    sumN s.mem.count cfg.size + sumT pend s.threads + sumT (·.disc) s.threads + sumT (·.lost) s.threads
      = sumT (·.inj) s.threads :=
  photonInv_run cfg hs progs sched

/-- For clients of `MemorySpace` (buffers released through `free_buffer` only, input buffers of at
most `PHOTONBUFFER_SIZE` packets), in every reachable state: nothing was lost, no buffer holds more
than `PHOTONBUFFER_SIZE` packets, and a free slot is an empty buffer (the overflow buffer obtained
inside `add_photons` is empty). -/
theorem add_photons_no_loss (cfg : Cfg) (hs : 0 < cfg.size) (progs : List (List Cmd))
    (hms : ∀ p ∈ progs, ∀ c ∈ p, CmdMS cfg.cap c) (sched : List Nat) :
    let s := run cfg (init progs) sched
    (∀ th ∈ s.threads, th.lost = 0) ∧ (∀ i, s.mem.count i ≤ cfg.cap) ∧
    (∀ i, s.mem.flags i = false → s.mem.count i = 0) := by
  have h := msInv_run cfg hs progs hms sched
  refine ⟨fun th hth => ?_, h.2.cap_le, h.2.free_empty⟩
  obtain ⟨k, hk⟩ := List.getElem?_of_mem hth
  exact (h.1 k th hk).lost_zero

/-- **add_photons_conserves**: for clients of `MemorySpace`, under every interleaving: packets
handed to `add_photons` = packets in the (old and new) pool buffers + packets in flight inside a
running `add_photons` + packets discarded by `free_buffer`. -/
theorem add_photons_conserves (cfg : Cfg) (hs : 0 < cfg.size) (progs : List (List Cmd))
    (hms : ∀ p ∈ progs, ∀ c ∈ p, CmdMS cfg.cap c) (sched : List Nat) :
    let s := run cfg (init progs) sched
    sumN s.mem.count cfg.size + sumT pend s.threads + sumT (·.disc) s.threads = sumT (·.inj) s.threads := by
  have h := photon_accounting cfg hs progs sched
  have hl := (add_photons_no_loss cfg hs progs hms sched).1
  simp only at h ⊢
  rw [sumT_eq_zero (·.lost) _ hl] at h
  omega

/-- **owner_writes_only**: while thread `t1` holds slot `i` — from the successful flag CAS inside
`get_free_buffer` / `get_free_element`, through the time the index is in the caller's hands, to the
flag-clearing CAS of `free_buffer(i)` (which wipes the buffer BEFORE it releases the slot) — no
transition of any other thread writes the content of buffer `i`. -/
theorem owner_writes_only (cfg : Cfg) (hs : 0 < cfg.size) (progs : List (List Cmd)) (sched : List Nat)
    (i t1 t2 : Nat) (a b : Thread)
    (h1 : (run cfg (init progs) sched).threads[t1]? = some a)
    (h2 : (run cfg (init progs) sched).threads[t2]? = some b) (hne : t1 ≠ t2)
    (ha : 1 ≤ holdS i a) :
    (step cfg (run cfg (init progs) sched) t2).mem.count i = (run cfg (init progs) sched).mem.count i := by
  have hb := slot_unique cfg progs sched i t1 t2 a b h1 h2 hne ha
  have hwf := (poolInv_run cfg hs progs sched).wf b (List.mem_of_getElem? h2)
  rw [step_some cfg _ t2 b h2]
  exact exec_count_frame cfg _ b i hwf hb

/-- **handed_out_buffer_is_empty**: for clients of `MemorySpace`, under every interleaving: the
slot a `get_free_buffer` is about to return holds an empty buffer — at every program counter
between the successful flag CAS and the return, and still when the index is handed to the caller
(nobody else can have written it: `owner_writes_only`). -/
theorem handed_out_buffer_is_empty (cfg : Cfg) (hs : 0 < cfg.size) (progs : List (List Cmd))
    (hms : ∀ p ∈ progs, ∀ c ∈ p, CmdMS cfg.cap c) (sched : List Nat)
    (tid i : Nat) (th : Thread) (hth : (run cfg (init progs) sched).threads[tid]? = some th) :
    (pcFresh th.pc = some i → (run cfg (init progs) sched).mem.count i = 0) ∧
    (th.pc = .getTotal i none →
      ∃ th', (step cfg (run cfg (init progs) sched) tid).threads[tid]? = some th' ∧
        th'.pc = .idle ∧ th'.res = .slot i :: th.res ∧ th'.owned = i :: th.owned ∧
        (step cfg (run cfg (init progs) sched) tid).mem.count i = 0) := by
  have hinv := (msInv_run cfg hs progs hms sched).1 tid th hth
  refine ⟨hinv.pc_ok.fresh_empty i, fun hpc => ?_⟩
  have h0 : (run cfg (init progs) sched).mem.count i = 0 := hinv.pc_ok.fresh_empty i (by rw [hpc]; rfl)
  have h := step_of_exec (cfg := cfg) hth ((PoolStep.handOut i none).exec_eq hpc)
  exact ⟨_, h.1, rfl, rfl, rfl, by rw [h.2]; exact h0⟩

/-- one call, sequentially: the fill step moves `min n (cap - size)` packets into the target; if
that fills it exactly, the rest continues (through `get_free_buffer`) to the new buffer, otherwise
everything fitted. -/
theorem add_photons_fill_step (cfg : Cfg) (m : Mem) (th : Thread) (tgt n : Nat)
    (hpc : th.pc = .apFill tgt n) (hcap : m.count tgt ≤ cfg.cap) :
    (exec cfg m th).2.lost = th.lost ∧
    ((exec cfg m th).1.count tgt = m.count tgt + min n (cfg.cap - m.count tgt)) ∧
    ((exec cfg m th).2.pc = .getCheck (some (n - min n (cfg.cap - m.count tgt))) ∨
     ((exec cfg m th).2.pc = .idle ∧ min n (cfg.cap - m.count tgt) = n)) := by
  have hs := exec_poolStep cfg m th (by rw [hpc]; rfl)
  rw [hpc] at hs
  generalize exec cfg m th = r at hs ⊢
  cases hs
  case fillSpill moved he hm => subst hm; exact ⟨rfl, upd_same _ _ _, Or.inl rfl⟩
  case fillFits moved he hm =>
    -- the target did not fill up, so everything fitted
    have : moved = n := by omega
    subst hm
    exact ⟨by show th.lost + (n - _) = _; omega, upd_same _ _ _, Or.inr ⟨rfl, this⟩⟩

/-- non-vacuity of the `MemorySpace` discipline hypothesis -/
example : ∀ p ∈ [[Cmd.getSafe, .addPhotons 0 150, .addPhotons 0 100, .freeBuf 0]], ∀ c ∈ p, CmdMS 200 c := by
  intro p hp c hc
  simp only [List.mem_singleton] at hp
  subst hp
  simp only [List.mem_cons, List.not_mem_nil, or_false] at hc
  rcases hc with rfl | rfl | rfl | rfl <;> simp [CmdMS]

/-- non-vacuity: 150 + 100 packets: the target fills up (200), 50 go to a fresh buffer -/
example :
    let s := run { size := 3, cap := 200, deps := fun _ => (none, none) }
      (init [[.getSafe, .addPhotons 0 150, .addPhotons 0 100]]) (List.replicate 21 0)
    (List.range 3).map s.mem.count = [200, 50, 0] ∧ s.threads.map (·.owned) = [[1, 0]] ∧
    s.threads.map (·.lost) = [0] := by decide

/-! ## Task-level atomicity (the assumption of C07's `Worker` model and of C01)

`running cfg s` = all tasks some thread *runs* in state `s`: from the atomic operation that took
the task's last lock (inside `get_task` / `try_get_task`, or a direct `lock_dependency`) up to the
first unlock of `unlock_dependency`.  `graphOf cfg` is the lock part of `Worker.Graph`
(`lockset` = `_dependency[0..1]` after the duplicate rule of `set_extra_dependency`). -/

open Spec

/-- **running_tasks_conflict_free**: at every moment of every execution, any two running tasks
(of different threads, or of one thread that popped several) have disjoint declared lock sets —
exactly the guard of `Worker.step … (.acquire t)`. -/
theorem running_tasks_conflict_free (cfg : Cfg) (progs : List (List Cmd)) (sched : List Nat) :
    (running cfg (run cfg (init progs) sched)).Pairwise
      (fun a b => Worker.conflicts (graphOf cfg) a b = false) := by
  simp only [conflicts_graphOf]
  apply pairwise_of_hsum
  intro L
  unfold running
  rw [hsum_running]
  exact runHold_sum_le_one cfg _ (lockInv_run cfg progs sched) L

/-- sum form: every lock is declared by at most one running task, and the thread that runs a
task holds all the locks the task declares -/
theorem running_holds_locks (cfg : Cfg) (progs : List (List Cmd)) (sched : List Nat) (L : LockId) :
    sumT (runHold cfg L) (run cfg (init progs) sched).threads ≤ 1 ∧
    ∀ th ∈ (run cfg (init progs) sched).threads, runHold cfg L th ≤ holdL cfg L th :=
  ⟨runHold_sum_le_one cfg _ (lockInv_run cfg progs sched) L, fun th _ => runHold_le_holdL cfg L th⟩

/-- nothing runs and nothing is queued initially -/
theorem abs_init (cfg : Cfg) (progs : List (List Cmd)) :
    (∀ x, (abs cfg (init progs)).run x = 0) ∧ (∀ q x, (abs cfg (init progs)).queue q x = 0) := by
  refine ⟨fun x => sumT_init _ _ fun _ => rfl, fun q x => ?_⟩
  show ((init progs).mem.items q).count x - absK (init progs) q x = 0
  simp [init]

/-- **pop_is_atomic_acquire**, one step: in every reachable state every transition of every
thread is either a stuttering step of the abstract lock-level specification (`Model/AtomicsSpec`)
or the abstract transition of its label, *enabled* in the abstraction of the current state.  The
label `acquire q t` sits on the atomic operation with which a pop takes the LAST lock of `t`;
enabledness means: `t` is (still) in the abstract queue `q` — so a task is acquired at most once
per add — and no running task conflicts with `t`. -/
theorem pop_is_atomic_acquire_step (cfg : Cfg) (progs : List (List Cmd)) (sched : List Nat)
    (tid : Nat) (th : Thread) (hth : (run cfg (init progs) sched).threads[tid]? = some th) :
    match lab cfg (run cfg (init progs) sched).mem th with
    | none => Same (abs cfg (run cfg (init progs) sched)) (abs cfg (step cfg (run cfg (init progs) sched) tid))
    | some l => Step cfg (abs cfg (run cfg (init progs) sched)) l (abs cfg (step cfg (run cfg (init progs) sched) tid)) :=
  sim_step cfg _ tid th (lockInv_run cfg progs sched) (stabInv_run cfg progs sched) hth

/-- **pop_is_atomic_acquire** (refinement): the projection of every execution — `acquire t` at
the linearisation point of each successful pop, `finish t` at the first unlock of
`unlock_dependency(t)`, `add q t` at the body of `add_task` — is an execution of the abstract
specification from the empty state to the abstraction of the state reached. -/
theorem pop_is_atomic_acquire (cfg : Cfg) (progs : List (List Cmd)) (sched : List Nat) :
    Exec cfg (abs cfg (init progs)) (trace cfg (init progs) sched) (abs cfg (run cfg (init progs) sched)) :=
  refines_from cfg sched _ (lockInv_init cfg progs) (stabInv_init progs)

/-- (2a) the guard, in `Worker` terms: at a linearisation point of a pop of `t`, `t` conflicts
with no task that is running -/
theorem acquire_guard (cfg : Cfg) (progs : List (List Cmd)) (sched : List Nat)
    (tid q t : Nat) (th : Thread) (hth : (run cfg (init progs) sched).threads[tid]? = some th)
    (hl : lab cfg (run cfg (init progs) sched).mem th = some (.acquire q t)) :
    ∀ u ∈ running cfg (run cfg (init progs) sched), Worker.conflicts (graphOf cfg) t u = false := by
  have h := pop_is_atomic_acquire_step cfg progs sched tid th hth
  rw [hl] at h
  intro u hu
  rw [conflicts_graphOf]
  apply h.2.1 u
  show 1 ≤ sumT (runW cfg u) (run cfg (init progs) sched).threads
  obtain ⟨thk, hk, hmem⟩ := List.mem_flatMap.mp hu
  have := le_sumT_mem (runW cfg u) hk
  have : 1 ≤ runW cfg u thk := List.count_pos_iff.mpr hmem
  omega

/-- (2b) at most once: at a linearisation point of a pop of `t` from queue `q`, `t` is in the
abstract queue (queued and not claimed by another pop), and the step takes one occurrence out -/
theorem acquire_at_most_once (cfg : Cfg) (progs : List (List Cmd)) (sched : List Nat)
    (tid q t : Nat) (th : Thread) (hth : (run cfg (init progs) sched).threads[tid]? = some th)
    (hl : lab cfg (run cfg (init progs) sched).mem th = some (.acquire q t)) :
    1 ≤ absQueue (run cfg (init progs) sched) q t ∧
    absQueue (step cfg (run cfg (init progs) sched) tid) q t + 1 = absQueue (run cfg (init progs) sched) q t := by
  have h := pop_is_atomic_acquire_step cfg progs sched tid th hth
  rw [hl] at h
  refine ⟨h.1, ?_⟩
  have := h.2.2.2 q t
  simpa [abs, one] using this

/-- **failed_pop_changes_nothing** (interleaved form): a transition without a label — in
particular every transition of a pop that ends with NO_TASK: lock attempts, roll-backs, skipped
entries — is a stuttering step of the abstract specification; the only labelled transition inside
a pop leads to the removal of the entry (a pop that returns a task). -/
theorem failed_pop_is_stutter (cfg : Cfg) (progs : List (List Cmd)) (sched : List Nat)
    (tid : Nat) (th : Thread) (hth : (run cfg (init progs) sched).threads[tid]? = some th) :
    (lab cfg (run cfg (init progs) sched).mem th = none →
      Same (abs cfg (run cfg (init progs) sched)) (abs cfg (step cfg (run cfg (init progs) sched) tid))) ∧
    (∀ q t, lab cfg (run cfg (init progs) sched).mem th = some (.acquire q t) →
      ∃ j, (exec cfg (run cfg (init progs) sched).mem th).2.pc = .popRemove q j t) := by
  refine ⟨fun hn => ?_, fun q t h => ?_⟩
  · have h := pop_is_atomic_acquire_step cfg progs sched tid th hth
    rw [hn] at h
    exact h
  · obtain ⟨i, -, -, he⟩ := lab_acquire_cases cfg _ th q t h
    exact ⟨i - 1, by rw [he]; rfl⟩

/-- **failed_pop_changes_nothing** (memory form): a `get_task` / `try_get_task` that finds the
queue lock free and is not interfered with terminates, and if it returns NO_TASK, every lock
flag, the content of every queue and the caller's own locks and tasks are exactly as it found
them (each failed two-lock attempt was rolled back). -/
theorem failed_pop_changes_nothing (cfg : Cfg) (s : State) (tid q : Nat) (b : Bool) (th : Thread)
    (hth : s.threads[tid]? = some th) (hpc : th.pc = .popLock q b)
    (hfree : s.mem.locks (.queue q) = false) :
    Solo cfg tid s (fun s' => ∃ th' r, s'.threads[tid]? = some th' ∧ th'.pc = .idle ∧
      th'.res = .popped q r :: th.res ∧
      (r = none → (∀ L, s'.mem.locks L = s.mem.locks L) ∧ s'.mem.items = s.mem.items ∧
        th'.tasks = th.tasks ∧ th'.held = th.held)) := by
  obtain ⟨m', th', r, h, hpc', hres', hnone⟩ :=
    scan_reach cfg q _ (s.mem.lock (.queue q)) { th with pc := .popScan q (s.mem.items q).length } rfl (Nat.le_refl _)
  have h1 : Reach cfg (s.mem, th) (m'.unlock (.queue q), ret th' (.popped q r)) :=
    .sched (.popAcquire q b hfree) hpc <| .sched (.scanFromTop q) rfl <| h.trans <|
      .sched (.popRelease q r) hpc' (.of_eq rfl)
  refine h1.solo hth fun s' hm h' => ⟨_, r, h', rfl, by simp [ret, hres'], fun hr => ?_⟩
  obtain ⟨rfl, htasks, hheld, -⟩ := hnone hr
  refine ⟨fun L => ?_, by rw [hm]; rfl, htasks, hheld⟩
  -- the queue lock, taken at the start, is given back
  have := upd_upd_self s.mem.locks (.queue q) true
  rw [hfree] at this
  rw [hm]; exact congrFun this L

/-- non-vacuity: both queued tasks need lock 1, which is busy; task 1 also needs lock 0 (taken,
then rolled back): the pop returns NO_TASK and leaves everything as it was -/
example :
    let cfg : Cfg := { size := 1, cap := 200, deps := fun t => if t = 0 then (some 1, none) else (some 0, some 1) }
    let s : State := { mem := { items := fun _ => [0, 1], locks := fun L => L = .dep 1 },
                       threads := [{ pc := .popLock 0 true }] }
    let s' := run cfg s (List.replicate 13 0)
    s'.threads.map (·.res) = [[.popped 0 none]] ∧ s'.mem.items 0 = [0, 1] ∧
    (s'.mem.locks (.dep 0), s'.mem.locks (.dep 1), s'.mem.locks (.queue 0)) = (false, true, false) := by decide

/-- **hydro_counter**: threads whose calls put tasks into queues only through the initial loop
(`seed`) and the release of children (`release`), for every task graph (`cfg.children`,
`cfg.queueOf`), number of threads and schedule: `number_of_tasks` (plus the increments of the
initial loop that are still to come) is at least the number of queued tasks plus the number of
running tasks. -/
theorem hydro_counter (cfg : Cfg) (hq : ∀ c, cfg.queueOf c < cfg.nq) (progs : List (List Cmd))
    (hprog : ∀ p ∈ progs, ∀ c ∈ p, HydroCmd cfg c) (sched : List Nat) :
    let s := run cfg (init progs) sched
    (qlen s.mem cfg.nq : Int) + (sumT runCount s.threads : Int)
      ≤ s.mem.num + (sumT (fun th => debtSeed th.pc) s.threads : Int) :=
  hydro_counter_bound cfg _ (hydroInv_run cfg hq progs hprog sched)

/-- … hence, once the initial loop is over, **the counter is never 0 while a task is queued or
running**: if `number_of_tasks = 0` then every queue is empty and no thread holds a popped task
or is inside `unlock_dependency`. -/
theorem hydro_counter_zero (cfg : Cfg) (hq : ∀ c, cfg.queueOf c < cfg.nq) (progs : List (List Cmd))
    (hprog : ∀ p ∈ progs, ∀ c ∈ p, HydroCmd cfg c) (sched : List Nat)
    (hseed : ∀ th ∈ (run cfg (init progs) sched).threads, debtSeed th.pc = 0)
    (hzero : (run cfg (init progs) sched).mem.num = 0) :
    (∀ q, q < cfg.nq → (run cfg (init progs) sched).mem.items q = []) ∧
    (∀ th ∈ (run cfg (init progs) sched).threads, th.tasks = [] ∧ unlockingPC th.pc = 0) := by
  have h := hydro_counter cfg hq progs hprog sched
  simp only at h
  rw [sumT_eq_zero (fun th => debtSeed th.pc) _ hseed, hzero] at h
  have hq0 : qlen (run cfg (init progs) sched).mem cfg.nq = 0 := by omega
  have hr0 : sumT runCount (run cfg (init progs) sched).threads = 0 := by omega
  refine ⟨fun q hqlt => ?_, fun th hth => ?_⟩
  · have := le_sumN (fun q => ((run cfg (init progs) sched).mem.items q).length) cfg.nq q hqlt
    unfold qlen at hq0
    exact List.length_eq_zero_iff.mp (by omega)
  · have := eq_zero_of_sumT _ hr0 th hth
    unfold runCount at this
    exact ⟨List.length_eq_zero_iff.mp (by omega), by omega⟩

/-- the exact accounting behind `hydro_counter` -/
theorem hydro_counter_exact (cfg : Cfg) (hq : ∀ c, cfg.queueOf c < cfg.nq) (progs : List (List Cmd))
    (hprog : ∀ p ∈ progs, ∀ c ∈ p, HydroCmd cfg c) (sched : List Nat) :
    let s := run cfg (init progs) sched
    s.mem.num + (sumT (fun th => debtSeed th.pc) s.threads : Int) + (sumT (fun th => debtRel th.pc) s.threads : Int)
      = (qlen s.mem cfg.nq : Int) + (sumT live s.threads : Int) :=
  (hydroInv_run cfg hq progs hprog sched).2

/-- non-vacuity (and the transient the task-level model does not see): parent 0 with children
1 and 2; thread 0 pops 0, releases child 1 (`add_task` done, `pre_increment` pending); thread 1 pops
child 1, finishes and retires it: `number_of_tasks` reads 0 although thread 0 still has child 2 to
release — no task is queued or running at that moment, as the theorem says. -/
example :
    let cfg : Cfg := { size := 1, cap := 200, deps := fun _ => (none, none),
                       children := fun t => if t = 0 then [1, 2] else [], nq := 1 }
    let s := run cfg (init [[.setUnf 1 1, .setUnf 2 1, .seed 0 0, .getTask 0, .unlockTask 0, .release],
                            [.getTask 0, .unlockTask 0, .release]])
      (List.replicate 23 0 ++ List.replicate 11 1)
    s.mem.num = 0 ∧ s.mem.items 0 = [] ∧ s.threads.map (·.tasks) = [[], []] ∧
    (s.threads.map (·.pc)).head? = some (.numInc 0 1 (.rel 0 [2])) := by decide

/-- **max_monotone**: from ANY state, along ANY schedule of any number of threads, a cell that is
updated through `max` (and `_max_number_taken` of the slot pool) never decreases — in
particular a CAS that was beaten by a larger value does not write a smaller one over it. -/
theorem max_monotone (cfg : Cfg) (s : State) (sched : List Nat) (c : Nat) :
    s.mem.mx c ≤ (run cfg s sched).mem.mx c ∧ s.mem.maxTaken ≤ (run cfg s sched).mem.maxTaken :=
  run_mx_mono cfg c sched s

/-- **max_is_maximum**, general form with pending calls: in every reachable state the cell is at
most the maximum of the initial value 0 and all arguments of all `max` calls of all threads, and
every argument is either still pending (its call has not completed its successful
compare-exchange) or `≤` the cell. -/
theorem max_general (cfg : Cfg) (progs : List (List Cmd)) (sched : List Nat) (c : Nat) :
    let s := run cfg (init progs) sched
    s.mem.mx c ≤ lmax (allVals c progs) ∧
    ∀ v ∈ allVals c progs,
      (∃ (k : Nat) (th : Thread), s.threads[k]? = some th ∧ v ∈ pendVals c th) ∨ v ≤ s.mem.mx c := by
  refine ⟨(run_inv cfg (MaxUB c _) (maxUB_step cfg c _) _ sched (maxUB_init c progs)).1, ?_⟩
  intro v hv
  exact run_inv cfg (MaxLB c v) (maxLB_step cfg c v) _ sched
    (Or.inl (mem_allVals c progs v hv))

/-- **max_is_maximum**: once all calls have completed, the cell holds exactly
max(initial value, v₁, …, vₙ), whatever the interleaving of the loads and compare-exchanges. -/
theorem max_is_maximum (cfg : Cfg) (progs : List (List Cmd)) (sched : List Nat) (c : Nat)
    (hdone : ∀ th ∈ (run cfg (init progs) sched).threads, th.pc = .idle ∧ th.prog = []) :
    (run cfg (init progs) sched).mem.mx c = lmax (allVals c progs) := by
  obtain ⟨hub, hlb⟩ := max_general cfg progs sched c
  have hge : ∀ v ∈ allVals c progs, v ≤ (run cfg (init progs) sched).mem.mx c := by
    intro v hv
    rcases hlb v hv with ⟨k, th, hk, hp⟩ | h
    · obtain ⟨h1, h2⟩ := hdone th (List.mem_of_getElem? hk)
      simp [pendVals, h1, h2, pcMaxVal] at hp
    · exact h
  have h0 : (0 : Int) ≤ (run cfg (init progs) sched).mem.mx c := (max_monotone cfg (init progs) sched c).1
  exact Int.le_antisymm hub (lmax_le _ _ h0 hge)

/-- non-vacuity, the interleaving of the seeded defect: thread 0 loads 0 for `max(5)`, thread 1
completes `max(9)`, thread 0's compare-exchange fails, it reloads 9 and writes max(5,9) = 9 -/
example :
    let s := run { size := 1, cap := 200, deps := fun _ => (none, none) }
      (init [[.maxC 0 5], [.maxC 0 9]]) [0, 0, 1, 1, 1, 0, 0, 0]
    s.mem.mx 0 = 9 ∧ s.threads.all Thread.finished = true := by decide

/-! ## Class-level contract of `Task`: the dependency setters and `lock_dependency`

`setupDeps ops` = `_dependency[0..1]` of a fresh `Task` after the setter calls `ops`
(`Task::set_dependency`, `Task::set_extra_dependency` as they are in src/Task.hpp: the duplicate
check of `set_extra_dependency` compares with the first dependency *as it is at that moment*). -/

/-- first dependency first (the order every call site uses): the duplicate is dropped, the
resulting lock set is the set of declared resources -/
theorem setup_first_then_extra (a b : Nat) :
    setupDeps [.dep a] = (some a, none) ∧
    setupDeps [.dep a, .extra b] = (some a, if b = a then none else some b) ∧
    setupDeps [.dep a, .extra b] = mkDeps (some a) (some b) := by
  refine ⟨rfl, ?_, ?_⟩ <;> by_cases h : b = a <;> simp [setupDeps, applySet, mkDeps, h]

/-- the other order: nothing is dropped — with `a = b` the task declares the same lock twice;
`set_extra_dependency` alone leaves the first dependency null -/
theorem setup_extra_then_first (a b : Nat) :
    setupDeps [.extra b, .dep a] = (some a, some b) ∧ setupDeps [.extra b] = (none, some b) := by
  constructor <;> simp [setupDeps, applySet]

/-- for a task set up first-dependency-first, "can be locked" is exactly "all declared resources
are free" -/
theorem conforming_lockable_iff (cfg : Cfg) (locks : LockId → Bool) (t a b : Nat)
    (h : cfg.deps t = setupDeps [.dep a, .extra b]) :
    Lockable cfg locks t ↔ (locks (.dep a) = false ∧ locks (.dep b) = false) := by
  unfold Lockable
  rw [h, (setup_first_then_extra a b).2.1]
  by_cases hab : b = a
  · subst hab; simp
  · have : a ≠ b := fun e => hab e.symm
    simp [hab, this]

/-- **contract of set_dependency / set_extra_dependency + lock_dependency**: a fresh task gets the
resources `a` and `b` through the two setters in either order; all locks are free; the direct
`lock_dependency()` (nobody interferes) succeeds **iff** the first dependency was set first or the
two resources differ.  (`tryAll` is what `lock_dependency` returns: `lock_dependency_returns`.) -/
theorem task_setup_contract (cfg : Cfg) (t a b : Nat) (ops : List SetOp)
    (hops : ops = [.dep a, .extra b] ∨ ops = [.extra b, .dep a]) (h : cfg.deps t = setupDeps ops) :
    tryAll cfg (fun _ => false) t = true ↔ (ops = [.dep a, .extra b] ∨ a ≠ b) := by
  rcases hops with rfl | rfl
  · rw [tryAll, h, (setup_first_then_extra a b).2.1]
    by_cases hab : b = a <;> simp [hab, upd_apply]
  · rw [tryAll, h, (setup_extra_then_first a b).1]
    by_cases hab : a = b
    · subst hab; simp
    · have : ¬ b = a := fun e => hab e.symm
      simp [hab, this, upd_apply]

/-- what the direct call does, in full (sequential semantics of `Task::lock_dependency`) -/
theorem lock_dependency_returns (cfg : Cfg) (s : State) (tid t : Nat) (th : Thread)
    (hth : s.threads[tid]? = some th) (hpc : th.pc = .tlStart .alone t) :
    Solo cfg tid s (fun s' => ∃ th', s'.threads[tid]? = some th' ∧ th'.pc = .idle ∧
      th'.res = .taskLocked t (tryAll cfg s.mem.locks t) :: th.res ∧
      (∀ L, s'.mem.locks L = if tryAll cfg s.mem.locks t then lockedBy cfg s.mem.locks t L else s.mem.locks L) ∧
      th'.tasks = if tryAll cfg s.mem.locks t then t :: th.tasks else th.tasks) := by
  refine (lockDep_reach cfg s.mem th .alone t hpc).solo hth fun s' hm h' => ⟨_, h', ?_⟩
  rw [hm]
  cases tryAll cfg s.mem.locks t <;> exact ⟨rfl, rfl, fun L => rfl, rfl⟩

/-- **a task that declares the same lock twice is never handed out** — by no pop and no direct
`lock_dependency`, for every number of threads and every schedule, also when nobody holds its
resource: the clause "when none of its resources is held by anyone the task can be handed out"
fails for `set_extra_dependency(x); set_dependency(x)` (the order of seeded change C08r4b; no call
site of the unchanged tree uses it). -/
theorem duplicate_never_handed_out (cfg : Cfg) (progs : List (List Cmd)) (sched : List Nat) (t a : Nat)
    (hd : cfg.deps t = (some a, some a)) : t ∉ running cfg (run cfg (init progs) sched) := by
  intro hmem
  obtain ⟨th, hth, ht⟩ := List.mem_flatMap.mp hmem
  have h1 : depsHold cfg t (.dep a) ≤ runHold cfg (.dep a) th := depsHold_le_tasksHold cfg _ t (.dep a) ht
  have h2 := le_sumT_mem (runHold cfg (.dep a)) hth
  have h3 := (running_holds_locks cfg progs sched (.dep a)).1
  have h4 : depsHold cfg t (.dep a) = 2 := by simp [depsHold, hd, ind]
  omega

/-- `set_extra_dependency` without a first dependency: `lock_dependency` returns true and locks
nothing — the declared resource is not held (second candidate; no call site does this) -/
theorem extra_only_locks_nothing (cfg : Cfg) (locks : LockId → Bool) (t b : Nat)
    (h : cfg.deps t = setupDeps [.extra b]) :
    tryAll cfg locks t = true ∧ lockedBy cfg locks t = locks ∧ lockset cfg t = [] := by
  rw [(setup_extra_then_first 0 b).2] at h
  simp [tryAll, lockedBy, lockset, h]

/-- non-vacuity: `set_extra_dependency(0); set_dependency(0)`, lock 0 free, `lock_dependency`
takes lock 0, fails on the second attempt for the same lock, rolls back and returns false -/
example :
    let cfg : Cfg := { size := 1, cap := 200, deps := fun _ => setupDeps [.extra 0, .dep 0] }
    let s := run cfg (init [[.lockTask 0]]) (List.replicate 5 0)
    s.threads.map (·.res) = [[.taskLocked 0 false]] ∧ s.mem.locks (.dep 0) = false ∧
    (let cfg' : Cfg := { size := 1, cap := 200, deps := fun _ => setupDeps [.dep 0, .extra 0] }
     (run cfg' (init [[.lockTask 0]]) (List.replicate 3 0)).threads.map (·.res) = [[.taskLocked 0 true]]) := by
  decide

/-! ## Maintenance calls of ThreadSafeVector between parallel phases

`clear`, `clear_fast` (= `MemorySpace::reset`), `clear_after`, `get_free_elements` are "not meant to
be thread safe": they are modelled as operations on a *quiescent* state (`Model/AtomicsMaint.lean`:
every thread idle — the premise), not as transitions of a thread.  `PhaseReach` = everything that
can be reached by parallel phases (any programs, any schedule) separated by maintenance calls that
respect the premises stated in the source. -/

inductive PhaseReach (cfg : Cfg) : State → Prop where
  | init (progs : List (List Cmd)) : PhaseReach cfg (init progs)
  | run {s : State} (sched : List Nat) : PhaseReach cfg s → PhaseReach cfg (run cfg s sched)
  | reload {s : State} (progs : List (List Cmd)) : PhaseReach cfg s → Quiescent s → PhaseReach cfg (reload s progs)
  | clear {s : State} : PhaseReach cfg s → Quiescent s → PhaseReach cfg (maint cfg s .clear)
  | clearFast {s : State} : PhaseReach cfg s → Quiescent s → PhaseReach cfg (maint cfg s .clearFast)
  | clearAfter {s : State} (k : Nat) : PhaseReach cfg s → Quiescent s → k ≤ cfg.size →
      (∀ i, i < k → s.mem.flags i = true) → PhaseReach cfg (maint cfg s (.clearAfter k))
  | getFreeElements {s : State} (tid n : Nat) (th : Thread) : PhaseReach cfg s → Quiescent s →
      FreshPool cfg s → n ≤ cfg.size → s.threads[tid]? = some th →
      PhaseReach cfg (maint cfg s (.getFreeElements tid n))

/-- the pool invariants (per-slot holders = flag, indices in range, count accounting) hold in
every state of every phase, after any history of phases and maintenance calls -/
theorem phase_poolInv (cfg : Cfg) (hs : 0 < cfg.size) (s : State) (h : PhaseReach cfg s) : PoolInv cfg s := by
  induction h with
  | init progs => exact poolInv_init cfg progs
  | run sched _ ih => exact poolInv_run_from cfg hs _ sched ih
  | reload progs _ _ ih => exact reload_poolInv cfg _ progs ih
  | clear _ hq ih => exact (clear_poolInv cfg _ hq ih).1
  | clearFast _ _ ih => exact clearFast_poolInv cfg _ ih
  | clearAfter k _ hq hk hpre ih => exact (clearAfter_poolInv cfg _ k hq ih hk hpre).1
  | getFreeElements tid n th _ hq hf hn hth ih => exact (getFreeElements_poolInv cfg _ tid n th hq hf ih hn hth).1

/-- **clear_restores_quiescent**: after ANY history, `clear()` applied between phases — whoever
still held slots — leaves every slot free, the count 0 (= number of set flags = number of slots
held), the cursor at 0, every buffer empty, the statistics reset. -/
theorem clear_restores_quiescent (cfg : Cfg) (hs : 0 < cfg.size) (s : State) (h : PhaseReach cfg s)
    (hq : Quiescent s) :
    let s' := maint cfg s .clear
    FreshPool cfg s' ∧ s'.mem.taken = (cnt s'.mem.flags cfg.size : Int) ∧
    s'.mem.taken = (sumT (fun th => th.owned.length) s'.threads : Int) ∧
    s'.mem.maxTaken = 0 ∧ (∀ i, i < cfg.size → s'.mem.count i = 0) := by
  obtain ⟨hp, hf, hq', hm, hc⟩ := clear_poolInv cfg s hq (phase_poolInv cfg hs s h)
  refine ⟨hf, ?_, taken_eq_owned cfg _ hp hq', hm, hc⟩
  rw [hf.2.1, cnt_zero _ _ hf.1]; rfl

/-- the same for `clear_after(k)` (premise of the source: the first `k` slots are in use) and
`get_free_elements(n)` (on an empty pool): count = number of set flags = `k` resp. `n` -/
theorem clear_after_restores_quiescent (cfg : Cfg) (hs : 0 < cfg.size) (s : State) (h : PhaseReach cfg s)
    (hq : Quiescent s) (k : Nat) (hk : k ≤ cfg.size) (hpre : ∀ i, i < k → s.mem.flags i = true) :
    let s' := maint cfg s (.clearAfter k)
    s'.mem.taken = k ∧ (∀ i, s'.mem.flags i = decide (i < k)) ∧
    s'.mem.taken = (sumT (fun th => th.owned.length) s'.threads : Int) := by
  obtain ⟨hp, hq', ht, hfl⟩ := clearAfter_poolInv cfg s k hq (phase_poolInv cfg hs s h) hk hpre
  exact ⟨ht, hfl, taken_eq_owned cfg _ hp hq'⟩

/-- **clear_fast_requires_all_released**: `clear_fast()` resets cursor and statistics only.  It
leaves the pool empty **iff** nothing was held (`_number_taken = 0`, the assertion the source
compiles out); a slot that is still flagged stays flagged — if its holder has dropped the index
(task-plot keeps tasks) it is leaked. -/
theorem clear_fast_requires_all_released (cfg : Cfg) (hs : 0 < cfg.size) (s : State) (h : PhaseReach cfg s)
    (hq : Quiescent s) :
    (FreshPool cfg (maint cfg s .clearFast) ↔ s.mem.taken = 0) ∧
    (∀ i, s.mem.flags i = true → (maint cfg s .clearFast).mem.flags i = true) ∧
    (maint cfg s .clearFast).mem.taken = s.mem.taken :=
  ⟨clearFast_fresh_iff cfg s hq (phase_poolInv cfg hs s h), fun _ hi => hi, rfl⟩

/-- **pool_reusable_after_clear**: after `clear()` the pool is as after construction, and in the
next phase — any programs, any schedule — all pool invariants hold again (so `slot_unique`,
`count_general`, `quiescent_count` apply verbatim); a `get_free_element_safe` passes its check and
the search loop finds slot 0 at once. -/
theorem pool_reusable_after_clear (cfg : Cfg) (hs : 0 < cfg.size) (s : State) (h : PhaseReach cfg s)
    (hq : Quiescent s) (progs : List (List Cmd)) (sched : List Nat) :
    let s1 := reload (maint cfg s .clear) progs
    FreshPool cfg (maint cfg s .clear) ∧ PoolInv cfg (run cfg s1 sched) ∧
    (∀ i, sumT (holdS i) (run cfg s1 sched).threads = ((run cfg s1 sched).mem.flags i).toNat) ∧
    s1.mem.taken < (cfg.size : Int) ∧ s1.mem.flags (s1.mem.cur % cfg.size) = false := by
  obtain ⟨-, hf, hq', -, -⟩ := clear_poolInv cfg s hq (phase_poolInv cfg hs s h)
  have ⟨hfl, htaken, hcur, _⟩ := hf
  have hp := phase_poolInv cfg hs _ (.run sched (.reload progs (.clear h hq) hq'))
  refine ⟨hf, hp, hp.slot, ?_, ?_⟩
  · show (maint cfg s .clear).mem.taken < _
    rw [htaken]; omega
  · show (maint cfg s .clear).mem.flags ((maint cfg s .clear).mem.cur % cfg.size) = false
    rw [hcur]
    exact hfl _ (by simp [Nat.zero_mod]; exact hs)

/-- non-vacuity (the history of seeded change C08r5b): a pool of 2; the thread takes both slots
and keeps them; `clear()`; next phase: it can fill the pool to capacity again, the third request
reports "full" (returns the size), the count is 2 -/
example :
    let cfg : Cfg := { size := 2, cap := 200, deps := fun _ => (none, none) }
    let s := run cfg (init [[.getSafe, .getSafe]]) (List.replicate 16 0)
    let s' := run cfg (reload (maint cfg s .clear) [[.getSafe, .getSafe, .getSafe, .numActive]]) (List.replicate 22 0)
    s.mem.taken = 2 ∧ s.threads.map (·.owned) = [[1, 0]] ∧ s.threads.all Thread.finished = true ∧
    (maint cfg s .clear).mem.taken = 0 ∧
    s'.threads.map (·.owned) = [[1, 0]] ∧ (s'.threads.map (·.res.take 4)) = [[.active 2, .slot 2, .slot 1, .slot 0]] := by
  decide

end CMacVerif.Atomics
